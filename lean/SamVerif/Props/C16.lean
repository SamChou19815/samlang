import SamVerif.Lemmas.Differ
import SamVerif.Lemmas.DifferText
/-!
# C16 — Text edits proposed by the language server apply cleanly

Property theorems (the lemmas are in `Lemmas/Differ.lean` and `Lemmas/DifferText.lean`).  The models are
`Model/DifferText.lean` (the text level: offsets, lines, edits applied to a document) and
`Model/Differ.lean` — the list differ of `crates/samlang-services/src/ast_differ.rs` that computes
every edit of an auto-import quick fix / completion item; it is tied to the code by the `diff`
correspondence protocol (`harness/src/bin/c16.rs` through hook `verif_hooks_c16::list_diff` vs
`Driver/C16.lean`), exact script equality.

All statements are for arbitrary element types with decidable equality and for lists of any
length; no bound on sizes or steps; fuel appears only where it is the explicit subject and
`longestTrace_total` / `diff_total_correct` remove it.
-/
namespace SamVerif.Differ
variable {α : Type} [DecidableEq α]
set_option linter.unusedSectionVars false

/-- **The breadth-first search only returns valid traces**: whatever `longest_trace` returns (for any
amount of fuel, i.e. after any number of rounds of the Rust `loop`) is a strictly increasing
sequence of in-bounds match points `old[x] = new[y]`. -/
theorem trace_valid (fuel : Nat) (old new : List α) (tr : Trace)
    (h : longestTrace fuel old new = some tr) : ValidTrace old new tr := by
  unfold longestTrace at h
  refine bfs_valid old new fuel _ _ ?_ tr h
  intro e he
  simp only [List.mem_singleton] at he
  subst he
  exact followSnake_rvalid old new 0 0 [] trivial

/-- **The search terminates**: the breadth-first search of `longest_trace` reaches `(n, m)` within
`n + m + 2` rounds for all lists (completeness of the BFS: while `(n, m)` is unvisited some frontier
node inside the rectangle has an unvisited successor that is strictly closer to `(n, m)`).  So the
Rust `loop` (which has no bound and no empty-frontier exit) always returns. -/
theorem longestTrace_total (old new : List α) :
    ∃ tr, longestTrace (defaultFuel old new) old new = some tr := by
  unfold longestTrace
  apply bfs_total old new
  -- `BInv` of the first table: its only key, the end of the first snake, is the frontier
  · refine ⟨by simp [hasKey], ?_⟩
    intro p hp _ _ hnf
    obtain ⟨t, ht⟩ := hp
    simp only [List.mem_singleton, Prod.mk.injEq] at ht
    exact absurd (by simp [ht.1]) hnf
  -- that key lies inside the rectangle, and no rank exceeds `n + m`
  · refine ⟨((followSnake old new 0 0 []).1, (followSnake old new 0 0 []).2.1),
      ⟨(followSnake old new 0 0 []).2.2, by simp⟩, ?_, ?_⟩
    · have := followSnake_bounds old new 0 0 []
      exact ⟨this.2.2.1 (Nat.zero_le _), this.2.2.2 (Nat.zero_le _)⟩
    · exact Nat.lt_succ_of_le (Nat.le_succ_of_le (Nat.add_le_add (Nat.sub_le _ _) (Nat.sub_le _ _)))

/-- non-vacuity: the hypothesis of `trace_valid` is satisfiable (by `longestTrace_total`, with the
default fuel always) -/
example : longestTrace 2 [7] [7, 8] = some [(0, 0)] := longestTrace_append_one [7] 8 0

/-- For all lists `diff` returns `computeWith` of a valid trace: the step with which the fuel-free theorems
start. -/
theorem diff_total (old new : List α) :
    ∃ tr, ValidTrace old new tr ∧ diff old new = some (computeWith old new tr) := by
  obtain ⟨tr, htr⟩ := longestTrace_total old new
  exact ⟨tr, trace_valid _ old new tr htr, by rw [diff, compute, htr]; rfl⟩

/-- **Script correctness** for *any* valid trace (not only the one the search finds): deletes of the
trace complement, inserts between trace points, sorting and insert+delete fusion together produce a
script that turns `old` into `new` — empty lists, duplicates, full replacement included. -/
theorem script_correct (old new : List α) (tr : Trace) (hv : ValidTrace old new tr) :
    applyScript old (computeWith old new tr) = new := by
  rw [computeWith_eq hv]
  exact segs_apply old new tr 0 0 0 hv (Nat.zero_le _) (Nat.zero_le _) (Nat.le_refl _)

/-- non-vacuity: valid traces exist, also non-trivial ones and the empty one (full replacement) -/
example : ValidTrace [1, 3, 4, 5] [1, 2, 3, 5] [(0, 0), (1, 2), (3, 3)] :=
  ⟨by decide, by decide, ⟨1, rfl, rfl⟩, by decide, by decide, ⟨3, rfl, rfl⟩, by decide, by decide, ⟨5, rfl, rfl⟩,
    trivial⟩
example : applyScript [1, 2] (computeWith [1, 2] [3, 4, 5] []) = [3, 4, 5] :=
  script_correct _ _ _ (by simp [ValidTrace, ValidFrom])

/-- **End to end**: whenever `list_differ::compute` returns, its script applied to `old` is `new`. -/
theorem diff_correct (fuel : Nat) (old new : List α) (s : Script α)
    (h : compute fuel old new = some s) : applyScript old s = new := by
  obtain ⟨tr, ht, rfl⟩ := Option.map_eq_some_iff.mp h
  exact script_correct old new tr (trace_valid fuel old new tr ht)

example : ∃ s, compute 2 [7] [7, 8] = some s :=
  ⟨_, congrArg (Option.map _) (longestTrace_append_one [7] 8 0)⟩

/-- **Fuel-free end-to-end statement**: for all lists `list_differ::compute` returns a script, and
that script turns `old` into `new`. -/
theorem diff_total_correct (old new : List α) :
    ∃ s, diff old new = some s ∧ applyScript old s = new := by
  obtain ⟨tr, hv, hd⟩ := diff_total old new
  exact ⟨_, hd, script_correct old new tr hv⟩

/-- **No index panic in the fusion loop**: the sorted script never contains an empty insert, so
`items[0]` (ast_differ.rs:157) is in bounds. -/
theorem compute_no_panic (old new : List α) (tr : Trace) (hv : ValidTrace old new tr) :
    FuseOk ((presort old new tr).mergeSort cle) := by
  rw [sorted_eq_segs old new tr hv]
  intro p ld hmem
  rcases (mem_segs tr hv (Nat.zero_le _) (by decide) hmem).kind with ⟨_, _, hne, h⟩ | ⟨⟨_, h⟩, _⟩
  · cases h; exact hne rfl
  · cases h

example : FuseOk (α := Nat) [(0, .insert [1] false)] := by
  intro p ld h; simp at h

/-- **Positions are sorted**: in the final script positions strictly increase, except that the
`replace` of old element `p` may be followed by the `insert` behind `p` (the rest of a fused
insert).  In particular no old element is touched by two delete/replace changes and no position
receives two inserts. -/
theorem script_positions_sorted (old new : List α) (tr : Trace) (hv : ValidTrace old new tr) :
    (computeWith old new tr).Pairwise Before := by
  rw [computeWith_eq hv]
  exact fuse_pairwise _ (segs_pairwise tr hv (Nat.zero_le _) (by decide))

example : Before (α := Nat) (1, .replace 2 4) (1, .insert [5] true) := Or.inr ⟨rfl, ⟨_, _, rfl⟩, ⟨_, _, rfl⟩⟩

/-- **Edit ranges are ordered and never overlap** — for *every* layout of the old items in the
document (`st i ≤ en i ≤ st (i+1)`, arbitrary gaps: blank lines, comments), the text ranges that
`wrapped_list_diff` gives to the changes satisfy `end ≤ next start` for every pair, in script order.
Delete/replace ranges are ranges of old items and insert ranges are empty ranges at the end of an old
item (or at the start of the first), so all of them lie inside the span of the old items. -/
theorem edit_ranges_ordered (old new : List α) (tr : Trace) (hv : ValidTrace old new tr)
    (st en : Nat → Nat) (hmono : ∀ i j, i < j → en i ≤ st j) (hle : ∀ i, st i ≤ en i) :
    (computeWith old new tr).Pairwise
      (fun a b => (rangeOf st en a).2 ≤ (rangeOf st en b).1) := by
  rw [computeWith_eq hv]
  have hnn : NonNeg (fuse (segs old new (-1) 0 0 tr)) :=
    fuse_nonneg _ (segs_nonneg tr hv (Nat.zero_le _) (by decide))
  refine (fuse_pairwise _ (segs_pairwise tr hv (Nat.zero_le _) (by decide))).imp_of_mem ?_
  intro a b ha hb hab
  exact range_le_of_before st en hmono hle a b (hnn a ha) (hnn b hb) hab

/-- non-vacuity: a layout satisfying the hypotheses (item `i` occupies `[3i, 3i+2)`) -/
example : (∀ i j : Nat, i < j → 3 * i + 2 ≤ 3 * j) ∧ ∀ i : Nat, 3 * i ≤ 3 * i + 2 := by
  constructor <;> intros <;> omega

/-- **Positions are in bounds**: every change addresses an existing old element (`delete`/`replace`
at `0 ≤ p < n`) or a gap behind one / before the first (`insert` at `-1 ≤ p < n`). -/
theorem script_positions_in_bounds (old new : List α) (tr : Trace) (hv : ValidTrace old new tr) :
    ∀ e ∈ computeWith old new tr, -1 ≤ e.1 ∧ e.1 < Int.ofNat old.length ∧
      ((∀ it ld, e.2 ≠ Change.insert it ld) → 0 ≤ e.1) := by
  intro e he
  rw [computeWith_eq hv] at he
  have hseg := fun e' (he' : e' ∈ segs old new (-1) 0 0 tr) => mem_segs tr hv (Nat.zero_le _) (by decide) he'
  have hlow := fuse_pos (P := (-1 ≤ ·)) (fun e' he' => (hseg e' he').lo) e he
  have hup := fuse_lt (Int.ofNat old.length) _ (fun e' he' => (hseg e' he').hi) e he
  exact ⟨hlow, hup, fuse_nonneg _ (segs_nonneg tr hv (Nat.zero_le _) (by decide)) e he⟩

/-- Every range of the script lies between the boundary in front of the first old item and the
boundary behind the last one, and is not reversed (also for an empty old list). -/
theorem edit_offsets_in_bnd (old new : List α) (tr : Trace) (hv : ValidTrace old new tr)
    (st en : Nat → Nat) (hl : Lay st en) :
    ∀ e ∈ computeWith old new tr,
      bnd st en 0 ≤ (rangeOf st en e).1 ∧ (rangeOf st en e).1 ≤ (rangeOf st en e).2 ∧
        (rangeOf st en e).2 ≤ bnd st en old.length := by
  intro e he
  obtain ⟨_, h2, h3⟩ := script_positions_in_bounds old new tr hv e he
  exact rangeOf_inside hl e h2 h3

/-- **Edit ranges lie inside the span of the old items**: for a non-empty old list and every
monotone layout, each range is inside `[st 0, en (n-1)]` — from the start of the first old item to
the end of the last one (for an empty old list the only possible change is the insert at `-1`,
which the callers place at the document start / behind the last import). -/
theorem edit_ranges_inside (old new : List α) (tr : Trace) (hv : ValidTrace old new tr)
    (st en : Nat → Nat) (hmono : ∀ i j, i < j → en i ≤ st j) (hle : ∀ i, st i ≤ en i)
    (hne : 0 < old.length) :
    ∀ e ∈ computeWith old new tr,
      st 0 ≤ (rangeOf st en e).1 ∧ (rangeOf st en e).1 ≤ (rangeOf st en e).2 ∧
        (rangeOf st en e).2 ≤ en (old.length - 1) := by
  have hb : bnd st en old.length = en (old.length - 1) := if_neg (Nat.ne_of_gt hne)
  exact hb ▸ edit_offsets_in_bnd old new tr hv st en ⟨hle, hmono⟩

/-- **The auto-import shape** (`generate_auto_import_edits`, lib.rs:554-575, diffs `imports` against
`imports ++ [new import]`): the search finds the diagonal trace in two rounds and the whole script
is exactly one insert of `[x]` behind the last old element (`-1` = document start when there is no
import) — fuel-free, for every list and every `x`, also when `x` already occurs in `old`. -/
theorem diff_append_one (old : List α) (x : α) :
    diff old (old ++ [x]) = some [(Int.ofNat old.length - 1, Change.insert [x] false)] := by
  have htrace := longestTrace_append_one old x (old.length + (old ++ [x]).length)
  have hv := trace_valid _ _ _ _ htrace
  rw [diff, compute, defaultFuel, htrace, Option.map_some, computeWith_eq hv,
    show segs old (old ++ [x]) (-1) 0 0 _ = _ from segs_diag old x old.length 0 (Nat.zero_add _), fuse]

/-- **Nothing changed, nothing edited**: diffing a list against itself (the toplevel list of the
cloned AST in `generate_auto_import_edits`) gives the empty script — so the only edit of an auto-import
is the one import insert of `diff_append_one`. -/
theorem diff_self (l : List α) : diff l l = some [] := by
  have htrace := longestTrace_self l (l.length + l.length + 1)
  have hv := trace_valid _ _ _ _ htrace
  rw [diff, compute, defaultFuel, htrace, Option.map_some, computeWith_eq hv,
    segs_diag_self l l.length 0 (-1) rfl (Nat.zero_add _), fuse]

/-- The range of that single edit: the empty range at the end of the last import. -/
example (st en : Nat → Nat) (n : Nat) (x : Nat) (h : 0 < n) :
    rangeOf st en ((Int.ofNat n - 1 : Int), Change.insert [x] false) = (en (n - 1), en (n - 1)) := by
  rw [rangeOf_ins, bnd, if_neg (Nat.ne_of_gt h)]

/-! ## Text level (`Model/DifferText.lean`) -/

/-- **Lift of `script_correct` to text.**  Let the old items occupy the ranges `[st i, en i)` of the
document `doc` (any monotone layout: arbitrary gaps — blank lines, comments — between items) and let
the edits be what `wrapped_list_diff` + `Change::to_edit` make of the script (range `rangeOf`, text
`changeText`: a replace is the rendering of the new item, a delete is empty, an insert is the
renderings joined by "\n" with a leading "\n" when `leading_separator`).  Applying them in order gives
exactly the chunk sequence `expChunks`: the document up to the first old item verbatim, every gap
verbatim, every matched old item verbatim, every other new item as its rendering — and the item
chunks, read in order, are precisely the new list. -/
theorem text_lift (doc : Text) (st en : Nat → Nat) (hl : Lay st en) (rnd : α → Text)
    (old new : List α) (tr : Trace) (hv : ValidTrace old new tr) :
    applyTE 0 doc (toOffEdits st en rnd (computeWith old new tr))
        = dslice doc 0 (bnd st en 0) ++ flatChunks (expChunks doc st en rnd old new 0 0 tr) ∧
      (expChunks doc st en rnd old new 0 0 tr).filterMap (·.1) = new := by
  constructor
  · exact computeWith_yields doc st en hl rnd old new tr hv 0 (Nat.zero_le _)
  · simpa using items_expChunks doc st en rnd old new tr 0 0 hv

/-- non-vacuity: a layout (`[3i, 3i+2)`) exists -/
example : Lay (fun i => 3 * i) (fun i => 3 * i + 2) :=
  ⟨fun i => by omega, fun i j h => by omega⟩

/-- **The insertion-location rule** (`wrapped_list_diff`, ast_differ.rs:327-338): an insertion behind old
element `p` is the *zero-width* range at that element's end position — both ends are the element's end
`(line, column)`; an insertion before everything is the zero-width range at the first element's start.
`text_lift` needs exactly this: the chunk sequence keeps the whole of every untouched old element,
which a range starting on an earlier line of a multi-line element would cut. -/
theorem insert_range_is_element_end (locs : List (Pos × Pos)) (p : Int)
    (items : List α) (ld : Bool) :
    (0 ≤ p → rangeOfPos locs (p, Change.insert items ld) = (locStop locs p.toNat, locStop locs p.toNat)) ∧
    (p < 0 → rangeOfPos locs (p, Change.insert items ld) = (locStart locs 0, locStart locs 0)) := by
  constructor
  · intro h; have : ¬ p < 0 := by omega
    simp [rangeOfPos, this]
  · intro h; simp [rangeOfPos, h]

/-- Why line *and* column: for a two-line element `ab⏎cd` at `(0,0)–(1,2)`, inserting `X` behind it at the
rule's range `(1,2)–(1,2)` keeps the element; a range that only moved the column, `(0,2)–(1,2)`, deletes
its second line. -/
example : applyEdits [[97, 98], [99, 100]] [⟨(1, 2), (1, 2), [88]⟩] = [97, 98, 10, 99, 100, 88] := by decide
example : applyEdits [[97, 98], [99, 100]] [⟨(0, 2), (1, 2), [88]⟩] = [97, 98, 88] := by decide

/-- **Lines and the flat text agree**: splitting a text into lines and joining them with `\n` gives
the text back, so every text *is* a `Doc`. -/
theorem flatten_splitLines (t : Text) : flatten (splitLines t) = t := by
  -- case1: end of text; case2: a newline; case3: another byte in front of no line (impossible);
  -- case4: another byte, joined to the first line `l` of the rest
  fun_induction splitLines t with
  | case1 => rfl
  | case2 t ih =>
    obtain ⟨l, ls, hs⟩ := List.exists_cons_of_ne_nil (splitLines_ne_nil t)
    rw [hs, flatten_cons_cons, ← hs, ih]
    rfl
  | case3 b t hb hs ih => exact absurd hs (splitLines_ne_nil t)
  | case4 b t hb l ls hs ih =>
    rw [hs] at ih
    cases ls with
    | nil => exact congrArg (b :: ·) ih
    | cons l2 ls2 =>
      rw [flatten_cons_cons] at ih ⊢
      exact congrArg (b :: ·) ih

/-- **`off` addresses lines**: for every document and every existing line `l`, the bytes of the flat
text at offsets `[off (l,0), off (l,0) + |line l|)` are exactly line `l`, columns add to the offset, and
the line lies inside the text — so `(line, col)` positions with `col ≤ |line l|` mean what LSP says. -/
theorem off_line (doc : Doc) (l : Nat) (hl : l < doc.length) (c : Nat) :
    ((flatten doc).drop (off doc (l, 0))).take doc[l].length = doc[l] ∧
      off doc (l, c) = off doc (l, 0) + c ∧
      off doc (l, 0) + doc[l].length ≤ (flatten doc).length := by
  suffices h : ((flatten doc).drop (off doc (l, 0))).take doc[l].length = doc[l] ∧
      off doc (l, 0) + doc[l].length ≤ (flatten doc).length from ⟨h.1, by simp [off], h.2⟩
  unfold flatten
  -- case1: no line; case2: one line; case3: line `a` in front of the lines `rest`
  fun_induction joinSep sepNL doc generalizing l with
  | case1 => simp at hl
  | case2 t =>
    obtain rfl : l = 0 := Nat.lt_one_iff.mp hl
    simp [off]
  | case3 a rest _ ih =>
    cases l with
    | zero => simp [off]
    | succ l =>
      obtain ⟨h1, h2⟩ := ih l (Nat.lt_of_succ_lt_succ hl)
      have hlen : (a ++ sepNL).length = a.length + 1 := List.length_append
      have hd : (a ++ sepNL ++ joinSep sepNL rest).drop (a.length + 1 + off rest (l, 0)) =
          (joinSep sepNL rest).drop (off rest (l, 0)) := by
        rw [← hlen, ← List.drop_drop, List.drop_left']
        rfl
      rw [off_succ, List.getElem_cons_succ, hd, List.length_append, hlen, Nat.add_assoc (a.length + 1)]
      exact ⟨h1, Nat.add_le_add_left h2 _⟩

example : off [[1, 2], [3]] (1, 1) = 4 := by decide

/-- **The same for a document given as lines with `(line, column)` edits**, fuel-free: for all item
lists the differ returns a script, and applying the `(line, col)` edits of `importEdits`
(`wrapped_list_diff` + `to_edit` for the import list) to the document yields the expected chunk
sequence whose items are the new list. Layout hypothesis: the offsets of the item locations are
monotone. -/
theorem import_edits_text (doc : Doc) (locs : List (Pos × Pos)) (rnd : α → Text) (old new : List α)
    (hl : Lay (fun i => off doc (locStart locs i)) (fun i => off doc (locStop locs i))) :
    ∃ s tr, diff old new = some s ∧
      applyEdits doc (importEdits locs rnd s) =
        dslice (flatten doc) 0 (off doc (locStart locs 0)) ++
          flatChunks (expChunks (flatten doc) (fun i => off doc (locStart locs i))
            (fun i => off doc (locStop locs i)) rnd old new 0 0 tr) ∧
      (expChunks (flatten doc) (fun i => off doc (locStart locs i))
        (fun i => off doc (locStop locs i)) rnd old new 0 0 tr).filterMap (·.1) = new := by
  obtain ⟨tr, hv, hd⟩ := diff_total old new
  refine ⟨_, tr, hd, ?_⟩
  have := text_lift (flatten doc) _ _ hl rnd old new tr hv
  unfold applyEdits
  rw [importEdits_off]
  exact this

/-- **Auto-import as text** (`generate_auto_import_edits`, lib.rs:554-590): for every import list, every
layout and every new import `x`, the quick fix / completion edit applied to the document gives the
document with "\n" + the rendered import inserted right behind the last existing import — or, with
no import yet, the rendered import in front of the document.  Nothing else changes. -/
theorem auto_import_text (doc : Doc) (locs : List (Pos × Pos)) (rnd : α → Text) (old : List α) (x : α) :
    ∃ eds, autoImportEdits locs rnd old x = some eds ∧
      applyEdits doc eds =
        if old = [] then (flatten doc).take (off doc (locStart locs 0)) ++ rnd x ++
            (flatten doc).drop (off doc (locStart locs 0))
        else (flatten doc).take (off doc (locStop locs (old.length - 1))) ++ sepNL ++ rnd x ++
            (flatten doc).drop (off doc (locStop locs (old.length - 1))) := by
  unfold autoImportEdits
  rw [diff_append_one]
  refine ⟨_, rfl, ?_⟩
  simp only [importEdits, List.map_cons, List.map_nil, rangeOfPos_ins]
  cases old with
  | nil => exact applyEdits_point doc _ _
  | cons a as =>
    simp only [List.length_cons, Nat.add_one_ne_zero, ↓reduceIte, List.isEmpty_cons, Bool.not_false,
      Bool.true_and, beq_self_eq_true, applyEdits_point, List.append_assoc]
    rfl

/-- With no import, `locStart [] 0 = (0, 0)` is the document start: the import is simply prepended. -/
example (doc : Doc) (rnd : Nat → Text) (x : Nat) :
    ∃ eds, autoImportEdits [] rnd [] x = some eds ∧ applyEdits doc eds = rnd x ++ flatten doc := by
  obtain ⟨eds, h1, h2⟩ := auto_import_text doc [] rnd [] x
  refine ⟨eds, h1, ?_⟩
  rw [h2]; simp [locStart, off]

/-- **Completion additional edits** (lib.rs:668-714): an item whose class name is already available in
the document (imported from any module, or declared in it) or that belongs to the root module carries
no edit — the document stays as it is; every other item carries exactly the auto-import edit, whose
effect on the text is that of `auto_import_text` (a new import line behind the last import, never a
change of an existing import — also when the module is already imported with other members). -/
theorem completion_edits_text {ν : Type} [DecidableEq ν] (doc : Doc) (locs : List (Pos × Pos))
    (rnd : α → Text) (imports : List α) (available : List ν) (isRoot : Bool) (n : ν) (x : α) :
    ∃ eds, completionAdditionalEdits locs rnd imports available isRoot n x = some eds ∧
      ((n ∈ available ∨ isRoot = true) → eds = [] ∧ applyEdits doc eds = flatten doc) ∧
      (¬ (n ∈ available ∨ isRoot = true) → autoImportEdits locs rnd imports x = some eds) := by
  have hc : (available.contains n || isRoot) = true ↔ n ∈ available ∨ isRoot = true := by
    rw [Bool.or_eq_true, List.contains_iff_mem]
  unfold completionAdditionalEdits
  by_cases h : n ∈ available ∨ isRoot = true
  · rw [if_pos (hc.mpr h)]
    exact ⟨[], rfl, fun _ => ⟨rfl, rfl⟩, fun hn => absurd h hn⟩
  · obtain ⟨eds, he, _⟩ := auto_import_text doc locs rnd imports x
    rw [if_neg (mt hc.mp h)]
    exact ⟨eds, he, fun hp => absurd hp h, fun _ => he⟩

/-- non-vacuity of both branches -/
example : completionAdditionalEdits (α := Nat) [] (fun _ => []) [] ["Foo"] false "Foo" 1 = some [] := by
  simp [completionAdditionalEdits]

/-- **Toplevel `Err` path** (ast_differ.rs:388-407): a module without toplevels that gets the toplevels
`new` — for every `new`, fuel-free, the edits insert the renderings joined by "\n" at the end of the
last old import (document start if there is none) and change nothing else. -/
theorem toplevel_err_text (doc : Doc) (locsI : List (Pos × Pos)) (rnd : α → Text) (new : List α) :
    ∃ s, diff [] new = some s ∧
      applyEdits doc (toplevelEdits locsI [] rnd s) =
        (flatten doc).take (off doc (if locsI.isEmpty then ((0, 0) : Pos) else locStop locsI (locsI.length - 1))) ++
          (flatChunks (insChunks rnd new false) ++
            (flatten doc).drop (off doc (if locsI.isEmpty then ((0, 0) : Pos) else locStop locsI (locsI.length - 1)))) := by
  obtain ⟨tr, hv, hd⟩ := diff_total [] new
  obtain rfl := validTrace_nil_old new tr hv
  refine ⟨_, hd, ?_⟩
  unfold applyEdits
  rw [toplevelEdits_off_empty, (text_lift (flatten doc) _ _ (Lay.const _) rnd [] new [] hv).1,
    expChunks, List.length_nil, segChunks, slice_length, flat_append, flat_cons]
  -- the trace is empty and the layout constant: the inserted chunks and the tail of the document remain.
  -- No chunk follows the tail; the boundaries `bnd … 0` of the constant layout are the offset itself and
  -- `dslice _ 0 o` is `take o`, both by unfolding
  rw [show flatChunks ([] : List (Chunk α)) = [] from rfl, List.append_nil]
  rfl

/-- With at least one old toplevel, toplevel changes are positioned exactly like import changes
(`compute_toplevel_diff` only ever produces a `Replace` of the whole toplevel), so `text_lift` /
`import_edits_text` apply verbatim to the toplevel list. -/
theorem toplevel_edits_eq (locsI locsT : List (Pos × Pos)) (hne : locsT ≠ []) (rnd : α → Text) (s : Script α) :
    toplevelEdits locsI locsT rnd s = importEdits locsT rnd s := by
  have : locsT.isEmpty = false := by cases locsT <;> simp_all
  simp [toplevelEdits, importEdits, rangeOfPosT, this]

/-- **Which errors yield a quick fix** (lib.rs:505-530): offered iff the error covers the request, the
class was looked up in the document itself and the candidate module declares the name; and then the
edits are the auto-import edits on the *document's own* import list, so `auto_import_text` describes
the edited document.  In particular a class imported from a module that does not export it
(`lookup ≠ docModule`) never gets a quick fix computed against another module's imports. -/
theorem code_action_offered_iff {μ : Type} [DecidableEq μ] (covers : Bool) (lookup docModule : μ)
    (declaresName : Bool) (doc : Doc) (docLocs : List (Pos × Pos)) (rnd : α → Text) (docImports : List α) (x : α) :
    (codeActionOffered covers lookup docModule declaresName = true ↔
      covers = true ∧ lookup = docModule ∧ declaresName = true) ∧
    (codeActionOffered covers lookup docModule declaresName = true →
      ∃ eds, codeActionEdits covers lookup docModule declaresName docLocs rnd docImports x = some eds ∧
        autoImportEdits docLocs rnd docImports x = some eds) ∧
    (codeActionOffered covers lookup docModule declaresName = false →
      codeActionEdits covers lookup docModule declaresName docLocs rnd docImports x = none) := by
  refine ⟨by simp [codeActionOffered, and_assoc], ?_, ?_⟩
  · intro h
    obtain ⟨eds, he, _⟩ := auto_import_text doc docLocs rnd docImports x
    exact ⟨eds, by simp [codeActionEdits, h, he], he⟩
  · intro h; simp [codeActionEdits, h]

example : codeActionOffered true "Doc" "Doc" true = true := by decide
example : codeActionOffered true "A" "Doc" true = false := by decide

/-- **Give-up path** (ast_differ.rs:367-371, 419-424): when the comment stores differ the only edit is
`Location::full_document` with the pretty-printed new module, and applying it to any document with
fewer than 2^32 lines yields exactly that text — nothing of the old document survives. -/
theorem full_document_edit_text {β : Type} (doc : Doc) (printedNew : Text) (locsI locsT : List (Pos × Pos))
    (rndI : α → Text) (rndT : β → Text) (sI : Script α) (sT : Script β) (hlen : doc.length ≤ 4294967295) :
    applyEdits doc (moduleDiffEdits false printedNew locsI locsT rndI rndT sI sT) = printedNew := by
  -- the one edit starts at offset 0 and stops at or behind the end of the text: nothing is copied in
  -- front of it (`take 0`) and nothing is left behind it (`drop` of at least the length)
  have h := flatten_length_le_off doc 4294967295 4294967295 hlen
  simp only [moduleDiffEdits, applyEdits, fullDocument, Bool.false_eq_true, ↓reduceIte, List.map_cons,
    List.map_nil, applyTE]
  have h0 : off doc (0, 0) = 0 := by simp [off]
  rw [h0]
  simp only [Nat.sub_zero, List.take_zero, List.nil_append]
  rw [List.drop_eq_nil_of_le h]
  simp

/-- The other branch of `moduleDiffEdits`: with equal comment stores the edits are those of `moduleEdits`
(`module_edits_text`, `module_diff_text`). -/
theorem module_diff_edits_equal_comments {β : Type} (printedNew : Text) (locsI locsT : List (Pos × Pos))
    (rndI : α → Text) (rndT : β → Text) (sI : Script α) (sT : Script β) :
    moduleDiffEdits true printedNew locsI locsT rndI rndT sI sT = moduleEdits locsI locsT rndI rndT sI sT := rfl

/-! ## The whole edit list of `compute_module_diff`: import edits followed by toplevel edits -/

/-- **The produced edit list satisfies the LSP requirement**: in the order `list_differ` emits them the
text edits have non-reversed ranges and each ends before (or where) the next one starts. -/
theorem edits_ordered (old new : List α) (tr : Trace) (hv : ValidTrace old new tr)
    (st en : Nat → Nat) (hl : Lay st en) (rnd : α → Text) :
    OrderedEdits (toOffEdits st en rnd (computeWith old new tr)) := by
  refine ⟨?_, ?_⟩
  · intro e he
    simp only [toOffEdits, List.mem_map] at he
    obtain ⟨ch, hch, rfl⟩ := he
    exact (edit_offsets_in_bnd old new tr hv st en hl ch hch).2.1
  · simp only [toOffEdits, List.pairwise_map]
    exact edit_ranges_ordered old new tr hv st en hl.mono hl.le

/-- **… also across the two lists**: the import edits followed by the toplevel edits (the order in which
`compute_module_diff` sends them) are ordered and non-overlapping, provided the imports precede the
toplevels in the document (`hsep`). -/
theorem module_edits_ordered {β : Type} [DecidableEq β]
    (oldI newI : List α) (trI : Trace) (hvI : ValidTrace oldI newI trI)
    (oldT newT : List β) (trT : Trace) (hvT : ValidTrace oldT newT trT)
    (stI enI stT enT : Nat → Nat) (hlI : Lay stI enI) (hlT : Lay stT enT)
    (hsep : bnd stI enI oldI.length ≤ bnd stT enT 0) (rndI : α → Text) (rndT : β → Text) :
    OrderedEdits (toOffEdits stI enI rndI (computeWith oldI newI trI) ++
      toOffEdits stT enT rndT (computeWith oldT newT trT)) := by
  obtain ⟨a1, a2⟩ := edits_ordered oldI newI trI hvI stI enI hlI rndI
  obtain ⟨b1, b2⟩ := edits_ordered oldT newT trT hvT stT enT hlT rndT
  refine ⟨fun e he => (List.mem_append.mp he).elim (a1 e) (b1 e), List.pairwise_append.mpr ⟨a2, b2, ?_⟩⟩
  intro x hx y hy
  simp only [toOffEdits, List.mem_map] at hx hy
  obtain ⟨cx, hcx, rfl⟩ := hx
  obtain ⟨cy, hcy, rfl⟩ := hy
  exact Nat.le_trans (edit_offsets_in_bnd oldI newI trI hvI stI enI hlI cx hcx).2.2
    (Nat.le_trans hsep (edit_offsets_in_bnd oldT newT trT hvT stT enT hlT cy hcy).1)

/-- **Composition**: applying the whole edit list of `compute_module_diff` — import edits, then toplevel
edits, in that order — to the old text gives: the document up to the first import, the import part
(`expChunksBody`: gaps and kept imports verbatim, new imports rendered), the text between the last old
import and the first old toplevel verbatim, and the toplevel part including the tail of the document;
the import items read in order are the new import list and the toplevel items the new toplevel list —
i.e. the text of the new module. -/
theorem module_edits_text {β : Type} [DecidableEq β] (doc : Text)
    (oldI newI : List α) (trI : Trace) (hvI : ValidTrace oldI newI trI)
    (oldT newT : List β) (trT : Trace) (hvT : ValidTrace oldT newT trT)
    (stI enI stT enT : Nat → Nat) (hlI : Lay stI enI) (hlT : Lay stT enT)
    (hsep : bnd stI enI oldI.length ≤ bnd stT enT 0) (rndI : α → Text) (rndT : β → Text) :
    applyTE 0 doc (toOffEdits stI enI rndI (computeWith oldI newI trI) ++
        toOffEdits stT enT rndT (computeWith oldT newT trT)) =
      dslice doc 0 (bnd stI enI 0) ++ flatChunks (expChunksBody doc stI enI rndI oldI newI 0 0 trI) ++
        dslice doc (bnd stI enI oldI.length) (bnd stT enT 0) ++
        flatChunks (expChunks doc stT enT rndT oldT newT 0 0 trT) ∧
      (expChunksBody doc stI enI rndI oldI newI 0 0 trI).filterMap (·.1) = newI ∧
      (expChunks doc stT enT rndT oldT newT 0 0 trT).filterMap (·.1) = newT := by
  refine ⟨?_, ?_, (text_lift doc stT enT hlT rndT oldT newT trT hvT).2⟩
  · -- the toplevel edits are what follows the import edits; the last import boundary lies in front of the
    -- first toplevel boundary
    have := ttrace_yields doc stI enI hlI rndI oldI newI _ _
      ((computeWith_yields doc stT enT hlT rndT oldT newT trT hvT).mono hsep) trI 0 0 hvI (Nat.zero_le _)
      0 (Nat.zero_le _)
    rw [computeWith_eq hvI]
    simpa [List.append_assoc] using this
  · have := (text_lift doc stI enI hlI rndI oldI newI trI hvI).2
    rw [expChunks_split] at this
    simpa using this

/-- **The same for a document of lines and the `(line, col)` edits of `moduleEdits`**, fuel-free, when the
old module has at least one toplevel: for all import and toplevel lists both diffs return, the edit
list is ordered as LSP requires, and applying it yields the text of the new module (`module_edits_text`). -/
theorem module_diff_text {β : Type} [DecidableEq β] (doc : Doc) (locsI locsT : List (Pos × Pos))
    (hT : locsT ≠ []) (rndI : α → Text) (rndT : β → Text)
    (oldI newI : List α) (oldT newT : List β)
    (hlI : Lay (fun i => off doc (locStart locsI i)) (fun i => off doc (locStop locsI i)))
    (hlT : Lay (fun i => off doc (locStart locsT i)) (fun i => off doc (locStop locsT i)))
    (hsep : bnd (fun i => off doc (locStart locsI i)) (fun i => off doc (locStop locsI i)) oldI.length ≤
      off doc (locStart locsT 0)) :
    ∃ sI sT trI trT, diff oldI newI = some sI ∧ diff oldT newT = some sT ∧
      OrderedEdits ((moduleEdits locsI locsT rndI rndT sI sT).map
        (fun ed => (off doc ed.start, off doc ed.stop, ed.text))) ∧
      applyEdits doc (moduleEdits locsI locsT rndI rndT sI sT) =
        dslice (flatten doc) 0 (off doc (locStart locsI 0)) ++
          flatChunks (expChunksBody (flatten doc) (fun i => off doc (locStart locsI i))
            (fun i => off doc (locStop locsI i)) rndI oldI newI 0 0 trI) ++
          dslice (flatten doc)
            (bnd (fun i => off doc (locStart locsI i)) (fun i => off doc (locStop locsI i)) oldI.length)
            (off doc (locStart locsT 0)) ++
          flatChunks (expChunks (flatten doc) (fun i => off doc (locStart locsT i))
            (fun i => off doc (locStop locsT i)) rndT oldT newT 0 0 trT) ∧
      (expChunksBody (flatten doc) (fun i => off doc (locStart locsI i))
        (fun i => off doc (locStop locsI i)) rndI oldI newI 0 0 trI).filterMap (·.1) = newI ∧
      (expChunks (flatten doc) (fun i => off doc (locStart locsT i))
        (fun i => off doc (locStop locsT i)) rndT oldT newT 0 0 trT).filterMap (·.1) = newT := by
  obtain ⟨trI, hvI, hdI⟩ := diff_total oldI newI
  obtain ⟨trT, hvT, hdT⟩ := diff_total oldT newT
  have hmap : (moduleEdits locsI locsT rndI rndT (computeWith oldI newI trI) (computeWith oldT newT trT)).map
      (fun ed => (off doc ed.start, off doc ed.stop, ed.text)) =
      toOffEdits (fun i => off doc (locStart locsI i)) (fun i => off doc (locStop locsI i)) rndI (computeWith oldI newI trI) ++
      toOffEdits (fun i => off doc (locStart locsT i)) (fun i => off doc (locStop locsT i)) rndT (computeWith oldT newT trT) := by
    simp only [moduleEdits, List.map_append, importEdits_off, toplevel_edits_eq locsI locsT hT]
  refine ⟨_, _, trI, trT, hdI, hdT, ?_, ?_⟩
  · rw [hmap]
    exact module_edits_ordered oldI newI trI hvI oldT newT trT hvT _ _ _ _ hlI hlT hsep rndI rndT
  · have := module_edits_text (flatten doc) oldI newI trI hvI oldT newT trT hvT _ _ _ _ hlI hlT hsep rndI rndT
    unfold applyEdits
    rw [hmap]
    exact this

end SamVerif.Differ
