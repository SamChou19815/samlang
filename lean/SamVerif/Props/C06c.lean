import SamVerif.Lemmas.ScopeNest
/-!
# C06 (continued) — a name used just outside the scope that binds it is reported unbound

Theorems over `Model/Scope.lean` (the model of `ssa_analysis.rs` shared with C13: the scope machine
`SsaLocalStackedContext::{push_scope, pop_scope, insert, get}` + `define_id`/`use_id`, tied to the
code by the `ssa` correspondence protocol of `harness/src/bin/c13.rs` / `Driver/C13.lean`, which
`vlib/c06.py` also runs on its own scope-exit programs).  The nesting tracker `depthAfter` and the
frame argument (`run_closed`, `scope_restores`) are in `Lemmas/ScopeNest.lean`.
-/
namespace SamVerif.Scope
variable {α : Type} [DecidableEq α]

theorem insertLocal_append (n : α) (l : Nat) (f : Scope α) (front rest : List (Scope α)) :
    insertLocal n l ((f :: front) ++ rest) = (insertKV n l f :: front) ++ rest := by
  simp [insertLocal]

theorem step_errors_mono (st : St α) (ev : Ev α) : ∀ e ∈ st.errors, e ∈ (step st ev).errors := by
  intro e he
  cases ev with
  | push => exact he
  | pop k l =>
    simp only [step]
    split
    · cases k <;> exact he
    · exact he
  | define n l => rw [step, defineId_eq]; exact List.mem_append_left _ he
  | use n l ft => simp only [step, useId]; split <;> simp [he]

theorem run_errors_mono (es : List (Ev α)) (st : St α) : ∀ e ∈ st.errors, e ∈ (run es st).errors := by
  induction es generalizing st with
  | nil => exact fun _ h => h
  | cons ev es ih => exact fun e h => ih (step st ev) e (step_errors_mono st ev e h)

/-- **Scope exit.** Whatever a scope defines is gone when the scope is popped: after
`push; body; pop`, with `body` opening and closing only its own scopes, the scope stack is exactly
what it was before. -/
theorem scope_exit_restores (st : St α) (body : List (Ev α)) (k : PopKind) (loc : Nat)
    (hne : st.locals ≠ []) (hc : st.captured.length = st.locals.length) (hb : WellNested body) :
    (run ([.push] ++ body ++ [.pop k loc]) st).locals = st.locals ∧
    (run ([.push] ++ body ++ [.pop k loc]) st).captured.length = st.locals.length ∧
    ∀ e ∈ st.errors, e ∈ (run ([.push] ++ body ++ [.pop k loc]) st).errors := by
  have h1 := scope_restores hb k loc hc
  exact ⟨h1, (run_wf hc _).trans (congrArg List.length h1), run_errors_mono _ st⟩

/-- After the scope that defined `x` has been popped, a use of `x`
is reported as "cannot resolve name" unless a scope that is still open binds `x`. -/
theorem use_after_pop_unresolved (st : St α) (body : List (Ev α)) (k : PopKind) (loc uloc : Nat)
    (x : α) (ft : Bool)
    (hne : st.locals ≠ []) (hc : st.captured.length = st.locals.length) (hb : WellNested body)
    (hout : lookupCtx x st.locals = none) :
    Err.cannotResolve uloc x ∈ (run ([.push] ++ body ++ [.pop k loc] ++ [.use x uloc ft]) st).errors := by
  rw [run_append]
  obtain ⟨h1, _, _⟩ := scope_exit_restores st body k loc hne hc hb
  simp only [run, List.foldl_cons, List.foldl_nil] at h1 ⊢
  simp only [step, useId]
  rw [h1, hout]
  simp

/-- …and conversely the use resolves exactly as it would have before the scope was entered. -/
theorem use_after_pop_resolves_outer (st : St α) (body : List (Ev α)) (k : PopKind) (loc uloc : Nat)
    (x : α) (ft : Bool) (r : Nat × Nat)
    (hne : st.locals ≠ []) (hc : st.captured.length = st.locals.length) (hb : WellNested body)
    (hout : lookupCtx x st.locals = some r) :
    (run ([.push] ++ body ++ [.pop k loc] ++ [.use x uloc ft]) st).errors =
      (run ([.push] ++ body ++ [.pop k loc]) st).errors := by
  rw [run_append]
  obtain ⟨h1, _, _⟩ := scope_exit_restores st body k loc hne hc hb
  simp only [run, List.foldl_cons, List.foldl_nil] at h1 ⊢
  simp only [step, useId]
  rw [h1, hout]

/-- Every expression / pattern / annotation traversal opens and closes only its own scopes. -/
theorem visit_wellNested (n : Node α) : WellNested (visit n) := visit_depth n 0

/-- Well-nested events leave a non-empty stack non-empty. -/
theorem run_keeps_stack (es : List (Ev α)) (st : St α) (hd : WellNested es)
    (hne : st.locals ≠ []) (hc : st.captured.length = st.locals.length) : (run es st).locals ≠ [] := by
  match hl : st.locals with
  | [] => exact absurd hl hne
  | top :: rest =>
    -- `top` is the frame of `Bal`: it stays on the stack
    obtain ⟨pre', s', h1, _⟩ := bal_of_depth hd st [] top rest hl rfl hc
    exact fun h => by rw [h] at h1; cases pre' <;> cases h1

/-- **if-let** (`visit_if_else`, ssa_analysis.rs:329-336): a name bound by the pattern of
`if let p = g { e1 } else { … }` and by no scope open around the `if` is reported unbound when it
is used in the else part. -/
theorem iflet_binding_not_in_else (st : St α) (p g e1 : Node α) (name : Option α) (loc uloc : Nat) (x : α)
    (hne : st.locals ≠ []) (hc : st.captured.length = st.locals.length)
    (hout : lookupCtx x (run (visit g) st).locals = none) :
    Err.cannotResolve uloc x ∈
      (run (visit (.mk .ifGuard name loc [p, g, e1, .mk .var (some x) uloc []])) st).errors := by
  rw [visit_ifGuard, show visit (.mk .var (some x) uloc []) = [.use x uloc false] from rfl,
    List.append_assoc, run_append]
  -- the statement of `use_after_pop_unresolved` asks for a non-empty stack
  exact use_after_pop_unresolved (run (visit g) st) (visit p ++ visit e1) .discard 0 uloc x false
    (run_keeps_stack (visit g) st (visit_depth g 0) hne hc) (run_wf hc _) (wellNested_visit_append p e1) hout

/-- **match arm / block / lambda**: a name bound inside a match case (its pattern), a block (its
`let`s) or a lambda (its parameters) and by no scope open around it is reported unbound when used
right after that construct. -/
theorem binding_not_visible_after (st : St α) (tag : Tag) (name : Option α) (loc uloc : Nat)
    (kids : List (Node α)) (x : α) (ft : Bool)
    (htag : (tag = .block) ∨ (tag = .lambda) ∨ (tag = .case ∧ ∃ p b, kids = [p, b]))
    (hne : st.locals ≠ []) (hc : st.captured.length = st.locals.length)
    (hout : lookupCtx x st.locals = none) :
    Err.cannotResolve uloc x ∈ (run (visit (.mk tag name loc kids) ++ [.use x uloc ft]) st).errors := by
  rcases htag with rfl | rfl | ⟨rfl, p, b, rfl⟩
  · rw [visit_block]
    exact use_after_pop_unresolved st (visitList kids) .scoped loc uloc x ft hne hc (visitList_depth kids 0) hout
  · rw [visit_lambda]
    exact use_after_pop_unresolved st (visitList kids) .lambda loc uloc x ft hne hc (visitList_depth kids 0) hout
  · rw [visit_case]
    exact use_after_pop_unresolved st (visit p ++ visit b) .scoped loc uloc x ft hne hc
      (wellNested_visit_append p b) hout

/-- **Rebinding is reported.** Defining a name that some open scope already binds adds a
"name already bound" error (unless this very definition site was already reported). -/
theorem rebind_reported (st : St α) (x : α) (loc prev : Nat)
    (hprev : previousDef x st.locals = some prev) (hnew : st.invalid.contains loc = false) :
    Err.alreadyBound loc x prev ∈ (step st (.define x loc)).errors := by
  simp only [step, defineId, hprev]
  split
  · rename_i h; rw [hnew] at h; cases h
  · simp

example : (run ([.define "v" 1, .push, .define "v" 2] : List (Ev String)) init).errors
    = [Err.alreadyBound 2 "v" 1] := by decide

-- the if-let shape of `visit_if_else` (ssa_analysis.rs:329-336): the pattern's bindings are not
-- visible in the else part
example : (run ([.push, .define "v" 1, .use "v" 2 false, .pop .discard 0, .use "v" 3 false] : List (Ev String)) init).errors
    = [Err.cannotResolve 3 "v"] := by decide

end SamVerif.Scope
