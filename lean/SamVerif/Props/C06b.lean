import SamVerif.Model.Gates
import SamVerif.Lemmas.Assign
/-!
# C06 (continued) — visibility, type-argument arity, interface conformance, bound validation

Property theorems about `Model/Gates.lean`. Tie: the `vis`, `tya`, `conf`, `bnd` streams of
`vlib/c06.py` run generated declarations through the real checker and compare its verdict with
these kernels (`Driver/C06.lean`).
-/
namespace SamVerif.Gates
open SamVerif.Assign

theorem classVisible_iff (cx : Ctx) (c : ClassRef) :
    classVisible cx c = true ↔ c.isPrivate = false ∨ c.modRef = cx.curMod := by
  rw [classVisible, Bool.or_eq_true, Bool.not_eq_true', beq_iff_eq]

theorem inSameClass_iff (cx : Ctx) (c : ClassRef) :
    inSameClass cx c = true ↔ cx.curMod = c.modRef ∧ c.id = cx.curClass := by
  rw [inSameClass, Bool.and_eq_true_iff, beq_iff_eq, beq_iff_eq]

/-- Exact rule of member resolution: the class is public or in the current module, the member is
declared, and it is public or we are inside that very class (same module *and* same name). -/
theorem member_resolved_iff (cx : Ctx) (c : ClassRef) (ms : List (Nat × Bool)) (n : Nat) :
    memberResolved cx c ms n = true ↔
      (c.isPrivate = false ∨ c.modRef = cx.curMod) ∧
      ∃ p, lookupMember ms n = some p ∧ (p = true ∨ (cx.curMod = c.modRef ∧ c.id = cx.curClass)) := by
  rw [← classVisible_iff, ← inSameClass_iff]
  -- 1 the class is visible and declares `n`; 2 visible, `n` not declared; 3 not visible
  fun_cases memberResolved cx c ms n with
  | case1 hv p hl => exact ⟨fun h => ⟨hv, p, hl, Bool.or_eq_true_iff.1 h⟩,
      fun ⟨_, _, hq, h⟩ => Option.some.inj (hl.symm.trans hq) ▸ Bool.or_eq_true_iff.2 h⟩
  | case2 _ hl => exact iff_of_false nofun fun ⟨_, _, h, _⟩ => nomatch hl.symm.trans h
  | case3 hv => exact iff_of_false nofun fun h => hv h.1

/-- A private method or function used from anywhere but its own class (another module, or another
class of the same module) is never resolved. -/
theorem private_member_never_resolved (cx : Ctx) (c : ClassRef) (ms : List (Nat × Bool)) (n : Nat)
    (hpriv : lookupMember ms n = some false)
    (hother : ¬ (cx.curMod = c.modRef ∧ cx.curClass = c.id)) :
    memberResolved cx c ms n = false := by
  refine Bool.eq_false_iff.2 fun h => ?_
  obtain ⟨_, p, hp, hor⟩ := (member_resolved_iff cx c ms n).1 h
  cases hpriv.symm.trans hp
  exact hor.elim nofun fun ⟨h1, h2⟩ => hother ⟨h1, h2.symm⟩

example : memberResolved ⟨1, 5⟩ ⟨2, 5, false⟩ [(7, false)] 7 = false := by decide
example : memberResolved ⟨2, 5⟩ ⟨2, 5, false⟩ [(7, false)] 7 = true := by decide

/-- Same rule for fields (as of fix d05f979; before it the module was not compared, finding C06-F3: a
class of another module bearing the same name could read the private fields). `fieldResolved` has
the body of `memberResolved`, so the proof is the same term. -/
theorem private_field_never_visible_outside_class (cx : Ctx) (c : ClassRef) (fs : List (Nat × Bool))
    (n : Nat) (hpriv : lookupMember fs n = some false)
    (hother : ¬ (cx.curMod = c.modRef ∧ cx.curClass = c.id)) :
    fieldResolved cx c fs n = false :=
  private_member_never_resolved cx c fs n hpriv hother

example : fieldResolved ⟨1, 5⟩ ⟨2, 5, false⟩ [(7, false)] 7 = false := by decide

/-- No member or field of a private class is resolved from another module, public or not. -/
theorem private_class_never_resolved (cx : Ctx) (c : ClassRef) (ms : List (Nat × Bool)) (n : Nat)
    (hp : c.isPrivate = true) (hm : c.modRef ≠ cx.curMod) :
    memberResolved cx c ms n = false ∧ fieldResolved cx c ms n = false := by
  have hv : ¬ classVisible cx c = true := by
    rw [classVisible_iff, hp]
    exact fun h => h.elim nofun hm
  exact ⟨if_neg hv, if_neg hv⟩

example : memberResolved ⟨1, 5⟩ ⟨2, 6, true⟩ [(7, true)] 7 = false := by decide

/-- Import gate: only existing, non-private toplevels can be imported. -/
theorem import_gate (e : Option Bool) : importOk e = true ↔ e = some false := by
  cases e with
  | none => simp [importOk]
  | some b => cases b <;> simp [importOk]

theorem tyArgsOk_iff_both (tab : ArityTable) :
    (∀ t, tyArgsOk tab t = true ↔
      ∀ node ∈ nominalNodes t, ∀ k, arityOf tab node.1 node.2.1 = some k → k = node.2.2) ∧
    (∀ ts, tyArgsOkL tab ts = true ↔
      ∀ node ∈ nominalNodesL ts, ∀ k, arityOf tab node.1 node.2.1 = some k → k = node.2.2) := by
  apply Ty.induct
  case any => exact fun _ => iff_of_true rfl fun _ h => nomatch h
  case prim => exact fun _ => iff_of_true rfl fun _ h => nomatch h
  case generic => exact fun _ => iff_of_true rfl fun _ h => nomatch h
  case nominal =>
    intro s m i ts ih
    rw [tyArgsOk, nominalNodes, Bool.and_eq_true_iff, ih, List.forall_mem_cons, and_comm]
    refine and_congr_left' ?_
    cases arityOf tab m i with
    | none => exact iff_of_true rfl fun _ h => nomatch h
    | some k => exact ⟨fun h _ hk => Option.some.inj hk ▸ eq_of_beq h, fun h => beq_iff_eq.2 (h k rfl)⟩
  case fn =>
    intro as r ihl ih
    rw [tyArgsOk, nominalNodes, Bool.and_eq_true_iff, ihl, ih, List.forall_mem_append]
  case nil => exact iff_of_true rfl fun _ h => nomatch h
  case cons =>
    intro t ts ih ihl
    rw [tyArgsOkL, nominalNodesL, Bool.and_eq_true_iff, ih, ihl, List.forall_mem_append]

theorem tyArgsOkL_iff (tab : ArityTable) : ∀ (ts : List Ty), tyArgsOkL tab ts = true ↔
    ∀ node ∈ nominalNodesL ts, ∀ k, arityOf tab node.1 node.2.1 = some k → k = node.2.2 :=
  (tyArgsOk_iff_both tab).2

/-- **Type-argument arity gate.** A type passes `validate_type_instantiation` without an arity
error iff *every* nominal node inside it, at any depth (type arguments, function parameter and
return types), carries exactly as many type arguments as its toplevel declares. -/
theorem tyarg_arity_gate (tab : ArityTable) (t : Ty) : tyArgsOk tab t = true ↔
    ∀ node ∈ nominalNodes t, ∀ k, arityOf tab node.1 node.2.1 = some k → k = node.2.2 :=
  (tyArgsOk_iff_both tab).1 t

example : tyArgsOk [((1, 2), 1)] (.fn [.nominal false 1 2 [.nominal false 1 2 []]] (.prim .int)) = false := by
  decide
example : tyArgsOk [((1, 2), 1)] (.nominal false 1 2 [.nominal false 1 2 [.prim .int]]) = true := by decide

/-- Explicit type arguments of a member access are accepted iff their count is the declared one. -/
theorem explicit_tyarg_gate (declared given : Nat) : explicitTyArgsOk declared given = true ↔ given = declared := by
  simp [explicitTyArgsOk]

/-- signatures that come from annotations: no `any`, no class statics -/
def annot (t : Ty) : Prop := anyFree t = true ∧ noStatics t = true

def annotBound : Option Ty → Prop
  | none => True
  | some t => annot t

def MSig.wf (s : MSig) : Prop := annot s.ty ∧ ∀ p ∈ s.tparams, annotBound p.2

theorem boundConforms_iff (e a : Option Ty) (he : annotBound e) (ha : annotBound a) :
    boundConforms e a = true ↔ e = a := by
  cases e with
  | none =>
    cases a with
    | none => exact iff_of_true rfl rfl
    | some y => exact iff_of_false nofun nofun
  | some x =>
    cases a with
    | none => exact iff_of_false nofun nofun
    | some y =>
      rw [boundConforms, sameType_iff_equal x y he.1 ha.1 he.2 ha.2, Option.some.injEq]

theorem tparams_conform_iff : ∀ (es as : List (Nat × Option Ty)),
    (∀ p ∈ es, annotBound p.2) → (∀ p ∈ as, annotBound p.2) →
    ((es.length == as.length && tparamsConform es as) = true ↔ es = as)
  | [], [], _, _ => by simp [tparamsConform]
  | [], _ :: _, _, _ => by simp
  | _ :: _, [], _, _ => by simp
  | e :: es, a :: as, he, ha => by
    rw [List.forall_mem_cons] at he ha
    have ih := tparams_conform_iff es as he.2 ha.2
    simp only [Bool.and_eq_true, beq_iff_eq] at ih
    -- both sides split into head and tail: names and bounds of the heads agree (`boundConforms_iff`), and the tails
    -- by `ih`; what remains is the order of the conjuncts (the length test stands in front of the head's)
    simp only [List.length_cons, tparamsConform, Bool.and_eq_true, beq_iff_eq, Nat.add_right_cancel_iff,
      boundConforms_iff e.2 a.2 he.1 ha.1, List.cons.injEq, Prod.ext_iff, ← ih]
    exact and_left_comm

/-- One declared method against one inherited signature: no diagnostic iff type parameters
(names and bounds) and the function type are identical. -/
theorem member_conforms_iff (e a : MSig) (he : e.wf) (ha : a.wf) :
    memberConforms e a = true ↔ e.tparams = a.tparams ∧ e.ty = a.ty := by
  rw [memberConforms, Bool.and_eq_true_iff, tparams_conform_iff e.tparams a.tparams he.2 ha.2,
    sameType_iff_equal e.ty a.ty he.1.1 ha.1.1 he.1.2 ha.1.2]

/-- **Interface conformance is exact.** A class passes iff every inherited member is declared, and
every declaration that bears an inherited name is public and has exactly the inherited type
parameters and function type. So a missing or mistyped member always produces a diagnostic. -/
theorem conformance_exact (expected declared : List MSig)
    (he : ∀ e ∈ expected, e.wf) (hd : ∀ a ∈ declared, a.wf) :
    classConforms expected declared = true ↔
      (∀ e ∈ expected, ∃ a ∈ declared, a.name = e.name) ∧
      (∀ a ∈ declared, ∀ e ∈ expected, e.name = a.name →
        a.isPublic = true ∧ e.tparams = a.tparams ∧ e.ty = a.ty) := by
  simp only [classConforms, Bool.and_eq_true, List.all_eq_true, List.any_eq_true, beq_iff_eq]
  -- the first conjuncts coincide; in the second, for each declared `a` and expected `e`, the code's
  -- "names differ ∨ (conforms ∧ public)" is the implication "names agree → public ∧ same signature"
  refine and_congr_right' (forall₂_congr fun a ha => forall₂_congr fun e hee => ?_)
  rw [Bool.or_eq_true, bne_iff_ne, Bool.and_eq_true_iff, member_conforms_iff e a (he e hee) (hd a ha)]
  exact ⟨fun h hn => and_comm.1 (h.resolve_left (not_not_intro hn)),
    fun h => (Decidable.em (e.name = a.name)).elim (fun hn => Or.inr (and_comm.1 (h hn))) Or.inl⟩

example : classConforms [⟨1, true, [], .fn [] (.prim .int)⟩] [] = false := by decide
example : classConforms [⟨1, true, [], .fn [] (.prim .int)⟩] [⟨1, true, [], .fn [] (.prim .bool)⟩] = false := by
  decide
example : classConforms [⟨1, true, [], .fn [] (.prim .int)⟩]
    [⟨1, true, [], .fn [] (.prim .int)⟩, ⟨2, false, [], .fn [] (.prim .bool)⟩] = true := by decide

theorem isSubtypeWith_iff (lower upper : Ty) (supers : List Ty) :
    isSubtypeWith lower supers upper = true ↔
      (∃ s m i ts, lower = .nominal s m i ts) ∧ ((lower :: supers).any fun s => sameType s upper) = true := by
  cases lower with
  | nominal s m i ts => exact ⟨fun h => ⟨⟨s, m, i, ts, rfl⟩, h⟩, fun h => h.2⟩
  | _ =>
    refine ⟨nofun, ?_⟩
    rintro ⟨⟨_, _, _, _, h⟩, _⟩
    cases h

/-- **Bound gate.** A type argument passes the bound `B` iff it is `B` itself or it is a nominal
type that has `B` among its (transitive, instantiated) super types. A class that does not
implement the bound is always reported. -/
theorem bound_gate (targ bound : Ty) (supers : List Ty)
    (ht : annot targ) (hb : annot bound) (hs : ∀ s ∈ supers, annot s) :
    boundOk targ supers bound = true ↔
      targ = bound ∨ ((∃ s m i ts, targ = .nominal s m i ts) ∧ bound ∈ supers) := by
  have hmem : (supers.any fun s => sameType s bound) = true ↔ bound ∈ supers := by
    rw [List.any_eq_true]
    constructor
    · rintro ⟨s, hs', hst⟩
      exact (sameType_iff_equal s bound (hs s hs').1 hb.1 (hs s hs').2 hb.2).1 hst ▸ hs'
    · exact fun h => ⟨bound, h, sameType_refl bound⟩
  rw [boundOk, Bool.or_eq_true, isSubtypeWith_iff, List.any_cons, Bool.or_eq_true, hmem,
    sameType_iff_equal targ bound ht.1 hb.1 ht.2 hb.2]
  -- left: `targ = bound ∨ (nominal ∧ (targ = bound ∨ bound ∈ supers))`: the inner `targ = bound` (the code
  -- also tests the type itself among its super types) is absorbed by the outer one
  exact ⟨fun h => h.elim Or.inl fun ⟨hn, h⟩ => h.elim Or.inl fun h => Or.inr ⟨hn, h⟩,
    fun h => h.elim Or.inl fun ⟨hn, h⟩ => Or.inr ⟨hn, Or.inr h⟩⟩

example : boundOk (.nominal false 1 3 []) [] (.nominal false 1 9 []) = false := by decide
example : boundOk (.nominal false 1 3 []) [.nominal false 1 9 []] (.nominal false 1 9 []) = true := by decide

end SamVerif.Gates
