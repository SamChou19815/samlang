import SamVerif.Props.C12
import SamVerif.Model.RenderByName
import SamVerif.Model.ModuleOrder
/-! # C12 — diagnostics rendered in module-name order do not depend on module-reference ids

Model of `ErrorSet::pretty_print_error_messages_in_module_name_order` (samlang-errors, used by
`compile_sources`): the in-order sequence of the set, stably sorted by the module's *name*.  A
stable sort by a key is the concatenation, in key order, of the subsequences with that key. -/
namespace SamVerif.ErrorSet

theorem errLt_same_module (ids ids' : Nat → Nat) (a b : Err) (hm : a.modl = b.modl)
    (ha : atomsKey ids a.atoms = atomsKey ids' a.atoms) (hb : atomsKey ids b.atoms = atomsKey ids' b.atoms) :
    errLt ids a b = errLt ids' a b := by
  simp only [errLt, errKey, hm, lexLt_cons_same, ha, hb]

/-- Full strength for the enumeration-order part
of the property, fix of finding C12-F1: two runs that number the module references differently
(any two injective id assignments) render the same report, provided the ids of the handles *inside*
error details (heap strings: deterministic since /repo 06eeb5e) are the same. -/
theorem diagnostics_by_name_independent_of_module_ids (names : List Nat) (ids ids' : Nat → Nat)
    (hi : Inj ids) (hi' : Inj ids') (pm : List (List Err))
    (hatoms : ∀ l ∈ pm, ∀ e ∈ l, atomsKey ids e.atoms = atomsKey ids' e.atoms) :
    renderByName names ids pm = renderByName names ids' pm := by
  have hs := errLt_strictTotal ids hi
  have hs' := errLt_strictTotal ids' hi'
  unfold renderByName
  congr 1
  funext m
  rw [render_eq_ofList ids hi, render_eq_ofList ids' hi', filter_ofList hs, filter_ofList hs']
  -- the errors of one module are ordered by position and detail alone
  refine ofList_order_agree hs hs' _ fun a ha b hb hab => ?_
  simp only [List.mem_filter, List.mem_flatten, beq_iff_eq] at ha hb
  obtain ⟨⟨la, hla, hal⟩, hma⟩ := ha
  obtain ⟨⟨lb, hlb, hbl⟩, hmb⟩ := hb
  rwa [← errLt_same_module ids ids' a b (hma.trans hmb.symm) (hatoms la hla a hal) (hatoms lb hlb b hbl)]

/-- the witness of C12-F1 renders identically under both module numberings -/
example : renderByName [0, 1] id [[e1], [e2]] =
    renderByName [0, 1] (fun n => if n = 0 then 1 else if n = 1 then 0 else n) [[e1], [e2]] := by decide

/-! ## The by-name report is a *stable sort by module name* of the set sequence

`errors.sort_by_cached_key(|e| name(e.module))` is a stable sort whose key is deliberately not
unique; `renderByName` models its result as the concatenation of the per-module subsequences in name
order.  The theorem below shows that the stable sort (`sSort`, stable insertion sort) computes
exactly that — for every input sequence — so stability is what the report needs (an unstable sort,
seeded fault C12d, may permute equal-key elements). Module names are represented by their rank in
name order (`key`), names = `List.range N`. -/

section StableIns
variable {α : Type} {lt : α → α → Bool}

theorem sIns_append_of_all_lt (x : α) (A B : List α) (hB : ∀ b ∈ B, lt x b = true) :
    sIns lt x (A ++ B) = sIns lt x A ++ B := by
  induction A with
  | nil =>
    cases B with
    | nil => rfl
    | cons b bs => exact if_pos (hB b List.mem_cons_self)
  | cons a as ih =>
    simp only [List.cons_append, sIns]
    split
    · rfl
    · rw [ih]; rfl

theorem sIns_append_of_none_lt (x : α) (A B : List α) (hA : ∀ a ∈ A, lt x a = false) :
    sIns lt x (A ++ B) = A ++ sIns lt x B := by
  induction A with
  | nil => rfl
  | cons a as ih =>
    rw [List.cons_append, sIns, if_neg (Bool.eq_false_iff.mp (hA a List.mem_cons_self)),
      ih fun y hy => hA y (List.mem_cons_of_mem _ hy)]
    rfl

theorem sIns_of_none_lt (x : α) (A : List α) (hA : ∀ a ∈ A, lt x a = false) :
    sIns lt x A = A ++ [x] := by
  have h := sIns_append_of_none_lt x A [] hA
  rwa [List.append_nil] at h

end StableIns

section StableByKey
variable {α : Type} (key : α → Nat)

def keyLt (a b : α) : Bool := decide (key a < key b)

def concatByKey (N : Nat) (l : List α) : List α :=
  (List.range N).flatMap fun m => l.filter (fun e => key e == m)

theorem concatByKey_succ (N : Nat) (l : List α) :
    concatByKey key (N + 1) l = concatByKey key N l ++ l.filter (fun e => key e == N) := by
  simp [concatByKey, List.range_succ, List.flatMap_append]

theorem filter_key_snoc (l : List α) (x : α) (m : Nat) :
    (l ++ [x]).filter (fun e => key e == m) =
      l.filter (fun e => key e == m) ++ if key x = m then [x] else [] := by
  by_cases h : key x = m <;> simp [List.filter_append, h]

theorem concatByKey_append_ge (N : Nat) (l : List α) (x : α) (h : N ≤ key x) :
    concatByKey key N (l ++ [x]) = concatByKey key N l := by
  induction N with
  | zero => rfl
  | succ n ih =>
    rw [concatByKey_succ, concatByKey_succ, ih (Nat.le_of_succ_le h), filter_key_snoc,
      if_neg (Nat.ne_of_gt h), List.append_nil]

theorem mem_concatByKey_lt (N : Nat) (l : List α) (a : α) (h : a ∈ concatByKey key N l) : key a < N := by
  simp only [concatByKey, List.mem_flatMap, List.mem_range, List.mem_filter, beq_iff_eq] at h
  obtain ⟨m, hm, _, hk⟩ := h
  exact hk ▸ hm

/-- Stable insertion puts `x` at the end of the block of its key. -/
theorem sIns_concatByKey (N : Nat) (l : List α) (x : α) (h : key x < N) :
    sIns (keyLt key) x (concatByKey key N l) = concatByKey key N (l ++ [x]) := by
  induction N with
  | zero => cases h
  | succ n ih =>
    have hblock : ∀ b ∈ l.filter (fun e => key e == n), key b = n := fun b hb =>
      beq_iff_eq.mp (List.mem_filter.mp hb).2
    rw [concatByKey_succ, concatByKey_succ, filter_key_snoc]
    by_cases hx : key x < n
    · -- inserted inside the earlier blocks; the last block (key n) only has larger keys
      rw [sIns_append_of_all_lt x _ _ fun b hb => decide_eq_true (hblock b hb ▸ hx), ih hx,
        if_neg (Nat.ne_of_lt hx), List.append_nil]
    · -- `key x = n`: behind the earlier blocks and behind its own block
      have hxn : key x = n := Nat.le_antisymm (Nat.le_of_lt_succ h) (Nat.not_lt.mp hx)
      rw [sIns_append_of_none_lt x _ _ fun a ha =>
          decide_eq_false (Nat.not_lt.mpr (hxn ▸ Nat.le_of_lt (mem_concatByKey_lt key n l a ha))),
        sIns_of_none_lt x _ fun b hb => decide_eq_false (hblock b hb ▸ hxn ▸ Nat.lt_irrefl n),
        concatByKey_append_ge key n l x (Nat.le_of_eq hxn.symm), if_pos hxn]

theorem stable_sort_aux (N : Nat) (l p : List α) (h : ∀ x ∈ l, key x < N) :
    l.foldl (fun acc x => sIns (keyLt key) x acc) (concatByKey key N p) = concatByKey key N (p ++ l) := by
  induction l generalizing p with
  | nil => rw [List.append_nil]; rfl
  | cons x xs ih =>
    rw [List.foldl_cons, sIns_concatByKey key N p x (h x List.mem_cons_self),
      ih (p ++ [x]) fun y hy => h y (List.mem_cons_of_mem _ hy), List.append_assoc]
    rfl

/-- A stable sort by a (non-unique) key returns, for every input
sequence, the concatenation in key order of the subsequences with that key. -/
theorem stable_sort_is_concat_by_key (N : Nat) (l : List α) (h : ∀ x ∈ l, key x < N) :
    sSort (keyLt key) l = concatByKey key N l := by
  have e : concatByKey key N ([] : List α) = [] := by simp [concatByKey]
  rw [sSort, ← e, stable_sort_aux key N l [] h, List.nil_append]

end StableByKey

/-- The report `compile_sources` renders — the set sequence
stably sorted by module name — equals the concatenation of the per-module reports in module-name
order (`renderByName`), whatever the numbering of the module references. -/
theorem report_is_concat_of_module_reports (N : Nat) (ids : Nat → Nat) (pm : List (List Err))
    (h : ∀ e ∈ render ids pm, e.modl < N) :
    sSort (keyLt (fun e : Err => e.modl)) (render ids pm) = renderByName (List.range N) ids pm := by
  rw [stable_sort_is_concat_by_key (fun e : Err => e.modl) N _ h]
  -- `renderByName (List.range N)` unfolds to `concatByKey (·.modl) N (render ids pm)`
  rfl

example : sSort (keyLt (fun e : Err => e.modl)) (render (fun n => 5 - n) [[e1], [e2]]) = [e1, e2] := by decide

end SamVerif.ErrorSet
