import SamVerif.Generated.C08Prec
import SamVerif.Model.FmtFull
/-!
# C08: the printer's and the parser's precedence tables agree (on the *extracted* tables)

`Generated/C08Prec.lean` is written by `extract/c08_prec.py` from the source text on every run of the
check: `printerPrec` = `BinaryOperator::precedence` (samlang-ast/src/source.rs, the table the formatter
consults to drop parentheses), `parserLevel` / `parserLeftAssoc` = the precedence-climbing chain of
samlang-parser/src/source_parser.rs (which `_with_start` loop consumes the operator, whether that loop
parses its right operand one level up and folds to the left).

Two sites in two crates that each look fine alone; the round trip needs them to induce the same
partition of the 14 operators into levels, in the same order, with the associativity the printer's
left-operand rule assumes.  A change of either site that breaks the agreement (seeded/C08g: `==`/`!=`
on a printer level of their own) makes a theorem of this file false; `vlib/c08.py` then names the
operator pairs (`extract/c08_prec.py --print`).  The first two theorems tie the tables of
`Model/Fmt.lean`, over which every round-trip theorem of `Props/C08.lean` is proved, to the source.
-/
namespace SamVerif.C08c
open SamVerif.Fmt (BinOp)
open SamVerif.Generated.C08Prec

/-- The model's printer table is the source's `BinaryOperator::precedence`. -/
theorem printer_table_is_source (o : BinOp) : o.pprec = printerPrec o := by cases o <;> rfl

/-- The model's parser levels are the source's climbing chain. -/
theorem parser_levels_are_source (o : BinOp) : o.plevel = parserLevel o := by cases o <;> rfl

/-- The two tables determine each other: printer level + parser level = number of levels − 1. -/
theorem tables_mirror (o : BinOp) : printerPrec o + parserLevel o + 1 = parserLevels := by
  cases o <;> decide

/-- **Same partition into levels**: two operators share a printer level iff one parser loop consumes
both. -/
theorem tables_same_partition (o₁ o₂ : BinOp) :
    printerPrec o₁ = printerPrec o₂ ↔ parserLevel o₁ = parserLevel o₂ := by
  have h₁ := tables_mirror o₁
  have h₂ := tables_mirror o₂
  omega

/-- **Same order**: the printer regards `o₁` as binding tighter than `o₂` (smaller number) iff the
parser consumes `o₁` deeper in the climbing chain. -/
theorem tables_same_order (o₁ o₂ : BinOp) :
    printerPrec o₁ < printerPrec o₂ ↔ parserLevel o₂ < parserLevel o₁ := by
  have h₁ := tables_mirror o₁
  have h₂ := tables_mirror o₂
  omega

/-- **Associativity**: every level of the parser is left-associative (right operand parsed one level
up, loop folds into the left operand) — what the printer's left-operand rule relies on … -/
theorem parser_left_associative (o : BinOp) : parserLeftAssoc o = true := by cases o <;> rfl

open SamVerif.FmtFull in
/-- … namely: a left-nested pair of operators of one level is printed without parentheses, a
right-nested pair keeps them unless it is the same associative operator (`shortcutOk`). -/
theorem printer_assumes_left_associativity (o₁ o₂ : BinOp) (h : printerPrec o₁ = printerPrec o₂) :
    printE (.binary o₂ (.binary o₁ (.atom 0) (.atom 1)) (.atom 2)) =
      [.atom 0, .op o₁, .atom 1, .op o₂, .atom 2] ∧
    (shortcutOk o₁ (.binary o₂ (.atom 1) (.atom 2)) = false →
      printE (.binary o₁ (.atom 0) (.binary o₂ (.atom 1) (.atom 2))) =
        [.atom 0, .op o₁, .lp, .atom 1, .op o₂, .atom 2, .rp]) := by
  rw [← printer_table_is_source, ← printer_table_is_source] at h
  -- left-nested: the left operand is on the operator's own level, so it stays bare;
  -- right-nested: an operand on that level is parenthesised unless the shortcut applies
  constructor
  · simp [printE, sub, needParen, Expr.prec, endsMember, h]
  · intro hs
    simp [printE, sub, needParen, Expr.prec, endsMember, paren, h, hs]

/-- The agreement is a real constraint: the table of seeded fault C08g (`==`, `!=` one level looser
than `<`) does not have the parser's partition. -/
theorem own_level_for_equality_counterexample :
    ¬ ∀ o₁ o₂ : BinOp,
      (fun o => if o = .eq ∨ o = .ne then 3 else if o = .and then 4 else if o = .or then 5 else printerPrec o) o₁ =
        (fun o => if o = .eq ∨ o = .ne then 3 else if o = .and then 4 else if o = .or then 5 else printerPrec o) o₂ ↔
      parserLevel o₁ = parserLevel o₂ := by
  intro h
  exact absurd ((h .lt .eq).mpr (by decide)) (by decide)

end SamVerif.C08c
