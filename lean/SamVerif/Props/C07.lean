import SamVerif.Lemmas.Useful
import SamVerif.Lemmas.UsefulTerm
import SamVerif.Lemmas.UsefulNorm
import SamVerif.Lemmas.UsefulSem
import SamVerif.Lemmas.UsefulErr
import SamVerif.Generated.C07Tuples
/-!
# C07 — Exhaustiveness and usefulness analysis of patterns is exact

The property theorems (lemmas: `Lemmas/Useful*.lean`; model: `Model/Useful.lean`, mirroring
`crates/samlang-checker/src/pattern_matching.rs`).  Tied to the code by the `patcheck`
correspondence (`harness/src/bin/c07.rs` vs `Driver/C07.lean`).
-/
namespace SamVerif.Useful

/-- **`useful_internal` is exact**: on a typed matrix `P` and a typed vector `q` without `nothing()`,
an answer `true` means exactly that some well-typed value vector is matched by `q` and by no row of
`P` (`Useful`), i.e. that a `match` arm `q` after the arms `P` can still be reached.  Each arm of
`usefulF` is closed by the lemma of `Lemmas/Useful.lean` that says what `Useful` is for that head of `q`
(`useful_struct`, `useful_wild_complete`, `useful_wild_incomplete`, `useful_or`).  `okPats q` is
needed: `useful_iff_counterexample`. -/
theorem useful_iff (sig : Sig) (cx : Cx) (hcx : CxOk sig cx) (hinh : Inhabited' sig) :
    ∀ (fuel : Nat) (P : Matrix) (q : Row) (ts : List Nat) (b : Bool),
      matrixTy sig P ts = true → patTys sig q ts = true → okPats q = true →
      usefulF cx fuel P q = some b → (b = true ↔ Useful sig P q ts) := by
  intro fuel P q
  -- arms, in the order of `usefulF`: 1 no fuel, 2 empty matrix, 3 no columns, 4 constructor head,
  -- 5 `_` head over a complete signature, 6 `_` head otherwise (default matrix), 7 or-pattern head
  fun_induction usefulF cx fuel P q with
  | case1 => intro ts b _ _ _ h; cases h
  | case2 fuel P q hP =>
    intro ts b _ hq hok h
    cases Option.some.inj h
    cases List.isEmpty_iff.mp hP
    exact iff_of_true rfl (useful_nil_matrix hinh hq hok)
  | case3 fuel P hP =>
    intro ts b hPt hq _ h
    cases Option.some.inj h
    cases ts with
    | cons t ts => simp [patTys] at hq
    | nil => exact iff_of_false (by simp) (not_useful_nil_row hPt (fun e => hP (by rw [e]; rfl)))
  | case4 fuel P hP c rs rest ih =>
    intro ts b hPt hq hok h
    obtain ⟨t, ts, rfl, hp, hq⟩ := patTys_cons_inv hq
    simp only [okPats, okPat, Bool.and_eq_true] at hok
    obtain ⟨tys, hc, hrs⟩ := patTy_struct.mp hp
    have hl := patTys_length hrs
    rw [useful_struct hPt hc hl rest]
    rw [hl] at ih h
    exact ih (tys ++ ts) b (spec_matrix_ty hPt hc)
      (patTys_append hrs hq) (by rw [okPats_append, hok.1, hok.2]; rfl) h
  | case5 fuel P hP rest roots hsig ih =>
    intro ts b hPt hq hok h
    obtain ⟨t, ts, rfl, _, hq⟩ := patTys_cons_inv hq
    simp only [okPats, okPat, Bool.true_and] at hok
    rw [useful_wild_complete hcx hPt hsig rest]
    refine anyO_iff (fun cn hmem b' hb' => ?_) h
    obtain ⟨tys, hc, hl⟩ := rootCtors_ty hPt hmem
    have := ih cn (tys ++ ts) b' (by rw [← hl]; exact spec_matrix_ty hPt hc)
      (patTys_append (by rw [← hl]; exact patTys_wilds sig tys) hq)
      (by rw [okPats_append, okPats_wilds, hok]; rfl) hb'
    rw [this]
    constructor
    · exact fun hu => ⟨tys, hc, hl, hu⟩
    · rintro ⟨tys', hc', _, hu⟩
      rw [hc] at hc'; cases hc'; exact hu
  | case6 fuel P hP rest roots inc hsig ih =>
    intro ts b hPt hq hok h
    obtain ⟨t, ts, rfl, _, hq⟩ := patTys_cons_inv hq
    simp only [okPats, okPat, Bool.true_and] at hok
    rw [useful_wild_incomplete hcx hinh hPt hsig rest]
    exact ih ts b (default_matrix_ty hPt) hq hok h
  | case7 fuel P hP ps rest ih =>
    intro ts b hPt hq hok h
    obtain ⟨t, ts, rfl, hp, hq⟩ := patTys_cons_inv hq
    rw [patTy] at hp
    simp only [okPats, okPat, Bool.and_eq_true] at hok
    rw [useful_or]
    exact anyO_iff (fun r hmem b' hb' => ih r (t :: ts) b' hPt
      (by simp [patTys, (patTyAll_iff sig ps t).mp hp r hmem, hq])
      (by simp [okPats, okPats_mem ps r hok.1.2 hmem, hok.2]) hb') h

def sigInt : Sig := fun _ => .prim

/-- `useful_iff` without the side condition `okPats q` (no `nothing()` = `Or([])` inside the *tested*
vector) is false for the code as written: `useful_internal` answers `true` as soon as the matrix is empty
(pattern_matching.rs:169-171), also for a vector that contains `nothing()` and therefore matches no
value.  The checker only ever tests the vector `[_]` (main_checker.rs:940-944), for which `okPats`
holds, so this is not observable through `type_check_sources`. -/
theorem useful_iff_counterexample :
    usefulF (fun _ => []) 1 [] [.or []] = some true ∧ ¬ Useful sigInt [] [.or []] [0] := by
  refine ⟨by decide, ?_⟩
  rintro ⟨vs, _, hm, _⟩
  cases vs with
  | nil => simp [pmatchAll] at hm
  | cons v vs => simp [pmatchAll, pmatch, pmatchAny] at hm

/-- `is_additional_pattern_useful` (one column): the new pattern is reported useful exactly when some
value of the scrutinee type is matched by it and by none of the existing patterns. -/
theorem additional_useful_iff (sig : Sig) (cx : Cx) (hcx : CxOk sig cx) (hinh : Inhabited' sig)
    (fuel : Nat) (existing : List Pat) (p : Pat) (t : Nat) (u : Bool)
    (he : ∀ e ∈ existing, patTy sig e t = true) (hp : patTy sig p t = true) (hok : okPat p = true)
    (h : isAdditionalPatternUsefulF cx fuel existing p = some u) :
    (u = true ↔ ∃ v, hasTy sig v t = true ∧ pmatch p v = true ∧ ∀ e ∈ existing, pmatch e v = false) :=
  (useful_iff sig cx hcx hinh fuel _ [p] [t] u (matrixTy_oneCol he) (by simp [patTys, hp])
    (by simp [okPats, hok]) h).trans useful_oneCol

/-- **If-let** (main_checker.rs:939-946): the "irrefutable pattern" diagnostic fires
(`is_additional_pattern_useful([p], _) = false`) exactly when the pattern matches every value of the
scrutinee type. -/
theorem iflet_useless_iff (sig : Sig) (cx : Cx) (hcx : CxOk sig cx) (hinh : Inhabited' sig)
    (fuel : Nat) (p : Pat) (t : Nat) (u : Bool) (hp : patTy sig p t = true)
    (h : isAdditionalPatternUsefulF cx fuel [p] .wild = some u) :
    (u = false ↔ ∀ v, hasTy sig v t = true → pmatch p v = true) := by
  have := additional_useful_iff sig cx hcx hinh fuel [p] .wild t u (by simpa using hp) (by simp [patTy])
    (by simp [okPat]) h
  rw [← Bool.not_eq_true, this]
  simp [pmatch]

/-- **The search finds nothing ⇒ the wildcard vector is not useful**, i.e. no well-typed value vector is
left unmatched.  Along `cexF`: over an incomplete signature a useful `_ :: …` would be useful for the
default matrix (`useful_default_of_wild`), over a complete one for the specialisation by some root
constructor (`useful_wild_complete`), and the search has looked there. -/
theorem cexF_none_not_useful (sig : Sig) (cx : Cx) (hcx : CxOk sig cx) :
    ∀ (fuel : Nat) (P : Matrix) (n : Nat) (ts : List Nat),
      matrixTy sig P ts = true → ts.length = n → cexF cx fuel P n = some none →
      ¬ Useful sig P (wilds n) ts := by
  intro fuel P n
  -- arms, in the order of `cexF`: 1 no fuel, 2 / 3 no columns (empty / non-empty matrix), 4–6 incomplete
  -- signature (the search in the default matrix ran out of fuel / found nothing / found `v`),
  -- 7 complete signature (first root constructor whose specialised matrix has a counterexample)
  fun_induction cexF cx fuel P n with
  | case1 => intro ts _ _ h; cases h
  | case2 => intro ts _ _ h; cases h
  | case3 fuel P hP =>
    intro ts hPt hn _
    cases List.length_eq_zero_iff.mp hn
    exact not_useful_nil_row hPt (fun e => hP (by rw [e]; rfl))
  | case4 => intro ts _ _ h; cases h
  | case5 fuel P n hn roots inc hsig hrec ih =>
    intro ts hPt hl _ hu
    obtain ⟨k, rfl⟩ := Nat.exists_eq_succ_of_ne_zero hn
    obtain ⟨t, ts, rfl⟩ := List.exists_cons_of_length_eq_add_one hl
    rw [wilds_succ] at hu
    exact ih ts (default_matrix_ty hPt) (Nat.succ.inj hl) hrec (useful_default_of_wild hu)
  | case6 => intro ts _ _ h; cases h
  | case7 fuel P n hn roots hsig ih =>
    intro ts hPt hl h hu
    obtain ⟨k, rfl⟩ := Nat.exists_eq_succ_of_ne_zero hn
    obtain ⟨t, ts, rfl⟩ := List.exists_cons_of_length_eq_add_one hl
    rw [wilds_succ] at hu
    obtain ⟨cn, hmem, tys, hc, hlen, hu'⟩ := (useful_wild_complete hcx hPt hsig _).mp hu
    have hx := (firstO_eq_some h).2 rfl cn ((mem_sortByKey _ _).mpr hmem)
    simp only [Nat.add_succ_sub_one] at hx ih
    rw [← wilds_add] at hu'
    split at hx
    · cases hx
    · rename_i hc'
      exact ih cn (tys ++ ts) (by rw [← hlen]; exact spec_matrix_ty hPt hc)
        (by rw [List.length_append, hlen, Nat.succ.inj hl]) hc' hu'
    · cases hx

/-- **Match / let accepted ⇒ exhaustive** (`incomplete_counterexample_internal` returning `None`,
main_checker.rs:995-999, 1540-1544): if the counterexample search finds nothing, every well-typed
value vector is matched by some row.  No inhabitedness hypothesis is needed for this direction. -/
theorem accepted_exhaustive (sig : Sig) (cx : Cx) (hcx : CxOk sig cx) :
    ∀ (fuel : Nat) (P : Matrix) (n : Nat) (ts : List Nat),
      matrixTy sig P ts = true → ts.length = n → cexF cx fuel P n = some none →
      ∀ vs, hasTys sig vs ts = true → ∃ r ∈ P, pmatchAll r vs = true := by
  intro fuel P n ts hP hn h vs hvs
  apply Classical.byContradiction
  intro hno
  exact cexF_none_not_useful sig cx hcx fuel P n ts hP hn h
    ⟨vs, hvs, pmatchAll_wilds n vs (by rw [hasTys_length hvs, hn]),
      fun r hr => Bool.eq_false_iff.mpr fun hm => hno ⟨r, hr, hm⟩⟩

/-- **Counterexample soundness** (`incomplete_counterexample_internal` returning `Some(d)`): the
reported vector `d` is a well-typed pattern vector without `nothing()`, and *every* well-typed value
vector it denotes is matched by no row.  Along `cexF`: over an incomplete signature the head put in
front matches only values whose constructor heads no row (`cex_head_sound`), so a vector unmatched
by the default matrix stays unmatched (`default_unmatched_conv`); over a complete one the answer `v'`
for the specialised matrix is cut into the arguments of the constructor and the rest
(`patTys_take_drop`, `okPats_take_drop`), and `spec_matrix` carries "unmatched" back to `P`. -/
theorem cex_some_sound (sig : Sig) (cx : Cx) (hcx : CxOk sig cx) (hnd : SigNodup sig) :
    ∀ (fuel : Nat) (P : Matrix) (n : Nat) (ts : List Nat) (d : Row),
      matrixTy sig P ts = true → ts.length = n → cexF cx fuel P n = some (some d) →
      patTys sig d ts = true ∧ okPats d = true ∧
        ∀ vs, hasTys sig vs ts = true → pmatchAll d vs = true → ∀ r ∈ P, pmatchAll r vs = false := by
  intro fuel P n
  -- arms, in the order of `cexF`: 1 no fuel, 2 / 3 no columns (empty / non-empty matrix), 4–6 incomplete
  -- signature (the search in the default matrix ran out of fuel / found nothing / found `v`),
  -- 7 complete signature (first root constructor whose specialised matrix has a counterexample)
  fun_induction cexF cx fuel P n with
  | case1 => intro ts d _ _ h; cases h
  | case2 fuel P hP =>
    intro ts d _ hn h
    cases List.length_eq_zero_iff.mp hn
    cases Option.some.inj (Option.some.inj h)
    cases List.isEmpty_iff.mp hP
    exact ⟨rfl, rfl, fun _ _ _ r hr => nomatch hr⟩
  | case3 => intro ts d _ _ h; cases h
  | case4 => intro ts d _ _ h; cases h
  | case5 => intro ts d _ _ h; cases h
  | case6 fuel P n hn roots inc hsig v' hrec head ih =>
    intro ts d hPt hl h
    cases Option.some.inj (Option.some.inj h)
    obtain ⟨k, rfl⟩ := Nat.exists_eq_succ_of_ne_zero hn
    obtain ⟨t, ts, rfl⟩ := List.exists_cons_of_length_eq_add_one hl
    obtain ⟨hv'ty, hv'ok, hv'un⟩ := ih ts v' (default_matrix_ty hPt) (Nat.succ.inj hl) hrec
    have hhead := cex_head_sound hcx hnd hPt hsig (head := head) rfl
    refine ⟨by simp only [patTys, hhead.1, hv'ty]; rfl, by simp only [okPats, hhead.2.1, hv'ok]; rfl,
      fun vs hvs hm => ?_⟩
    obtain ⟨v, vs, rfl, _, hvs'⟩ := hasTys_cons_inv hvs
    simp only [pmatchAll, Bool.and_eq_true] at hm
    exact default_unmatched_conv (hhead.2.2 v hm.1) (hv'un vs hvs' hm.2)
  | case7 fuel P n hn roots hsig ih =>
    intro ts d hPt hl h
    obtain ⟨k, rfl⟩ := Nat.exists_eq_succ_of_ne_zero hn
    obtain ⟨t, ts, rfl⟩ := List.exists_cons_of_length_eq_add_one hl
    obtain ⟨⟨c, a⟩, hmem, hfx⟩ := (firstO_eq_some h).1 d rfl
    obtain ⟨tys, hc, hlen⟩ := rootCtors_ty hPt ((mem_sortByKey _ _).mp hmem)
    have hlen : tys.length = a := hlen  -- `hlen` speaks of `(c, a).2`: restated for `subst`
    subst hlen
    simp only [Nat.add_succ_sub_one] at hfx ih
    split at hfx
    · cases hfx
    · cases hfx
    · rename_i v' hc'
      cases Option.some.inj (Option.some.inj hfx)
      obtain ⟨hv'ty, hv'ok, hv'un⟩ := ih (c, tys.length) (tys ++ ts) v'
        (spec_matrix_ty hPt hc)
        (by rw [List.length_append, Nat.succ.inj hl]) hc'
      obtain ⟨hty1, hty2⟩ := patTys_take_drop sig tys ts v' hv'ty
      obtain ⟨hok1, hok2⟩ := okPats_take_drop tys.length v' hv'ok
      refine ⟨by simp only [patTys, patTy, hc, hty1, hty2]; rfl,
        by simp only [okPats, okPat, hok1, hok2]; rfl, fun vs hvs hm => ?_⟩
      obtain ⟨v, vs, rfl, hv, hvs'⟩ := hasTys_cons_inv hvs
      rw [pmatchAll, Bool.and_eq_true] at hm
      obtain ⟨ws, rfl, hm1⟩ := pmatch_struct.mp hm.1
      obtain ⟨tys', hc2, hws⟩ := hasTy_con.mp hv
      rw [hc] at hc2; cases hc2
      refine (spec_matrix hPt hc hws).mp
        (hv'un _ (hasTys_append hws hvs') ?_)
      rw [← List.take_append_drop tys.length v',
        pmatchAll_append (pmatchAll_length _ _ hm1), hm1, hm.2]; rfl

/-- **Rejected ⇒ the reported counterexample denotes a value that no row matches** (existence needs
inhabited types). -/
theorem counterexample_denotes_unmatched (sig : Sig) (cx : Cx) (hcx : CxOk sig cx) (hnd : SigNodup sig)
    (hinh : Inhabited' sig) (fuel : Nat) (P : Matrix) (n : Nat) (ts : List Nat) (d : Row)
    (hP : matrixTy sig P ts = true) (hn : ts.length = n) (h : cexF cx fuel P n = some (some d)) :
    ∃ vs, hasTys sig vs ts = true ∧ pmatchAll d vs = true ∧ ∀ r ∈ P, pmatchAll r vs = false := by
  obtain ⟨hty, hok, hun⟩ := cex_some_sound sig cx hcx hnd fuel P n ts d hP hn h
  obtain ⟨vs, hvs, hm⟩ := exists_matches sig hinh d ts hty hok
  exact ⟨vs, hvs, hm, hun vs hvs hm⟩

/-- **Exhaustiveness verdict is exact** (both directions): whenever the counterexample search returns,
it returns `None` exactly when every well-typed value vector is matched by some row. -/
theorem exhaustive_iff (sig : Sig) (cx : Cx) (hcx : CxOk sig cx) (hnd : SigNodup sig) (hinh : Inhabited' sig)
    (fuel : Nat) (P : Matrix) (n : Nat) (ts : List Nat) (res : Option Row)
    (hP : matrixTy sig P ts = true) (hn : ts.length = n) (h : cexF cx fuel P n = some res) :
    (res = none ↔ ∀ vs, hasTys sig vs ts = true → ∃ r ∈ P, pmatchAll r vs = true) := by
  constructor
  · intro hr; subst hr
    exact accepted_exhaustive sig cx hcx fuel P n ts hP hn h
  · intro hall
    cases res with
    | none => rfl
    | some d =>
      obtain ⟨vs, hvs, _, hun⟩ :=
        counterexample_denotes_unmatched sig cx hcx hnd hinh fuel P n ts d hP hn h
      obtain ⟨r, hr, hmr⟩ := hall vs hvs
      rw [hun r hr] at hmr; cases hmr

/-- `exhaustive_iff`, in the words of the property: the counterexample search returns nothing exactly
when no well-typed value vector is left unmatched (full pattern language: nested constructors,
or-patterns, structs / tuples of any width, enums with any number of variants ≥ 1). -/
theorem exhaustive_iff_no_unmatched_value (sig : Sig) (cx : Cx) (hcx : CxOk sig cx) (hnd : SigNodup sig)
    (hinh : Inhabited' sig) (fuel : Nat) (P : Matrix) (n : Nat) (ts : List Nat) (res : Option Row)
    (hP : matrixTy sig P ts = true) (hn : ts.length = n) (h : cexF cx fuel P n = some res) :
    (res = none ↔ ¬ ∃ vs, hasTys sig vs ts = true ∧ ∀ r ∈ P, pmatchAll r vs = false) := by
  rw [exhaustive_iff sig cx hcx hnd hinh fuel P n ts res hP hn h]
  constructor
  · rintro hall ⟨vs, hvs, hun⟩
    obtain ⟨r, hr, hm⟩ := hall vs hvs
    rw [hun r hr] at hm; cases hm
  · intro hno vs hvs
    apply Classical.byContradiction
    intro hc
    exact hno ⟨vs, hvs, fun r hr => Bool.eq_false_iff.mpr fun hm => hc ⟨r, hr, hm⟩⟩

/-- the printed counterexample is a genuine unmatched value: it denotes a well-typed value vector, and
every well-typed vector it denotes is matched by no row. -/
theorem counterexample_is_unmatched (sig : Sig) (cx : Cx) (hcx : CxOk sig cx) (hnd : SigNodup sig)
    (hinh : Inhabited' sig) (fuel : Nat) (P : Matrix) (n : Nat) (ts : List Nat) (d : Row)
    (hP : matrixTy sig P ts = true) (hn : ts.length = n) (h : cexF cx fuel P n = some (some d)) :
    (∃ vs, hasTys sig vs ts = true ∧ pmatchAll d vs = true ∧ ∀ r ∈ P, pmatchAll r vs = false) ∧
    (∀ vs, hasTys sig vs ts = true → pmatchAll d vs = true → ∀ r ∈ P, pmatchAll r vs = false) :=
  ⟨counterexample_denotes_unmatched sig cx hcx hnd hinh fuel P n ts d hP hn h,
   (cex_some_sound sig cx hcx hnd fuel P n ts d hP hn h).2.2⟩

/-- `incomplete_counterexample` on the one-column matrix of a `match` / `let`: no diagnostic ⇒ every
value of the scrutinee type is matched by some arm. -/
theorem match_accepted_exhaustive (sig : Sig) (cx : Cx) (hcx : CxOk sig cx) (fuel : Nat)
    (arms : List Pat) (t : Nat) (ha : ∀ a ∈ arms, patTy sig a t = true)
    (h : incompleteCounterexampleF cx fuel arms = some none) :
    ∀ v, hasTy sig v t = true → ∃ a ∈ arms, pmatch a v = true := by
  intro v hv
  rw [incompleteCounterexampleF_eq] at h
  obtain ⟨r, hc, hr⟩ := Option.map_eq_some_iff.mp h
  cases r with
  | some row => cases hr
  | none =>
    exact oneCol_matched.mp (accepted_exhaustive sig cx hcx fuel _ 1 [t] (matrixTy_oneCol ha) rfl hc [v]
      (hasTys_one.mpr ⟨v, rfl, hv⟩))

/-- `incomplete_counterexample` of a `match` / destructuring `let` (main_checker.rs:995-999,
1540-1544): the diagnostic is absent exactly when every value of the scrutinee type is matched by
some arm; when it is present, its payload `d` is a well-typed pattern, denotes some value, and no
value it denotes is matched by any arm. -/
theorem match_exhaustive_iff (sig : Sig) (cx : Cx) (hcx : CxOk sig cx) (hnd : SigNodup sig)
    (hinh : Inhabited' sig) (fuel : Nat) (arms : List Pat) (t : Nat) (res : Option Pat)
    (ha : ∀ a ∈ arms, patTy sig a t = true) (h : incompleteCounterexampleF cx fuel arms = some res) :
    (res = none ↔ ∀ v, hasTy sig v t = true → ∃ a ∈ arms, pmatch a v = true) ∧
    (∀ d, res = some d → patTy sig d t = true ∧ (∃ v, hasTy sig v t = true ∧ pmatch d v = true) ∧
      ∀ v, hasTy sig v t = true → pmatch d v = true → ∀ a ∈ arms, pmatch a v = false) := by
  cases res with
  | none =>
    exact ⟨⟨fun _ => match_accepted_exhaustive sig cx hcx fuel arms t ha h, fun _ => rfl⟩,
      fun d hd => nomatch hd⟩
  | some d =>
    rw [incompleteCounterexampleF_eq] at h
    obtain ⟨r, hc, hr⟩ := Option.map_eq_some_iff.mp h
    obtain ⟨row, rfl, hd⟩ := Option.map_eq_some_iff.mp hr
    obtain ⟨hty, hok, hun⟩ := cex_some_sound sig cx hcx hnd fuel _ 1 [t] row (matrixTy_oneCol ha) rfl hc
    have hrow : row = [d] := by
      cases row with
      | nil => simp [patTys] at hty
      | cons d' rest =>
        cases rest with
        | cons _ _ => simp [patTys] at hty
        | nil => cases hd; rfl
    subst hrow
    simp only [patTys, Bool.and_true] at hty
    simp only [okPats, Bool.and_true] at hok
    have hunm : ∀ v, hasTy sig v t = true → pmatch d v = true → ∀ a ∈ arms, pmatch a v = false :=
      fun v hv hm => oneCol_unmatched.mp
        (hun [v] (hasTys_one.mpr ⟨v, rfl, hv⟩) (by simp [pmatchAll, hm]))
    obtain ⟨v, hv, hm⟩ := exists_match sig hinh d t hty hok
    refine ⟨⟨fun h => (nomatch h), fun hall => ?_⟩, fun d' hd' => ?_⟩
    · obtain ⟨a, hmem, hma⟩ := hall v hv
      rw [hunm v hv hm a hmem] at hma; cases hma
    · cases hd'
      exact ⟨hty, ⟨v, hv, hm⟩, hunm⟩

/-! ### Termination

`useful_internal` and `incomplete_counterexample_internal` terminate on *every* input (typed or not):
from the fuel `usefulFuel P q` resp. `cexFuel P n` on (computed from the weights and the largest
constructor arity) the fuelled model functions return one fixed answer (`Lemmas/UsefulTerm.lean`). -/

theorem useful_fuel_bound (cx : Cx) (P : Matrix) (q : Row) :
    ∃ b, ∀ m, usefulFuel P q ≤ m → usefulF cx m P q = some b := by
  obtain ⟨b, hb⟩ := usefulF_some cx (max (arM P) (arL q)) (usefulFuel P q) P q
    (Nat.le_max_left _ _) (Nat.le_max_right _ _) (Nat.lt_succ_self _)
  exact ⟨b, fun m hm => usefulF_mono hb hm⟩

theorem cex_fuel_bound (cx : Cx) (P : Matrix) (n : Nat) :
    ∃ r, ∀ m, cexFuel P n ≤ m → cexF cx m P n = some r := by
  obtain ⟨r, hr⟩ := cexF_some cx (arM P) (cexFuel P n) P n (Nat.le_refl _) (Nat.lt_succ_self _)
  exact ⟨r, fun m hm => cexF_mono hr hm⟩

theorem useful_terminates (cx : Cx) (P : Matrix) (q : Row) :
    ∃ n b, ∀ m, n ≤ m → usefulF cx m P q = some b :=
  ⟨usefulFuel P q, useful_fuel_bound cx P q⟩

theorem cex_terminates (cx : Cx) (P : Matrix) (n : Nat) :
    ∃ k r, ∀ m, k ≤ m → cexF cx m P n = some r :=
  ⟨cexFuel P n, cex_fuel_bound cx P n⟩

/-- **Usefulness is decided exactly** (fuel-free): the algorithm terminates, and its answer is
`true` exactly when `q` is useful with respect to `P`. -/
theorem useful_exact (sig : Sig) (cx : Cx) (hcx : CxOk sig cx) (hinh : Inhabited' sig)
    (P : Matrix) (q : Row) (ts : List Nat)
    (hP : matrixTy sig P ts = true) (hq : patTys sig q ts = true) (hok : okPats q = true) :
    ∃ n b, (∀ m, n ≤ m → usefulF cx m P q = some b) ∧ (b = true ↔ Useful sig P q ts) := by
  obtain ⟨n, b, h⟩ := useful_terminates cx P q
  exact ⟨n, b, h, useful_iff sig cx hcx hinh n P q ts b hP hq hok (h n (Nat.le_refl _))⟩

/-- **If-let, fuel-free**: the check terminates and flags the pattern exactly when it matches every
value of the scrutinee type. -/
theorem iflet_exact (sig : Sig) (cx : Cx) (hcx : CxOk sig cx) (hinh : Inhabited' sig)
    (p : Pat) (t : Nat) (hp : patTy sig p t = true) :
    ∃ n u, (∀ m, n ≤ m → isAdditionalPatternUsefulF cx m [p] .wild = some u) ∧
      (u = false ↔ ∀ v, hasTy sig v t = true → pmatch p v = true) := by
  obtain ⟨n, u, h⟩ := useful_terminates cx ([p].map fun e => [e]) [.wild]
  exact ⟨n, u, h, iflet_useless_iff sig cx hcx hinh n p t u hp (h n (Nat.le_refl _))⟩

theorem incompleteCounterexampleF_fuel_bound (cx : Cx) (arms : List Pat) :
    ∃ res, ∀ m, cexFuel (arms.map fun e => [e]) 1 ≤ m → incompleteCounterexampleF cx m arms = some res := by
  obtain ⟨r, hr⟩ := cex_fuel_bound cx (arms.map fun e => [e]) 1
  exact ⟨r.map rowToPat, fun m hm => by rw [incompleteCounterexampleF_eq, hr m hm]; rfl⟩

/-- **Match / let, fuel-free**: the exhaustiveness check terminates; it reports nothing exactly when
every value of the scrutinee type is matched by some arm; and a reported counterexample is a
well-typed pattern denoting at least one value, none of whose values is matched by any arm. -/
theorem match_exact (sig : Sig) (cx : Cx) (hcx : CxOk sig cx) (hnd : SigNodup sig) (hinh : Inhabited' sig)
    (arms : List Pat) (t : Nat) (ha : ∀ a ∈ arms, patTy sig a t = true) :
    ∃ n res, (∀ m, n ≤ m → incompleteCounterexampleF cx m arms = some res) ∧
      (res = none ↔ ∀ v, hasTy sig v t = true → ∃ a ∈ arms, pmatch a v = true) ∧
      (∀ d, res = some d → patTy sig d t = true ∧ (∃ v, hasTy sig v t = true ∧ pmatch d v = true) ∧
        ∀ v, hasTy sig v t = true → pmatch d v = true → ∀ a ∈ arms, pmatch a v = false) := by
  obtain ⟨res, h⟩ := incompleteCounterexampleF_fuel_bound cx arms
  exact ⟨_, res, h, match_exhaustive_iff sig cx hcx hnd hinh _ arms t res ha (h _ (Nat.le_refl _))⟩

/-! ### From source patterns: no typing hypothesis left

`check_matching_pattern` (model: `normalize`) turns *any* source pattern — well-formed or not — into
an abstract pattern that is well-typed for the scrutinee type (`normalize_typed`), so the exactness
theorems apply to every `match` / `let` / `if let` the checker analyses. -/

/-- `check_match` / `check_declaration_statement` (main_checker.rs:969-1010, 1520-1545). -/
theorem checker_match_exact (sig : Sig) (cx : Cx) (hcx : CxOk sig cx) (hnd : SigNodup sig)
    (hinh : Inhabited' sig) (srcArms : List SPat) (t : Nat) :
    let arms := srcArms.map (fun p => (normalize sig true p (some t)).pat)
    ∃ n res, (∀ m, n ≤ m → incompleteCounterexampleF cx m arms = some res) ∧
      (res = none ↔ ∀ v, hasTy sig v t = true → ∃ a ∈ arms, pmatch a v = true) ∧
      (∀ d, res = some d → patTy sig d t = true ∧ (∃ v, hasTy sig v t = true ∧ pmatch d v = true) ∧
        ∀ v, hasTy sig v t = true → pmatch d v = true → ∀ a ∈ arms, pmatch a v = false) := by
  intro arms
  apply match_exact sig cx hcx hnd hinh arms t
  intro a ha
  obtain ⟨p, _, rfl⟩ := List.mem_map.mp ha
  exact normalize_typed sig true p (some t)  -- `NormTyped … (some t)` unfolds to `patTy … t = true`

/-- `check_if_else` with a guard (main_checker.rs:936-948). -/
theorem checker_iflet_exact (sig : Sig) (cx : Cx) (hcx : CxOk sig cx) (hinh : Inhabited' sig)
    (src : SPat) (t : Nat) :
    let p := (normalize sig false src (some t)).pat
    ∃ n u, (∀ m, n ≤ m → isAdditionalPatternUsefulF cx m [p] .wild = some u) ∧
      (u = false ↔ ∀ v, hasTy sig v t = true → pmatch p v = true) :=
  iflet_exact sig cx hcx hinh _ t (normalize_typed sig false src (some t))

/-! ### Source-level statements

`smatch` (Model/Useful.lean) says directly when a value matches a *source* pattern; `swf` singles
out the source patterns the checker does not report an error for on their own account (known tags /
fields, no surplus elements, no field twice, consistent or-bindings; omitted fields are allowed).
`normalize_sem`: for those, the abstract node matches exactly the values the source pattern
matches.  Hence the property in its own terms: -/

/-- **C07 for `match` / `let`, on source patterns.** The exhaustiveness check terminates; no
diagnostic ⇔ every value of the scrutinee type is matched (source-level) by some arm; a reported
counterexample is a well-typed pattern, denotes a value, and no value it denotes is matched
(source-level) by any arm. -/
theorem checker_match_exact_src (sig : Sig) (cx : Cx) (hcx : CxOk sig cx) (hnd : SigNodup sig)
    (hinh : Inhabited' sig) (srcArms : List SPat) (t : Nat)
    (hwf : ∀ p ∈ srcArms, swf sig true p t = true) :
    let arms := srcArms.map (fun p => (normalize sig true p (some t)).pat)
    ∃ n res, (∀ m, n ≤ m → incompleteCounterexampleF cx m arms = some res) ∧
      (res = none ↔ ∀ v, hasTy sig v t = true → ∃ p ∈ srcArms, smatch sig p t v = true) ∧
      (∀ d, res = some d → patTy sig d t = true ∧ (∃ v, hasTy sig v t = true ∧ pmatch d v = true) ∧
        ∀ v, hasTy sig v t = true → pmatch d v = true → ∀ p ∈ srcArms, smatch sig p t v = false) := by
  intro arms
  obtain ⟨n, res, h1, h2, h3⟩ := checker_match_exact sig cx hcx hnd hinh srcArms t
  refine ⟨n, res, h1, ?_, ?_⟩
  · rw [h2]
    constructor
    · intro h v hv
      obtain ⟨a, ha, hm⟩ := h v hv
      obtain ⟨p, hp, rfl⟩ := List.mem_map.mp ha
      exact ⟨p, hp, by rw [← normalize_sem sig true p t v (hwf p hp) hv]; exact hm⟩
    · intro h v hv
      obtain ⟨p, hp, hm⟩ := h v hv
      exact ⟨_, List.mem_map.mpr ⟨p, hp, rfl⟩, by rw [normalize_sem sig true p t v (hwf p hp) hv]; exact hm⟩
  · intro d hd
    obtain ⟨hty, hex, hun⟩ := h3 d hd
    refine ⟨hty, hex, ?_⟩
    intro v hv hm p hp
    rw [← normalize_sem sig true p t v (hwf p hp) hv]
    exact hun v hv hm _ (List.mem_map.mpr ⟨p, hp, rfl⟩)

/-- **C07 for `if let`, on the source pattern**: flagged irrefutable ⇔ it matches (source-level)
every value of the scrutinee type. -/
theorem checker_iflet_exact_src (sig : Sig) (cx : Cx) (hcx : CxOk sig cx) (hinh : Inhabited' sig)
    (src : SPat) (t : Nat) (hwf : swf sig false src t = true) :
    let p := (normalize sig false src (some t)).pat
    ∃ n u, (∀ m, n ≤ m → isAdditionalPatternUsefulF cx m [p] .wild = some u) ∧
      (u = false ↔ ∀ v, hasTy sig v t = true → smatch sig src t v = true) := by
  intro p
  obtain ⟨n, u, h1, h2⟩ := checker_iflet_exact sig cx hcx hinh src t
  refine ⟨n, u, h1, ?_⟩
  rw [h2]
  constructor
  · intro h v hv; rw [← normalize_sem sig false src t v hwf hv]; exact h v hv
  · intro h v hv; rw [normalize_sem sig false src t v hwf hv]; exact h v hv

/-! ### The functions without a fuel argument (what the driver runs) -/

theorem stable_answer {α : Type} {f : Nat → Option α} {a b : α} {n k : Nat}
    (ha : ∀ m, n ≤ m → f m = some a) (hb : ∀ m, k ≤ m → f m = some b) : f k = some a :=
  -- at fuel `max n k` both hypotheses apply, so `a = b` there, and `hb` carries it back to `k`
  (hb k (Nat.le_refl k)).trans ((hb _ (Nat.le_max_right n k)).symm.trans (ha _ (Nat.le_max_left n k)))

theorem incompleteCounterexample_eq (cx : Cx) (arms : List Pat) (n : Nat) (res : Option Pat)
    (h1 : ∀ m, n ≤ m → incompleteCounterexampleF cx m arms = some res) :
    incompleteCounterexample cx arms = some res := by
  obtain ⟨r, hr⟩ := incompleteCounterexampleF_fuel_bound cx arms
  exact stable_answer h1 hr

theorem isAdditionalPatternUseful_eq (cx : Cx) (existing : List Pat) (p : Pat) (n : Nat) (u : Bool)
    (h1 : ∀ m, n ≤ m → isAdditionalPatternUsefulF cx m existing p = some u) :
    isAdditionalPatternUseful cx existing p = some u := by
  obtain ⟨r, hr⟩ := useful_fuel_bound cx (existing.map fun e => [e]) [p]
  exact stable_answer h1 hr

/-- **`incomplete_counterexample`, no fuel, source level**: the model function the driver executes
always returns, and its answer is exact in the sense of `checker_match_exact_src`. -/
theorem checker_match_decided (sig : Sig) (cx : Cx) (hcx : CxOk sig cx) (hnd : SigNodup sig)
    (hinh : Inhabited' sig) (srcArms : List SPat) (t : Nat)
    (hwf : ∀ p ∈ srcArms, swf sig true p t = true) :
    let arms := srcArms.map (fun p => (normalize sig true p (some t)).pat)
    ∃ res, incompleteCounterexample cx arms = some res ∧
      (res = none ↔ ∀ v, hasTy sig v t = true → ∃ p ∈ srcArms, smatch sig p t v = true) ∧
      (∀ d, res = some d → patTy sig d t = true ∧ (∃ v, hasTy sig v t = true ∧ pmatch d v = true) ∧
        ∀ v, hasTy sig v t = true → pmatch d v = true → ∀ p ∈ srcArms, smatch sig p t v = false) := by
  obtain ⟨n, res, h1, h2, h3⟩ := checker_match_exact_src sig cx hcx hnd hinh srcArms t hwf
  exact ⟨res, incompleteCounterexample_eq cx _ n res h1, h2, h3⟩

/-- **`is_additional_pattern_useful([p], _)`, no fuel, source level.** -/
theorem checker_iflet_decided (sig : Sig) (cx : Cx) (hcx : CxOk sig cx) (hinh : Inhabited' sig)
    (src : SPat) (t : Nat) (hwf : swf sig false src t = true) :
    let p := (normalize sig false src (some t)).pat
    ∃ u, isAdditionalPatternUseful cx [p] .wild = some u ∧
      (u = false ↔ ∀ v, hasTy sig v t = true → smatch sig src t v = true) := by
  obtain ⟨n, u, h1, h2⟩ := checker_iflet_exact_src sig cx hcx hinh src t hwf
  exact ⟨u, isAdditionalPatternUseful_eq cx _ _ n u h1, h2⟩

/-! ### Tuples of every size: the declarations in std/tuples.sam (data the checker reads)

A tuple pattern of size N is resolved against the declared fields of the std class for that size;
the model treats an N-tuple as a struct whose field `k` has the type of component `k`.  That is what
the standard library says, for every size the language has (`Generated/C07Tuples.lean` is
regenerated from /repo's current std/tuples.sam by `extract/c07_tuples.py` on every run): -/
theorem std_tuples_fields :
    (SamVerif.Generated.C07Tuples.table.map (·.1)) = (List.range 15).map (· + 2) ∧
    ∀ e ∈ SamVerif.Generated.C07Tuples.table,
      e.2.1 = e.1 ∧ e.2.2 = (List.range e.1).map (fun i => (i, i)) := by
  decide

/-! ### Which declaration the scrutinee's type parameter resolves to (innermost binder)

The exactness theorem for such a scrutinee, `checker_match_total_tparam`, stands with the other
`…_total_…` theorems below. -/

theorem resolveTParam_append (a b : TParams) (n : Nat) :
    resolveTParam (a ++ b) n = (resolveTParam a n).orElse (fun _ => resolveTParam b n) := by
  fun_induction resolveTParam a n with
  | case1 => rfl
  | case2 bd rest => simp [resolveTParam]
  | case3 m bd rest n e ih => simp [resolveTParam, e, ih]

theorem resolveTParam_some_mem {l : TParams} {n : Nat} {bd : Option Nat}
    (h : resolveTParam l n = some bd) : ∃ x ∈ l, x.1 = n := by
  fun_induction resolveTParam l n with
  | case1 => cases h
  | case2 b rest => exact ⟨_, List.mem_cons_self, rfl⟩
  | case3 m b rest name e ih =>
    obtain ⟨y, hy, hyn⟩ := ih h
    exact ⟨y, List.mem_cons_of_mem _ hy, hyn⟩

/-- **In a static function only the function's own type parameters are in scope**: a class type
parameter of the same name (whatever its bound) is invisible, and one the function does not declare
does not resolve at all. -/
theorem static_function_scope (classParams fnParams : TParams) (n : Nat) :
    resolveTParam (scopeOf false classParams fnParams) n = resolveTParam fnParams n := by
  simp [scopeOf]

/-- **In a method the class's and the method's parameters are both visible**; when their names are
distinct (the checker reports a collision otherwise, `tparamCollision`) each resolves to its own
declaration. -/
theorem method_scope (classParams fnParams : TParams) (n : Nat)
    (hd : tparamCollision true classParams fnParams = false) :
    resolveTParam (scopeOf true classParams fnParams) n =
      (resolveTParam classParams n).orElse (fun _ => resolveTParam fnParams n) ∧
    (∀ b, resolveTParam fnParams n = some b → resolveTParam (scopeOf true classParams fnParams) n = some b) := by
  have h1 : resolveTParam (scopeOf true classParams fnParams) n =
      (resolveTParam classParams n).orElse (fun _ => resolveTParam fnParams n) := by
    simp [scopeOf, resolveTParam_append]
  refine ⟨h1, fun b hb => ?_⟩
  rw [h1]
  cases hc : resolveTParam classParams n with
  | none => simp [hb]
  | some bc =>
    obtain ⟨c, hcm, hcn⟩ := resolveTParam_some_mem hc
    obtain ⟨f, hfm, hfn⟩ := resolveTParam_some_mem hb
    simp only [tparamCollision, Bool.true_and, List.any_eq_false] at hd
    have := hd f hfm
    simp only [List.any_eq_true, not_exists, not_and, decide_eq_true_eq] at this
    exact absurd (hcn.trans hfn.symm) (this c hcm)

/-! ### What the abstract node of a tuple, variant or object pattern is made of -/

/-- **Pattern conversion is compositional** (main_checker.rs:1360-1480): the abstract node of a variant
pattern `Tag(p₁, …, pₙ)` with the right number of arguments is the constructor node `Tag` over the
abstract nodes of `p₁ … pₙ` — for an enum with *any* number of variants (in particular a single one:
no shortcut to a wildcard), whatever the `pᵢ` are. -/
theorem variant_pattern_compositional (sig : Sig) (w : Bool) (t cls : Nat) (vs : List (Nat × List Nat))
    (hs : sig t = .enum cls vs) (tag : Nat) (tys : List Nat) (hf : findVariant vs tag = some tys)
    (ps : List SPat) (hl : ps.length = tys.length) :
    (normalize sig w (.variant tag ps) (some t)).pat =
      .struct (some ⟨cls, tag⟩) (List.zipWith (fun p ty => (normalize sig w p (some ty)).pat) ps tys) := by
  simp [normalize, sigAt, hs, hf, normTuple_pats_eq sig w ps tys hl, hl, wilds]

/-- The same for a tuple pattern on a struct: one column per field, each the abstract node of the
element (main_checker.rs:1195-1265). -/
theorem tuple_pattern_compositional (sig : Sig) (w : Bool) (t : Nat) (fs : List (Nat × Nat))
    (hs : sig t = .struct fs) (ps : List SPat) (hl : ps.length = fs.length) :
    (normalize sig w (.tuple ps) (some t)).pat =
      .struct none (List.zipWith (fun p ty => (normalize sig w p (some ty)).pat) ps (fs.map (·.2))) := by
  simp [normalize, sigAt, hs, normTuple_pats_eq sig w ps (fs.map (·.2)) (by simpa using hl), hl, wilds]

/-- **Object patterns: a field's sub-pattern lands in the column of the field's declaration index**,
in whatever order the fields are written; columns of fields that are not named hold `_`
(main_checker.rs:1266-1345, `abstract_pattern_nodes[*field_order] = abstract_node`). -/
theorem object_pattern_columns (sig : Sig) (w : Bool) (t : Nat) (fs : List (Nat × Nat))
    (hs : sig t = .struct fs) (names : List Nat) (ps : List SPat)
    (hnd : nodupNat names = true) (hk : ∀ n ∈ names, fieldIndex fs n ≠ none) :
    ∃ cols, (normalize sig w (.object names ps) (some t)).pat = .struct none cols ∧
      cols.length = fs.length ∧
      (∀ (k name : Nat) (p : SPat) (i ty : Nat), names[k]? = some name → ps[k]? = some p → fieldIndex fs name = some (i, ty) →
        cols[i]? = some (normalize sig w p (some ty)).pat) ∧
      (∀ (j : Nat), j < fs.length → (∀ n ∈ names, ∀ (i ty : Nat), fieldIndex fs n = some (i, ty) → i ≠ j) →
        cols[j]? = some .wild) := by
  refine ⟨(normObject sig w fs ps names (wilds fs.length)).pats, by simp [normalize, sigAt, hs], ?_, ?_, ?_⟩
  · rw [normObject_length, wilds_length]
  · intro k name p i ty hn hp hf
    have hi : i < (wilds fs.length).length := by rw [wilds_length]; exact fieldIndex_lt hf
    exact normObject_column hnd hk hn hp hf hi
  · intro j hj hne
    rw [normObject_other sig w fs ps names _ j hk hne]
    simp [wilds, hj]

/-! ### No fragment left: every source pattern is either in the domain of the semantics theorem or rejected

`shape` is the encoding invariant of `SPat.object` (as many field names as sub-patterns — the parser
and the protocol pair them). -/

/-- **Dichotomy**: a source pattern is `swf` (then `normalize_sem`: its abstract node matches exactly
the values it matches) or `check_matching_pattern` reports a diagnostic for it (the program is
rejected whatever the exhaustiveness verdict). -/
theorem source_pattern_dichotomy (sig : Sig) (w : Bool) (p : SPat) (t : Nat) (hs : shape p = true) :
    swf sig w p t = true ∨ (normalize sig w p (some t)).err = true := by
  cases h : swf sig w p t with
  | true => exact Or.inl rfl
  | false => exact Or.inr (not_swf_err sig w p t hs h)

/-- **C07 for every `match` / `let`** (no well-formedness hypothesis on the arms): either some arm
makes the checker report a diagnostic of its own (rejected), or the verdict of the exhaustiveness
check is exact in source-level terms. -/
theorem checker_match_total_src (sig : Sig) (cx : Cx) (hcx : CxOk sig cx) (hnd : SigNodup sig)
    (hinh : Inhabited' sig) (srcArms : List SPat) (t : Nat) (hsh : ∀ p ∈ srcArms, shape p = true) :
    (∃ p ∈ srcArms, (normalize sig true p (some t)).err = true) ∨
    (let arms := srcArms.map (fun p => (normalize sig true p (some t)).pat)
     ∃ res, incompleteCounterexample cx arms = some res ∧
      (res = none ↔ ∀ v, hasTy sig v t = true → ∃ p ∈ srcArms, smatch sig p t v = true) ∧
      (∀ d, res = some d → patTy sig d t = true ∧ (∃ v, hasTy sig v t = true ∧ pmatch d v = true) ∧
        ∀ v, hasTy sig v t = true → pmatch d v = true → ∀ p ∈ srcArms, smatch sig p t v = false)) := by
  by_cases h : ∃ p ∈ srcArms, (normalize sig true p (some t)).err = true
  · exact Or.inl h
  · refine Or.inr (checker_match_decided sig cx hcx hnd hinh srcArms t ?_)
    intro p hp
    rcases source_pattern_dichotomy sig true p t (hsh p hp) with hw | he
    · exact hw
    · exact absurd ⟨p, hp, he⟩ h

/-- the same for `if let` -/
theorem checker_iflet_total_src (sig : Sig) (cx : Cx) (hcx : CxOk sig cx) (hinh : Inhabited' sig)
    (src : SPat) (t : Nat) (hsh : shape src = true) :
    (normalize sig false src (some t)).err = true ∨
    (let p := (normalize sig false src (some t)).pat
     ∃ u, isAdditionalPatternUseful cx [p] .wild = some u ∧
      (u = false ↔ ∀ v, hasTy sig v t = true → smatch sig src t v = true)) := by
  rcases source_pattern_dichotomy sig false src t hsh with hw | he
  · exact Or.inr (checker_iflet_decided sig cx hcx hinh src t hw)
  · exact Or.inl he

/-- **Scrutinee of type-parameter type**: when the parameter resolves (innermost binder) to the bound
`t`, the exact theorem holds for the bounding class's declaration. -/
theorem checker_match_total_tparam (sig : Sig) (cx : Cx) (hcx : CxOk sig cx) (hnd : SigNodup sig)
    (hinh : Inhabited' sig) (isMethod : Bool) (classParams memberParams : TParams) (name t : Nat)
    (hr : scrutineeType (scopeOf isMethod classParams memberParams) (.tparam name) = some t)
    (srcArms : List SPat) (hsh : ∀ p ∈ srcArms, shape p = true) :
    (∃ p ∈ srcArms,
      (normalize sig true p (scrutineeType (scopeOf isMethod classParams memberParams) (.tparam name))).err = true) ∨
    (let arms := srcArms.map (fun p =>
        (normalize sig true p (scrutineeType (scopeOf isMethod classParams memberParams) (.tparam name))).pat)
     ∃ res, incompleteCounterexample cx arms = some res ∧
      (res = none ↔ ∀ v, hasTy sig v t = true → ∃ p ∈ srcArms, smatch sig p t v = true)) := by
  rw [hr]
  rcases checker_match_total_src sig cx hcx hnd hinh srcArms t hsh with h | h
  · exact Or.inl h
  · obtain ⟨res, h1, h2, _⟩ := h
    exact Or.inr ⟨res, h1, h2⟩

/-! ### Every hypothesis decided by computation (what a replayed case certifies)

For a finite type table, `cxOkCheck`, `nodupCheck`, `rankCheck` and `swf` are executable; the driver
prints them for every case (`hyp`, `inh`, `swf`).  When they are all true the verdict the driver
prints for that case is exact, with no hypothesis left: -/
theorem replayed_match_exact (defs : List Def) (rank : List Nat) (srcArms : List SPat) (t : Nat)
    (hcx : cxOkCheck defs = true) (hnd : nodupCheck defs = true) (hrk : rankCheck defs rank = true)
    (hwf : srcArms.all (fun p => swf (sigOfTable defs) true p t) = true) :
    let sig := sigOfTable defs
    let arms := srcArms.map (fun p => (normalize sig true p (some t)).pat)
    ∃ res, incompleteCounterexample (cxOf defs) arms = some res ∧
      (res = none ↔ ∀ v, hasTy sig v t = true → ∃ p ∈ srcArms, smatch sig p t v = true) ∧
      (∀ d, res = some d → patTy sig d t = true ∧ (∃ v, hasTy sig v t = true ∧ pmatch d v = true) ∧
        ∀ v, hasTy sig v t = true → pmatch d v = true → ∀ p ∈ srcArms, smatch sig p t v = false) :=
  checker_match_decided (sigOfTable defs) (cxOf defs) (cxOk_of_check defs hcx) (sigNodup_of_check defs hnd)
    (inhabited_of_rankCheck defs rank hrk) srcArms t (fun p hp => List.all_eq_true.mp hwf p hp)

theorem replayed_iflet_exact (defs : List Def) (rank : List Nat) (src : SPat) (t : Nat)
    (hcx : cxOkCheck defs = true) (hrk : rankCheck defs rank = true)
    (hwf : swf (sigOfTable defs) false src t = true) :
    let sig := sigOfTable defs
    let p := (normalize sig false src (some t)).pat
    ∃ u, isAdditionalPatternUseful (cxOf defs) [p] .wild = some u ∧
      (u = false ↔ ∀ v, hasTy sig v t = true → smatch sig src t v = true) :=
  checker_iflet_decided (sigOfTable defs) (cxOf defs) (cxOk_of_check defs hcx)
    (inhabited_of_rankCheck defs rank hrk) src t hwf

/-- **Inhabitedness is decidable by a certificate**: on a finite type table, a rank assignment that
passes the executable check `rankCheck` (every struct field, and all fields of one variant of every
enum, have a smaller rank) makes every type inhabited, so `Inhabited'` in the theorems above can be
discharged by computation (the driver computes such ranks for every replayed case). -/
theorem inhabited_certificate (defs : List Def) (rank : List Nat) (h : rankCheck defs rank = true) :
    Inhabited' (sigOfTable defs) := inhabited_of_rankCheck defs rank h

/-! ### Non-vacuity: `Option<int>`-like and list-like signatures satisfy the hypotheses, and the
algorithm gives both answers on them. -/

/-- type 0 = `int`, type 1 = `Opt(None, Some(int))`, type 2 = `List(Nil, Cons(int, List))`,
type 3 = `Pair(Opt, List)` -/
def sigEx : Sig := fun t =>
  match t with
  | 1 => .enum 0 [(0, []), (1, [0])]
  | 2 => .enum 1 [(0, []), (1, [0, 2])]
  | 3 => .struct [(0, 1), (1, 2)]
  | _ => .prim

def cxEx : Cx := fun c => match c with | 0 => [(0, 0), (1, 1)] | 1 => [(0, 0), (1, 2)] | _ => []

theorem sigEx_cxOk : CxOk sigEx cxEx := by
  intro t cls vs h
  unfold sigEx at h
  split at h
  · cases h; rfl
  · cases h; rfl
  · cases h
  · cases h

theorem sigEx_inhabited : Inhabited' sigEx := by
  intro t
  by_cases h1 : t = 1
  · exact ⟨.con (some ⟨0, 0⟩) [], by subst h1; decide⟩
  by_cases h2 : t = 2
  · exact ⟨.con (some ⟨1, 0⟩) [], by subst h2; decide⟩
  by_cases h3 : t = 3
  · exact ⟨.con none [.con (some ⟨0, 0⟩) [], .con (some ⟨1, 0⟩) []], by subst h3; decide⟩
  · refine ⟨.prim 0, ?_⟩
    have : sigEx t = .prim := by
      unfold sigEx
      split
      · exact absurd rfl h1
      · exact absurd rfl h2
      · exact absurd rfl h3
      · rfl
    simp [hasTy, this]

theorem sigEx_nodup : SigNodup sigEx := by
  intro t cls vs h
  unfold sigEx at h
  split at h
  · cases h; decide
  · cases h; decide
  · cases h
  · cases h

/-- the same signature as a finite table, with a rank certificate checked by `decide` -/
def defsEx : List Def :=
  [.prim, .enum 0 [(0, []), (1, [0])], .enum 1 [(0, []), (1, [0, 2])], .struct [(0, 1), (1, 2)]]

example : rankCheck defsEx [0, 1, 1, 2] = true := by decide
example : cxOkCheck defsEx = true ∧ nodupCheck defsEx = true := by decide
example : Inhabited' (sigOfTable defsEx) := inhabited_of_rankCheck defsEx [0, 1, 1, 2] (by decide)
-- an uninhabited recursive enum `class Inf(More(Inf))` has no certificate with these ranks
example : rankCheck [.enum 0 [(0, [0])]] [0] = false := by decide

def pNone : Pat := .struct (some ⟨0, 0⟩) []
def pSome (p : Pat) : Pat := .struct (some ⟨0, 1⟩) [p]

-- `Some(_)` after `None`: useful; `_` after `None, Some(_)`: useless; typed, ok, enough fuel.
example : isAdditionalPatternUseful cxEx [pNone] (pSome .wild) = some true := by decide
example : (incompleteCounterexample cxEx [pNone]).map Option.isSome = some true := by decide
example : isAdditionalPatternUsefulF cxEx 10 [pNone] (pSome .wild) = some true := by decide
example : isAdditionalPatternUsefulF cxEx 10 [pNone, pSome .wild] .wild = some false := by decide
example : patTy sigEx (pSome .wild) 1 = true ∧ patTy sigEx pNone 1 = true := by decide
-- if-let: `None | Some(_)` is irrefutable, `Some(_)` is not
example : isAdditionalPatternUsefulF cxEx 10 [.or [pNone, pSome .wild]] .wild = some false := by decide
example : isAdditionalPatternUsefulF cxEx 10 [pSome .wild] .wild = some true := by decide
-- the counterexample search: nothing after `None, Some(_)`, a counterexample after `None` alone
example : (incompleteCounterexampleF cxEx 10 [pNone, pSome .wild]).map Option.isNone = some true := by decide
example : (incompleteCounterexampleF cxEx 10 [pNone]).map Option.isSome = some true := by decide
-- source level: `{ b as Nil, a as None }` on `Pair(a: Opt, b: List)` (fields renamed and reordered)
-- matches exactly the pairs (None, Nil)
example : swf sigEx true (.object [1, 0] [.variant 0 [], .variant 0 []]) 3 = true := by decide
example : smatch sigEx (.object [1, 0] [.variant 0 [], .variant 0 []]) 3
    (.con none [.con (some ⟨0, 0⟩) [], .con (some ⟨1, 0⟩) []]) = true := by decide
example : smatch sigEx (.object [1, 0] [.variant 0 [], .variant 0 []]) 3
    (.con none [.con (some ⟨0, 1⟩) [.prim 5], .con (some ⟨1, 0⟩) []]) = false := by decide
-- `{ b as Nil, a as None }` on `Pair(a: Opt, b: List)`: written second, `a`'s sub-pattern is column 0
example : (normalize sigEx true (.object [1, 0] [.variant 0 [], .variant 0 []]) (some 3)).pat =
    .struct none [.struct (some ⟨0, 0⟩) [], .struct (some ⟨1, 0⟩) []] := by rfl
-- a single-variant wrapper `class W(Only(Pair))` (type 4): `Only((None, _))` keeps its refutable payload
example : (normalize (fun t => if t = 4 then .enum 2 [(0, [3])] else sigEx t) true
    (.variant 0 [.tuple [.variant 0 [], .wild]]) (some 4)).pat =
    .struct (some ⟨2, 0⟩) [.struct none [.struct (some ⟨0, 0⟩) [], .wild]] := by rfl
-- `class Box<T: Narrow> { function <T: Wide> f(x: T) }`: inside `f`, `T` is the function's (bound 1 = Wide)
example : scrutineeType (scopeOf false [(0, some 0)] [(0, some 1)]) (.tparam 0) = some 1 := by decide
-- in a method of `Box<T: Narrow>` with its own `U: Wide`, `T` is the class's (bound 0 = Narrow)
example : scrutineeType (scopeOf true [(0, some 0)] [(1, some 1)]) (.tparam 0) = some 0 := by decide
-- dichotomy: `(None, _, _)` on the 2-field `Pair` is outside `swf`, and the checker reports an error for it
example : swf sigEx true (.tuple [.variant 0 [], .wild, .wild]) 3 = false ∧
    (normalize sigEx true (.tuple [.variant 0 [], .wild, .wild]) (some 3)).err = true := by decide
example : ∃ n res, (∀ m, n ≤ m → incompleteCounterexampleF cxEx m [pNone, pSome .wild] = some res) ∧
    (res = none ↔ ∀ v, hasTy sigEx v 1 = true → ∃ a ∈ [pNone, pSome .wild], pmatch a v = true) := by
  obtain ⟨n, res, h1, h2, _⟩ := match_exact sigEx cxEx sigEx_cxOk sigEx_nodup sigEx_inhabited
    [pNone, pSome .wild] 1 (by decide)
  exact ⟨n, res, h1, h2⟩
example : ∀ v, hasTy sigEx v 1 = true → pmatch (.or [pNone, pSome .wild]) v = true :=
  (iflet_useless_iff sigEx cxEx sigEx_cxOk sigEx_inhabited 10 _ 1 false (by decide) (by decide)).mp rfl

end SamVerif.Useful
