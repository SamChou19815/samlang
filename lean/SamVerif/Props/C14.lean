import SamVerif.Lemmas.LexerPos
/-!
# C14 — Source positions attached to syntax are faithful to the text

Property theorems about the position bookkeeping of the scanner model (`Model/Lexer.lean`, shared
with C05) and about the `Location` algebra of `crates/samlang-ast/src/loc.rs`
(`posMin`/`posMax` = the two components of `Location::union`, `Pos.le` = derived `Ord`).
Ground truth: `posOf pre` = position reached after the bytes `pre` (count `\n`, byte columns).
Columns are *byte* columns (the implementation's convention; LSP's UTF-16 columns differ for
non-ASCII lines — an observation, not a claim).
-/
namespace SamVerif.Lexer

/-- `Location` (module reference dropped: `union` asserts both sides agree on it) -/
structure Loc where
  start : Pos
  stop : Pos
  deriving DecidableEq, Repr

/-- `Location::union` (loc.rs:51-56) -/
def Loc.union (a b : Loc) : Loc := ⟨posMin a.start b.start, posMax a.stop b.stop⟩
/-- `Location::contains_position` -/
def Loc.containsPos (a : Loc) (p : Pos) : Prop := a.start ≤ p ∧ p ≤ a.stop
/-- `Location::contains` -/
def Loc.contains (a b : Loc) : Prop := a.containsPos b.start ∧ a.containsPos b.stop
def Loc.wf (a : Loc) : Prop := a.start ≤ a.stop
instance (a : Loc) (p : Pos) : Decidable (a.containsPos p) := by unfold Loc.containsPos; exact inferInstance
instance (a b : Loc) : Decidable (a.contains b) := by unfold Loc.contains; exact inferInstance
instance (a : Loc) : Decidable a.wf := by unfold Loc.wf; exact inferInstance

theorem pos_le_iff (a b : Pos) : a ≤ b ↔ (a.line < b.line ∨ (a.line = b.line ∧ a.col ≤ b.col)) := Iff.rfl
theorem pos_lt_iff (a b : Pos) : a < b ↔ (a.line < b.line ∨ (a.line = b.line ∧ a.col < b.col)) := Iff.rfl

theorem Pos.le_refl (a : Pos) : a ≤ a := Or.inr ⟨rfl, Nat.le_refl _⟩
theorem Pos.le_trans {a b c : Pos} (h1 : a ≤ b) (h2 : b ≤ c) : a ≤ c := by
  rw [pos_le_iff] at *; omega
theorem Pos.le_antisymm {a b : Pos} (h1 : a ≤ b) (h2 : b ≤ a) : a = b := by
  rw [pos_le_iff] at *
  cases a; cases b; simp only [Pos.mk.injEq] at *; omega
theorem Pos.le_total (a b : Pos) : a ≤ b ∨ b ≤ a := by
  rw [pos_le_iff, pos_le_iff]; omega

theorem Pos.le_of_lt {a b : Pos} (h : a < b) : a ≤ b := by
  rw [pos_lt_iff] at h; rw [pos_le_iff]; omega
theorem Pos.le_of_not_lt {a b : Pos} (h : ¬ a < b) : b ≤ a := by
  rw [pos_lt_iff] at h; rw [pos_le_iff]; omega

theorem posMin_le_left (a b : Pos) : posMin a b ≤ a := by
  unfold posMin; split
  · exact Pos.le_refl a
  · exact Pos.le_of_not_lt ‹_›
theorem posMin_le_right (a b : Pos) : posMin a b ≤ b := by
  unfold posMin; split
  · exact Pos.le_of_lt ‹_›
  · exact Pos.le_refl b
theorem le_posMax_left (a b : Pos) : a ≤ posMax a b := by
  unfold posMax; split
  · exact Pos.le_refl a
  · exact Pos.le_of_not_lt ‹_›
theorem le_posMax_right (a b : Pos) : b ≤ posMax a b := by
  unfold posMax; split
  · exact Pos.le_of_lt ‹_›
  · exact Pos.le_refl b
theorem le_posMin {c a b : Pos} (h1 : c ≤ a) (h2 : c ≤ b) : c ≤ posMin a b := by
  unfold posMin; split <;> assumption
theorem posMax_le {c a b : Pos} (h1 : a ≤ c) (h2 : b ≤ c) : posMax a b ≤ c := by
  unfold posMax; split <;> assumption

theorem Loc.contains.of_wf {a b : Loc} (hw : b.wf) (hs : a.start ≤ b.start) (he : b.stop ≤ a.stop) :
    a.contains b :=
  ⟨⟨hs, Pos.le_trans hw he⟩, ⟨Pos.le_trans hs hw, he⟩⟩

/-- **union_lub** (full strength): for well-formed locations, `union a b` is well-formed, contains
`a` and `b`, and is contained in every location that contains both — it is the least upper bound
of the containment order. Hence any node whose location is a union of its children's locations
encloses them. -/
theorem union_lub (a b : Loc) (ha : a.wf) (hb : b.wf) :
    (a.union b).wf ∧ (a.union b).contains a ∧ (a.union b).contains b ∧
      ∀ c : Loc, c.contains a → c.contains b → c.contains (a.union b) := by
  have hw : (a.union b).wf :=
    Pos.le_trans (posMin_le_left _ _) (Pos.le_trans ha (le_posMax_left _ _))
  exact ⟨hw, .of_wf ha (posMin_le_left ..) (le_posMax_left ..),
    .of_wf hb (posMin_le_right ..) (le_posMax_right ..),
    fun c hca hcb => .of_wf hw (le_posMin hca.1.1 hcb.1.1) (posMax_le hca.2.2 hcb.2.2)⟩

example : (Loc.union ⟨⟨1, 3⟩, ⟨3, 1⟩⟩ ⟨⟨2, 3⟩, ⟨4, 1⟩⟩) = ⟨⟨1, 3⟩, ⟨4, 1⟩⟩ := by decide

/-- containment of well-formed locations is a partial order -/
theorem contains_refl (a : Loc) (h : a.wf) : a.contains a :=
  ⟨⟨Pos.le_refl _, h⟩, ⟨h, Pos.le_refl _⟩⟩
theorem contains_trans {a b c : Loc} (h1 : a.contains b) (h2 : b.contains c) : a.contains c :=
  ⟨⟨Pos.le_trans h1.1.1 h2.1.1, Pos.le_trans h2.1.2 h1.2.2⟩,
   ⟨Pos.le_trans h1.1.1 h2.2.1, Pos.le_trans h2.2.2 h1.2.2⟩⟩
theorem contains_antisymm {a b : Loc} (h1 : a.contains b) (h2 : b.contains a) : a = b := by
  cases a; cases b
  simp only [Loc.mk.injEq]
  exact ⟨Pos.le_antisymm h1.1.1 h2.1.1, Pos.le_antisymm h2.2.2 h1.2.2⟩

/-! ## productions: `loc` of a node = union of its first and last item

Every parser production builds the location of its node as
`first_item.loc.union(&last_item.loc)` where the items are, in source order, the node's own
delimiter tokens (`(`, `{`, `if`, `match`, `let`, `;` …) and its children (e.g.
`peeked_loc.union(&body.loc())` for a lambda, `e1.loc().union(&e2.loc())` for a binary expression;
source_parser.rs `expression_parser`, `pattern_parser`, `type_parser`).  `Ordered` / `prodLoc` state that
shape once for all ~60 productions; the implementation-side walk (`vlib/c14.py: PRODUCTIONS`)
compares, for every parsed node, its location with its first/last child (exact equality where the
edge is a child) or its delimiter token (where the edge is a delimiter). -/

/-- the items of a production in source order: each well-formed, none starts before its predecessor ends -/
def Ordered : List Loc → Prop
  | [] => True
  | [a] => a.wf
  | a :: b :: rest => a.wf ∧ a.stop ≤ b.start ∧ Ordered (b :: rest)

/-- `first.union(&last)` over the item list `first :: rest` -/
def prodLoc (first : Loc) (rest : List Loc) : Loc := first.union ((first :: rest).getLast (by simp))

theorem Ordered.tail {a : Loc} {l : List Loc} (h : Ordered (a :: l)) : Ordered l := by
  cases l with
  | nil => trivial
  | cons b r => exact h.2.2

theorem Ordered.head_wf {a : Loc} {l : List Loc} (h : Ordered (a :: l)) : a.wf := by
  cases l with
  | nil => exact h
  | cons b r => exact h.1

/-- in an ordered item list every item starts at or after the first item's start and ends at or
before the last item's end -/
theorem Ordered.bounds {a : Loc} {l : List Loc} (h : Ordered (a :: l)) :
    ∀ x ∈ a :: l, x.wf ∧ a.start ≤ x.start ∧ x.stop ≤ ((a :: l).getLast (by simp)).stop := by
  induction l generalizing a with
  | nil =>
    intro x hx
    cases List.mem_singleton.mp hx
    exact ⟨h, Pos.le_refl _, Pos.le_refl _⟩
  | cons b r ih =>
    intro x hx
    have hb := ih h.tail
    have hab : a.stop ≤ b.start := h.2.1
    rcases List.mem_cons.mp hx with rfl | hx'
    · have hbb := hb b (List.mem_cons_self ..)
      exact ⟨h.head_wf, Pos.le_refl _, Pos.le_trans hab (Pos.le_trans hbb.1 hbb.2.2)⟩
    · have hxx := hb x hx'
      exact ⟨hxx.1, Pos.le_trans (Pos.le_trans h.head_wf hab) hxx.2.1, hxx.2.2⟩

/-- **encloses_children** (full strength, every production): a node whose location is built as the
union of its first and last item encloses every one of its items (children and delimiters alike),
and is itself well-formed — provided only that the items are in source order.  A production that
unions with the wrong item (e.g. the parameter list instead of the body) violates the conclusion,
so the walk's per-node comparison is a proof obligation, not a heuristic. -/
theorem encloses_children (first : Loc) (rest : List Loc) (h : Ordered (first :: rest)) :
    (prodLoc first rest).wf ∧ ∀ x ∈ first :: rest, (prodLoc first rest).contains x := by
  have hb := h.bounds
  have hfirst := hb first (List.mem_cons_self ..)
  have hlast := hb _ (List.getLast_mem (l := first :: rest) (by simp))
  refine ⟨(union_lub first _ hfirst.1 hlast.1).1, fun x hx => ?_⟩
  have hxx := hb x hx
  exact .of_wf hxx.1 (Pos.le_trans (posMin_le_left _ _) hxx.2.1)
    (Pos.le_trans hxx.2.2 (le_posMax_right _ _))

/-- **prodLoc_exact**: the node starts exactly where its first item starts and ends exactly where its
last item ends (the equalities the walk checks edge by edge). -/
theorem prodLoc_exact (first : Loc) (rest : List Loc) (h : Ordered (first :: rest)) :
    (prodLoc first rest).start = first.start ∧
      (prodLoc first rest).stop = ((first :: rest).getLast (by simp)).stop := by
  have hb := h.bounds
  have hfirst := hb first (List.mem_cons_self ..)
  have hlast := hb _ (List.getLast_mem (l := first :: rest) (by simp))
  constructor
  · apply Pos.le_antisymm (posMin_le_left _ _)
    exact le_posMin (Pos.le_refl _) hlast.2.1
  · apply Pos.le_antisymm
    · exact posMax_le hfirst.2.2 (Pos.le_refl _)
    · exact le_posMax_right _ _

/-- the seeded-fault shape: `(a, b: T) -> e` with the lambda's location unioned with the parameter
list instead of the body does not enclose the body -/
example : ¬ (Loc.union ⟨⟨0, 0⟩, ⟨0, 11⟩⟩ ⟨⟨0, 0⟩, ⟨0, 11⟩⟩).contains ⟨⟨0, 15⟩, ⟨0, 20⟩⟩ := by decide
example : (prodLoc ⟨⟨0, 0⟩, ⟨0, 11⟩⟩ [⟨⟨0, 15⟩, ⟨0, 20⟩⟩]).contains ⟨⟨0, 15⟩, ⟨0, 20⟩⟩ :=
  have h : Ordered [⟨⟨0, 0⟩, ⟨0, 11⟩⟩, ⟨⟨0, 15⟩, ⟨0, 20⟩⟩] :=
    ⟨by decide, by decide, (by decide : Loc.wf _)⟩
  (encloses_children _ _ h).2 _ (by simp)

/-! ## position bookkeeping of the scanner equals the ground truth

`TokensAt` (`Lemmas/LexerPos.lean`) holds of every scanner run; the order of the tokens and the
exactness of identifier spans are read off it. -/

/-- **pos_tracking_exact** (full strength): for every document, every token the scanner emits
carries exactly the ground-truth positions (newline count, byte column) of the first byte of its
range and of the byte after its range; the ranges are non-empty, inside the document, in increasing
order and pairwise disjoint. Multi-line block comments, strings, CRLF, tabs, non-ASCII included. -/
theorem pos_tracking_exact (doc : Bytes) : TokensAt doc 0 (rawTokens doc).toks :=
  rawLoop_tracked doc (doc.length + 1) 0 (Nat.zero_le _)

theorem le_advance (p : Pos) (b : UInt8) : p ≤ advance p b := by
  unfold advance; split
  · exact Or.inl (by simp)
  · exact Or.inr ⟨rfl, by simp⟩

theorem le_advanceAll (p : Pos) (bs : Bytes) : p ≤ advanceAll p bs := by
  induction bs generalizing p with
  | nil => exact Pos.le_refl p
  | cons b bs ih => exact Pos.le_trans (le_advance p b) (ih (advance p b))

theorem posOf_mono (doc : Bytes) (a b : Nat) (h : a ≤ b) : posOf (doc.take a) ≤ posOf (doc.take b) := by
  rw [← Nat.add_sub_cancel' h, posOf_take_add]
  exact le_advanceAll _ _

/-- The second conjunct (the first token starts at or after offset `o`) is there for the induction:
it is what orders a token against its successor. -/
theorem TokensAt.ordered {doc : Bytes} {o : Nat} {ts : List Token} (h : TokensAt doc o ts) :
    Ordered (ts.map fun t => (⟨t.start, t.stop⟩ : Loc)) ∧
      ∀ t ∈ ts.head?, posOf (doc.take o) ≤ t.start := by
  induction ts generalizing o with
  | nil => exact ⟨trivial, fun _ h => nomatch h⟩
  | cons t ts ih =>
    obtain ⟨a, b, hoa, hab, hb, hs, he, _, hrest⟩ := h
    have hwf : t.start ≤ t.stop := by rw [hs, he]; exact posOf_mono doc a b (Nat.le_of_lt hab)
    obtain ⟨ho, hh⟩ := ih hrest
    refine ⟨?_, fun t' ht' => ?_⟩
    · cases ts with
      | nil => exact hwf
      | cons u us =>
        refine ⟨hwf, ?_, ho⟩
        show t.stop ≤ u.start
        rw [he]
        exact hh u rfl
    · cases ht'
      rw [hs]
      exact posOf_mono doc o a hoa

/-- **tokens_ordered** (full strength): for every document every token has `start ≤ end` and
consecutive tokens satisfy `endᵢ ≤ startᵢ₊₁` in the `Position` order the tools use. -/
theorem tokens_ordered (doc : Bytes) :
    Ordered ((rawTokens doc).toks.map fun t => (⟨t.start, t.stop⟩ : Loc)) :=
  (pos_tracking_exact doc).ordered.1

theorem TokensAt.names {doc : Bytes} {o : Nat} {ts : List Token} (h : TokensAt doc o ts) :
    ∀ t ∈ ts, (t.kind = .upper ∨ t.kind = .lower) →
      ∃ a b, a < b ∧ b ≤ doc.length ∧ t.start = posOf (doc.take a) ∧
        t.text = (doc.drop a).take (b - a) ∧ t.stop = addCol t.start t.text.length := by
  induction ts generalizing o with
  | nil => simp
  | cons u us ih =>
    obtain ⟨a, b, _, hab, hb, hs, _, hid, hrest⟩ := h
    intro t ht hk
    rcases List.mem_cons.mp ht with rfl | ht
    · exact ⟨a, b, hab, hb, hs, (hid hk).1, (hid hk).2⟩
    · exact ih hrest t ht hk

/-- **name_span_exact** (full strength): an identifier token covers exactly the bytes that spell its
name: its text is the document slice at its start offset, and its span stays on one line with
column length = name length (in bytes). -/
theorem name_span_exact (doc : Bytes) (t : Token) (ht : t ∈ (rawTokens doc).toks)
    (hk : t.kind = .upper ∨ t.kind = .lower) :
    ∃ a b, a < b ∧ b ≤ doc.length ∧ t.start = posOf (doc.take a) ∧
      t.text = (doc.drop a).take (b - a) ∧ t.stop = addCol t.start t.text.length :=
  (pos_tracking_exact doc).names t ht hk

/-- the `-` / `2147483648` merge of `TokenProducer` (`prev_loc.union(&loc)`) keeps exactness: for
ordered operands the union starts at the minus sign and ends at the literal's end -/
theorem merge_span_exact (p t : Loc) (hp : p.wf) (ht : t.wf) (h : p.stop ≤ t.start) :
    posMin p.start t.start = p.start ∧ posMax p.stop t.stop = t.stop := by
  have := prodLoc_exact p [t] (show Ordered [p, t] from ⟨hp, h, ht⟩)
  simpa [prodLoc, Loc.union] using this

example : (rawTokens [97, 10, 32, 98, 99]).toks.map (fun t => (t.start, t.stop)) =
    [(⟨0, 0⟩, ⟨0, 1⟩), (⟨1, 1⟩, ⟨1, 3⟩)] := by decide +kernel
example : posOf [97, 10, 98] = ⟨1, 1⟩ := by decide

end SamVerif.Lexer
