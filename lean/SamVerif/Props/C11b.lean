import SamVerif.Props.C11
/-! C11, necessity of the announcement hypothesis of `gcStep_safe` (seeded fault C11h collected the
announced module keys BEFORE the freshly checked modules were inserted): a checked module that is
not announced to the collector is never marked, and one GC round reclaims a string it holds —
although the marker covers it (`Cov`). So `∀ md ∈ all, md.id ∈ changed` is not a proof convenience:
it is the obligation `ServerState::recheck` has to meet, and the correspondence run checks it on
every real GC round (`UNANNOUNCED-MODULE`). -/
namespace SamVerif.Gc
open SamVerif.Heap

/-- a heap holding one freshly allocated (temporary, not yet marked) long string -/
def h1 : Heap := (allocString init nameA).1
def newModule : Module := ⟨3, [.ref 0]⟩

theorem h1_slot : h1.slots = [.temp nameA false] := by decide

theorem unannounced_module_counterexample :
    Cov h1 [newModule] [.ref 0] ∧ DistinctIds [newModule] ∧
    Heap.read h1 (.ref 0) = some nameA ∧
    -- announced: survives
    Heap.read (gcStep h1 [newModule] [3] numModuleMarkedPerSlice numSweepUnit [some 3, none]) (.ref 0) = some nameA ∧
    -- not announced (the module entered `checked_modules` after the keys were collected): reclaimed
    Heap.read (gcStep h1 [newModule] [] numModuleMarkedPerSlice numSweepUnit [none]) (.ref 0) = none :=
  ⟨cov_marks h1 newModule, distinctIds_singleton newModule, by decide, by decide, by decide⟩

/-- and with the hypothesis the general theorem applies to the same state -/
example : Heap.read (gcStep h1 [newModule] [3] 100 10000 [some 3, none]) (.ref 0) = some nameA :=
  gcStep_safe h1 (by unfold h1; exact (inv_step inv_init (.allocString nameA) trivial)) [newModule]
    (distinctIds_singleton newModule) [3] (by simp [newModule]) 100 10000 [some 3, none] [.ref 0]
    (cov_marks h1 newModule) (.ref 0) (by simp) nameA (by decide)

end SamVerif.Gc
