import SamVerif.Props.C06d
/-!
# C06 (continued) — the memoised super-type walk (the code since fix 8144d53c)

`Gates.resolveSupersMF` models `resolve_all_transitive_super_types_recursive` (tied
exactly by the `supm` stream). This file proves, for every declaration table, type, path and
accumulator: the walk only appends; unless it flags a cycle (or the model's recursion budget is
exhausted) the collected list is *topologically ordered* — every collected type has all of its own
instantiated super types collected strictly before it — and contains every direct super type of the
queried type; hence a result without the cyclic flag contains no cycle of super-type instances
(`cycle_detected_memo`, under `WfTab`). Last part: the collected list holds no type twice
(`memo_result_nodup`), because what an unflagged walk appends has a toplevel off the current path.
`memoStep`, the fold step of the walk, the invariant rule `memo_preserves` and `memo_grows` are in
`Props/C06d.lean`.
-/
namespace SamVerif.Gates
open SamVerif.Assign

theorem sameTypeL_refl : ∀ (ts : List Ty), sameTypeL ts ts = true := sameType_refl_both.2

/-- membership up to `is_the_same_type` (the test the memoised walk uses) -/
def MemIn (l : List Ty) (u : Ty) : Prop := ∃ e ∈ l, sameType e u = true

theorem MemIn.append_left {l : List Ty} {u : Ty} (m : List Ty) (h : MemIn l u) : MemIn (l ++ m) u :=
  let ⟨e, he, hs⟩ := h
  ⟨e, List.mem_append_left m he, hs⟩

theorem any_iff_MemIn (l : List Ty) (s : Ty) : (l.any fun u => sameType u s) = true ↔ MemIn l s :=
  List.any_eq_true

/-- `u` is one of the instantiated direct super types of `s`. -/
def Edge (tab : List Decl) (s u : Ty) : Prop :=
  ∃ k d, keyOf s = some k ∧ findDecl tab k = some d ∧ u ∈ d.supers.map (subst (d.tparams.zip (targsOf s)))

/-- `Edge` is `SuperEdge` (`Props/C06d.lean`) with the toplevel of the source left out. -/
theorem SuperEdge.edge {tab : List Decl} {t u : Ty} {k : Nat × Nat} : SuperEdge tab t k u → Edge tab t u :=
  fun ⟨hk, d, hd, hu⟩ => ⟨k, d, hk, hd, hu⟩

theorem Edge.superEdge {tab : List Decl} {t u : Ty} {k : Nat × Nat} (h : Edge tab t u)
    (hk : keyOf t = some k) : SuperEdge tab t k u := by
  obtain ⟨k', d, hk', hd, hu⟩ := h
  cases hk'.symm.trans hk
  exact ⟨hk, d, hd, hu⟩

/-- every element has all of its super types among the elements before it -/
def OrderedAux (tab : List Decl) : List Ty → List Ty → Prop
  | _, [] => True
  | pre, s :: rest => (∀ u, Edge tab s u → MemIn pre u) ∧ OrderedAux tab (pre ++ [s]) rest

def Ordered (tab : List Decl) (l : List Ty) : Prop := OrderedAux tab [] l

theorem orderedAux_snoc (tab : List Decl) : ∀ (l pre : List Ty) (s : Ty),
    OrderedAux tab pre (l ++ [s]) ↔ OrderedAux tab pre l ∧ ∀ u, Edge tab s u → MemIn (pre ++ l) u
  | [], pre, s => by simp [OrderedAux]
  | x :: l, pre, s => by
    simp only [List.cons_append, OrderedAux, orderedAux_snoc tab l (pre ++ [x]) s, List.append_assoc,
      List.nil_append, and_assoc]

/-- the accumulator is fine: a cycle was flagged, the budget ran out, or the list is ordered -/
def Good (tab : List Decl) (a : SupAcc) : Prop := a.2.1 = true ∨ a.2.2 = true ∨ Ordered tab a.1

/-- what the walk from `t` owes on return: a flag, or every direct super type of `t` collected -/
def Post (tab : List Decl) (t : Ty) (r : SupAcc) : Prop :=
  r.2.1 = true ∨ r.2.2 = true ∨ ∀ u, Edge tab t u → MemIn r.1 u

/-- The walk only appends to the collected list. -/
theorem memo_extends (tab : List Decl) : ∀ (fuel : Nat) (path : List (Nat × Nat)) (t : Ty) (acc : SupAcc),
    ∃ suf, (resolveSupersMF tab fuel path t acc).1 = acc.1 ++ suf :=
  fun fuel path t acc => (memo_grows tab fuel path t acc).1

/-- budget exhaustion, once recorded, stays recorded -/
theorem memo_exhausted_monotone (tab : List Decl) : ∀ (fuel : Nat) (path : List (Nat × Nat)) (t : Ty)
    (acc : SupAcc), acc.2.2 = true → (resolveSupersMF tab fuel path t acc).2.2 = true :=
  fun fuel path t acc => (memo_grows tab fuel path t acc).2.2

theorem Grows.memIn {a b : SupAcc} {u : Ty} (g : Grows a b) (h : MemIn a.1 u) : MemIn b.1 u := by
  obtain ⟨suf, e⟩ := g.1
  rw [e]
  exact h.append_left suf

theorem memoStep_collects (tab : List Decl) (fuel : Nat) (path : List (Nat × Nat)) (a : SupAcc) (s : Ty) :
    MemIn (memoStep tab fuel path a s).1 s := by
  unfold memoStep
  split
  · rename_i hm; exact (any_iff_MemIn a.1 s).1 hm
  · exact ⟨s, List.mem_append_right _ List.mem_cons_self, sameType_refl s⟩

/-- Each direct super type of `t` has had its fold step, and later steps only append. -/
theorem memo_post (tab : List Decl) (fuel : Nat) (path : List (Nat × Nat)) (t : Ty) (acc : SupAcc) :
    Post tab t (resolveSupersMF tab fuel path t acc) := by
  -- 1 out of fuel; 2 `t` has no toplevel; 3 its toplevel is on the path; 4 it is not declared (2, 4: no edge
  -- leaves `t`); 5 the fold over the direct super types
  fun_cases resolveSupersMF tab fuel path t acc with
  | case1 => exact Or.inr (Or.inl rfl)
  | case2 _ _ _ _ hk => exact Or.inr (Or.inr fun u ⟨_, _, hk', _⟩ => nomatch hk.symm.trans hk')
  | case3 => exact Or.inl rfl
  | case4 _ _ _ _ k hk _ hd =>
    refine Or.inr (Or.inr fun u h => ?_)
    obtain ⟨_, _, hd', _⟩ := h.superEdge hk
    exact nomatch hd.symm.trans hd'
  | case5 fuel path t acc k hk _ d hd =>
    refine Or.inr (Or.inr fun u h => ?_)
    obtain ⟨_, d', hd', hu⟩ := h.superEdge hk
    cases hd.symm.trans hd'
    obtain ⟨b, g⟩ := foldl_grows_from (memoStep_grows tab fuel (k :: path)) acc hu
    exact g.memIn (memoStep_collects tab fuel (k :: path) b u)

/-- A pushed `s` goes behind its own super types, which the walk from `s` has collected (`memo_post`). -/
theorem memo_good (tab : List Decl) (fuel : Nat) (path : List (Nat × Nat)) (t : Ty) (acc : SupAcc) :
    Good tab acc → Good tab (resolveSupersMF tab fuel path t acc) := by
  refine memo_preserves tab (fun _ _ => Or.inr (Or.inl rfl)) (fun _ _ => Or.inl rfl) ?_ fuel path t acc
  intro fuel path a s _ _ ih
  have hpost := memo_post tab fuel path s a
  generalize resolveSupersMF tab fuel path s a = r at ih hpost
  exact (Grows.push r s).unless ih fun hord => (Grows.push r s).unless hpost fun hpost =>
    Or.inr (Or.inr ((orderedAux_snoc tab r.1 [] s).2 ⟨hord, hpost⟩))

/-- **Main invariant of the memoised walk.** Started on a fine accumulator it returns a fine
accumulator that contains every direct super type of `t` (unless flagged / out of budget). -/
theorem memo_invariant (tab : List Decl) : ∀ (fuel : Nat) (path : List (Nat × Nat)) (t : Ty) (acc : SupAcc),
    Good tab acc → Good tab (resolveSupersMF tab fuel path t acc) ∧ Post tab t (resolveSupersMF tab fuel path t acc) :=
  fun fuel path t acc hg => ⟨memo_good tab fuel path t acc hg, memo_post tab fuel path t acc⟩

/-- **Result of the memoised walk.** Unless `is_cyclic` is set (or the model's budget ran out, which
the driver checks never happens), the collected list is topologically ordered and contains every
direct super type of the queried type. -/
theorem memo_result_ordered (tab : List Decl) (t : Ty) :
    (resolveSupersM tab t).2.1 = true ∨ (resolveSupersM tab t).2.2 = true ∨
      (Ordered tab (resolveSupersM tab t).1 ∧ ∀ u, Edge tab t u → MemIn (resolveSupersM tab t).1 u) := by
  have := memo_invariant tab (tab.length + 2) [] t ([], false, false) (Or.inr (Or.inr trivial))
  exact (Grows.refl _).unless this.1 fun h => this.2.imp_right (Or.imp_right fun h' => ⟨h, h'⟩)

/-! ## An ordered result contains no cycle: the memoised walk reports every reachable cycle -/

/-- declared super types are nominal types (`NominalType` in the Rust code) -/
def WfTab (tab : List Decl) : Prop :=
  ∀ k d, findDecl tab k = some d → ∀ s ∈ d.supers, ∃ st m i ts, s = Ty.nominal st m i ts

def keysOf (l : List Ty) : List (Nat × Nat) := l.filterMap keyOf

theorem keyOf_subst_nominal (σ : Subst) (st : Bool) (m i : Nat) (ts : List Ty) :
    keyOf (subst σ (.nominal st m i ts)) = some (m, i) := by
  simp [subst, keyOf]

theorem sameType_keyOf (e u : Ty) (k : Nat × Nat) (h : sameType e u = true) (hu : keyOf u = some k) :
    keyOf e = some k := by
  revert h
  -- of the clauses of `sameType` only the one for two nominal types (`case3`) has a `u` with a toplevel;
  -- `case6` is the catch-all
  fun_cases sameType e u with
  | case3 _ m i ts _ m' i' ts' =>
    intro h
    simp only [Bool.and_eq_true, beq_iff_eq] at h
    rw [← hu, keyOf, keyOf, h.1.1, h.1.2]
  | case6 => exact nofun
  | _ => exact nomatch hu

theorem mem_keysOf {l : List Ty} {k : Nat × Nat} : k ∈ keysOf l ↔ ∃ t ∈ l, keyOf t = some k :=
  List.mem_filterMap

theorem memIn_key (l : List Ty) (u : Ty) (k : Nat × Nat) (h : MemIn l u) (hu : keyOf u = some k) :
    k ∈ keysOf l :=
  let ⟨e, he, hs⟩ := h
  mem_keysOf.2 ⟨e, he, sameType_keyOf e u k hs hu⟩

/-- Declared super types being nominal, the toplevel an edge leads to depends only on the toplevel it
starts from. -/
theorem SuperEdge.transfer {tab : List Decl} (hw : WfTab tab) {t u : Ty} {k : Nat × Nat}
    (h : SuperEdge tab t k u) :
    ∃ κ, keyOf u = some κ ∧
      ∀ t', keyOf t' = some k → ∃ u', SuperEdge tab t' k u' ∧ keyOf u' = some κ := by
  obtain ⟨_, d, hd, hu⟩ := h
  obtain ⟨sup, hsup, rfl⟩ := List.mem_map.1 hu
  obtain ⟨st, m, i, ts, rfl⟩ := hw k d hd sup hsup
  exact ⟨(m, i), keyOf_subst_nominal _ st m i ts, fun t' ht' =>
    ⟨subst (d.tparams.zip (targsOf t')) (.nominal st m i ts), ⟨ht', d, hd, List.mem_map_of_mem hsup⟩,
      keyOf_subst_nominal _ st m i ts⟩⟩

/-- no walk that starts at a collected toplevel can return to anything but a collected toplevel -/
def Closed (tab : List Decl) (l : List Ty) : Prop :=
  ∀ (n : Nat) (u : Ty) (seen : List (Nat × Nat)) (k : Nat × Nat), keyOf u = some k → k ∈ keysOf l →
    Returns tab n u seen → ∃ κ ∈ seen, κ ∈ keysOf l

theorem keysOf_append (a b : List Ty) : keysOf (a ++ b) = keysOf a ++ keysOf b :=
  List.filterMap_append

theorem closed_snoc (tab : List Decl) (hw : WfTab tab) (pre : List Ty) (s : Ty)
    (hc : Closed tab pre) (hs : ∀ u, Edge tab s u → MemIn pre u) : Closed tab (pre ++ [s]) := by
  intro n u seen k hk hmem hret
  rw [keysOf_append] at hmem ⊢
  by_cases hpre : k ∈ keysOf pre
  · obtain ⟨κ, h1, h2⟩ := hc n u seen k hk hpre hret
    exact ⟨κ, h1, List.mem_append_left _ h2⟩
  · -- then `k` is the key of `s`
    obtain ⟨s', hs', hks⟩ := mem_keysOf.1 ((List.mem_append.1 hmem).resolve_left hpre)
    cases List.mem_singleton.1 hs'
    cases hret with
    | hit _ _ k' _ hk' hm =>
      cases hk.symm.trans hk'
      exact ⟨k, hm, hmem⟩
    | step n' _ w k' _ hedge hrest =>
      cases hk.symm.trans hedge.1
      -- the same declared super type, instantiated at `s`, was collected before `s`
      obtain ⟨κ, hκ, htr⟩ := hedge.transfer hw
      obtain ⟨w', he', hκ'⟩ := htr s hks
      obtain ⟨κ', h1, h2⟩ := hc n' w (k :: seen) κ hκ (memIn_key pre w' κ (hs w' he'.edge) hκ') hrest
      rcases List.mem_cons.1 h1 with rfl | h1'
      · exact absurd h2 hpre
      · exact ⟨κ', h1', List.mem_append_left _ h2⟩

theorem ordered_closed (tab : List Decl) (hw : WfTab tab) : ∀ (rest pre : List Ty),
    OrderedAux tab pre rest → Closed tab pre → Closed tab (pre ++ rest)
  | [], pre, _, hc => by simpa using hc
  | s :: rest, pre, ho, hc => by
    have := ordered_closed tab hw rest (pre ++ [s]) ho.2 (closed_snoc tab hw pre s hc ho.1)
    simpa [List.append_assoc] using this

/-- **Every reachable cycle is reported by the memoised walk** (the code since fix 8144d53c): if a
cycle of the declaration graph can be reached from `t`, the result has `is_cyclic` set — or the
model's recursion budget was exhausted, which the driver reports and the `supm` stream never
observes. No bound on the length of the walk to the cycle. -/
theorem cycle_detected_memo (tab : List Decl) (hw : WfTab tab) (t : Ty) (n : Nat)
    (h : Returns tab n t []) :
    (resolveSupersM tab t).2.1 = true ∨ (resolveSupersM tab t).2.2 = true := by
  rcases memo_result_ordered tab t with hf | hx | ⟨hord, hpost⟩
  · exact Or.inl hf
  · exact Or.inr hx
  · exfalso
    -- with `t` pushed behind its super types the result is still ordered, hence closed
    have hclosed := ordered_closed tab hw _ [] ((orderedAux_snoc tab _ [] t).2 ⟨hord, hpost⟩)
      fun _ _ _ _ _ hk => nomatch hk
    rw [List.nil_append] at hclosed
    obtain ⟨k, hk⟩ : ∃ k, keyOf t = some k := by
      cases h with
      | hit _ _ k _ hk _ => exact ⟨k, hk⟩
      | step _ _ _ k _ hedge _ => exact ⟨k, hedge.1⟩
    -- the toplevel of `t` is among its keys, so the walk from `t` returns to a seen toplevel: none is
    obtain ⟨_, h3, _⟩ := hclosed n t [] k hk
      (mem_keysOf.2 ⟨t, List.mem_append_right _ List.mem_cons_self, hk⟩) h
    exact nomatch h3

example : WfTab [⟨(1, 1), [], [.nominal false 1 2 []]⟩, ⟨(1, 2), [], [.nominal false 1 1 []]⟩] := by
  intro k d h s hs
  simp only [findDecl] at h
  split at h
  · cases h; simp at hs; exact ⟨_, _, _, _, hs⟩
  · split at h
    · cases h; simp at hs; exact ⟨_, _, _, _, hs⟩
    · cases h

/-! ## No duplicates in the list collected by the memoised walk -/

theorem memo_path_hit (tab : List Decl) (fuel : Nat) (path : List (Nat × Nat)) (t : Ty) (acc : SupAcc)
    (κ : Nat × Nat) (hk : keyOf t = some κ) (hp : κ ∈ path) :
    (resolveSupersMF tab fuel path t acc).2.1 = true ∨ (resolveSupersMF tab fuel path t acc).2.2 = true := by
  cases fuel with
  | zero => exact Or.inr rfl
  | succ fuel =>
    left
    rw [resolveSupersMF, hk]
    simp [hp]

/-- A type is pushed after the walk from it, which would have flagged a toplevel on its path. -/
theorem memo_pushed_off (tab : List Decl) (fuel : Nat) (path : List (Nat × Nat)) (t : Ty) (acc : SupAcc) :
    (resolveSupersMF tab fuel path t acc).2.1 = false → (resolveSupersMF tab fuel path t acc).2.2 = false →
    ∀ e ∈ (resolveSupersMF tab fuel path t acc).1,
      e ∈ acc.1 ∨ ∃ k, keyOf t = some k ∧ ∀ κ, keyOf e = some κ → κ ∉ k :: path := by
  -- 1 out of fuel and 3 toplevel on the path set a flag; 2 no toplevel and 4 not declared append nothing; 5 the fold
  fun_induction resolveSupersMF tab fuel path t acc with
  | case1 => exact fun _ hx => nomatch hx
  | case2 => exact fun _ _ e he => Or.inl he
  | case3 => exact fun hf => nomatch hf
  | case4 => exact fun _ _ e he => Or.inl he
  | case5 fuel path t acc k hk _ d _ ih =>
    -- an earlier state of the fold is unflagged too, since flags are never cleared
    have key := List.foldlRecOn
      (motive := fun b => b.2.1 = false → b.2.2 = false →
        ∀ e ∈ b.1, e ∈ acc.1 ∨ ∀ κ, keyOf e = some κ → κ ∉ k :: path)
      (d.supers.map (subst (d.tparams.zip (targsOf t)))) (memoStep tab fuel (k :: path))
      (fun _ _ e he => Or.inl he)
      fun b hb s _ hf hx e he => by
        have grow := memoStep_grows tab fuel (k :: path) b s
        have hb := hb (grow.flag_false hf) (grow.exhausted_false hx)
        by_cases hm : (b.1.any fun u => sameType u s) = true
        · rw [memoStep, if_pos hm] at he; exact hb e he
        · rw [memoStep, if_neg hm] at hf hx he
          rcases List.mem_append.1 he with he | he
          · exact (ih b s hf hx e he).elim (hb e) fun ⟨_, _, h⟩ =>
              Or.inr fun κ hκ hin => h κ hκ (List.mem_cons_of_mem _ hin)
          · cases List.mem_singleton.1 he
            exact Or.inr fun κ hκ hin => (memo_path_hit tab fuel (k :: path) s b κ hκ hin).elim
              (fun h => nomatch h.symm.trans hf) (fun h => nomatch h.symm.trans hx)
    exact fun hf hx e he => (key hf hx e he).imp_right fun h => ⟨k, hk, h⟩

/-- Everything an unflagged, unexhausted walk appends has a toplevel that is neither on the path nor
the toplevel of the visited type. -/
theorem memo_pushed_keys (tab : List Decl) : ∀ (fuel : Nat) (path : List (Nat × Nat)) (t : Ty) (acc : SupAcc),
    (resolveSupersMF tab fuel path t acc).2.1 = false → (resolveSupersMF tab fuel path t acc).2.2 = false →
    ∀ e ∈ (resolveSupersMF tab fuel path t acc).1,
      e ∈ acc.1 ∨ ∀ κ, keyOf e = some κ → κ ∉ path ∧ keyOf t ≠ some κ :=
  fun fuel path t acc hf hx e he => (memo_pushed_off tab fuel path t acc hf hx e he).imp_right
    fun ⟨_, hk, h⟩ κ hκ => ⟨fun hp => h κ hκ (List.mem_cons_of_mem _ hp),
      fun hc => h κ hκ (Option.some.inj (hc.symm.trans hk) ▸ List.mem_cons_self)⟩

/-- no two entries are the same type (`is_the_same_type`, the memo test) -/
def NoDupS (l : List Ty) : Prop := l.Pairwise (fun e s => sameType e s = false)

def Good2 (a : SupAcc) : Prop := a.2.1 = true ∨ a.2.2 = true ∨ NoDupS a.1

/-- Pushing `s` keeps the list duplicate-free: a type the walk from `s` appended that were the same
type as `s` would have the toplevel of `s`, which `memo_pushed_off` excludes; one that was there before
is excluded by the memo test. -/
theorem memo_nodup (tab : List Decl) (fuel : Nat) (path : List (Nat × Nat)) (t : Ty) (acc : SupAcc) :
    Good2 acc → Good2 (resolveSupersMF tab fuel path t acc) := by
  refine memo_preserves tab (fun _ _ => Or.inr (Or.inl rfl)) (fun _ _ => Or.inl rfl) ?_ fuel path t acc
  intro fuel path a s hm _ ih
  have hpk := memo_pushed_off tab fuel path s a
  generalize resolveSupersMF tab fuel path s a = r at ih hpk
  refine (Grows.push r _).unless ih fun hnd => ?_
  by_cases hf : r.2.1 = true
  · exact Or.inl hf
  by_cases hx : r.2.2 = true
  · exact Or.inr (Or.inl hx)
  refine Or.inr (Or.inr (List.pairwise_append.2 ⟨hnd, List.pairwise_singleton _ _, ?_⟩))
  intro e he s' hs'
  cases List.mem_singleton.1 hs'
  refine Bool.eq_false_iff.2 fun hse => ?_
  rcases hpk (Bool.eq_false_iff.2 hf) (Bool.eq_false_iff.2 hx) e he with h | ⟨k, hk, h⟩
  · exact Bool.eq_false_iff.1 hm ((any_iff_MemIn a.1 _).2 ⟨e, h, hse⟩)
  · exact h k (sameType_keyOf e _ k hse hk) List.mem_cons_self

/-- The memoised walk never collects a type twice (unless it flags a cycle / runs out of budget). -/
theorem memo_nodup_invariant (tab : List Decl) (hw : WfTab tab) : ∀ (fuel : Nat) (path : List (Nat × Nat))
    (t : Ty) (acc : SupAcc), Good2 acc → Good2 (resolveSupersMF tab fuel path t acc) :=
  memo_nodup tab

/-- **No duplicates.** Unless `is_cyclic` is set (or the model's budget ran out) the list collected
by the memoised walk contains no two types that are the same type. -/
theorem memo_result_nodup (tab : List Decl) (hw : WfTab tab) (t : Ty) :
    (resolveSupersM tab t).2.1 = true ∨ (resolveSupersM tab t).2.2 = true ∨ NoDupS (resolveSupersM tab t).1 :=
  memo_nodup_invariant tab hw (tab.length + 2) [] t ([], false, false) (Or.inr (Or.inr List.Pairwise.nil))

end SamVerif.Gates
