import SamVerif.Props.C06b
/-!
# C06 (continued) — abstract type arguments, inherited-signature instantiation, name resolution,
kind gates, transitive super types

Property theorems about the second half of `Model/Gates.lean`. Tie: streams `abs`, `confi`, `nam`
(verdict of the real checker on generated declarations) and `sup` (exact result of the real
`resolve_all_transitive_super_types` through `samlang_checker::verif_hooks_c06`).

Both super-type walks only ever extend their accumulator (`Grows`), and `cycle_detected` for the
un-memoised walk rests on that. For the memoised walk the file has the invariant rule `memo_preserves`
and its instance `memo_grows`; what else holds of that walk is in `Props/C06e.lean`.
-/
namespace SamVerif.Gates
open SamVerif.Assign

theorem concreteOk_iff_both (tab : KindTable) :
    (∀ t, concreteOk tab true t = true ↔ ∀ n ∈ allNodes t, isInterface tab n.1 n.2 = false) ∧
    (∀ ts, concreteOkL tab ts = true ↔ ∀ n ∈ allNodesL ts, isInterface tab n.1 n.2 = false) := by
  apply Ty.induct
  case any => exact fun _ => iff_of_true rfl fun _ h => nomatch h
  case prim => exact fun _ => iff_of_true rfl fun _ h => nomatch h
  case generic => exact fun _ => iff_of_true rfl fun _ h => nomatch h
  case nominal =>
    intro s m i ts ih
    rw [concreteOk, allNodes, Bool.and_eq_true_iff, ih, List.forall_mem_cons, Bool.true_and, Bool.not_eq_true', and_comm]
  case fn =>
    intro as r ihl ih
    rw [concreteOk, allNodes, Bool.and_eq_true_iff, ihl, ih, List.forall_mem_append]
  case nil => exact iff_of_true rfl fun _ h => nomatch h
  case cons =>
    intro t ts ih ihl
    rw [concreteOkL, allNodesL, Bool.and_eq_true_iff, ih, ihl, List.forall_mem_append]

/-- **Abstract-type gate.** No `IncompatibleTypeKind` diagnostic iff no interface occurs at a
position that must be concrete: anywhere when validated strictly, anywhere strictly below the root
when the root may be abstract (bounds, `extends`/`implements` nodes). So an interface used as a
type argument, a function parameter type or a return type inside an annotation is always reported. -/
theorem abstract_targ_gate (tab : KindTable) (enforce : Bool) (t : Ty) :
    concreteOk tab enforce t = true ↔
      ∀ n ∈ (if enforce then allNodes t else innerNodes t), isInterface tab n.1 n.2 = false := by
  cases enforce with
  | true => exact (concreteOk_iff_both tab).1 t
  | false =>
    -- only a nominal root is treated differently: its own toplevel is not looked at
    cases t with
    | nominal s m i ts =>
      rw [concreteOk, innerNodes, Bool.false_and, Bool.not_false, Bool.and_true]
      exact (concreteOk_iff_both tab).2 ts
    | fn as r => exact (concreteOk_iff_both tab).1 (.fn as r)
    | _ => exact iff_of_true rfl fun _ h => nomatch h

example : concreteOk [((1, 7), true)] true (.nominal false 1 3 [.nominal false 1 7 []]) = false := by decide
example : concreteOk [((1, 7), true)] false (.nominal false 1 7 []) = true := by decide

def AnnotSubst (σ : Subst) : Prop := ∀ n t, σ.get n = some t → annot t

theorem subst_annot_both (σ : Subst) (hσ : AnnotSubst σ) :
    (∀ t, annot t → annot (subst σ t)) ∧
    (∀ ts, (anyFreeL ts = true ∧ noStaticsL ts = true) →
      (anyFreeL (substL σ ts) = true ∧ noStaticsL (substL σ ts) = true)) := by
  -- the `fn` and `cons` cases: `a`, `c` are `anyFree` and `noStatics` of the first component, `b`, `d` of the
  -- second, primed after substitution; what holds of the two components holds of the pair
  have pair : ∀ {a b c d a' b' c' d' : Bool}, ((a && b) = true ∧ (c && d) = true) →
      (a = true ∧ c = true → a' = true ∧ c' = true) → (b = true ∧ d = true → b' = true ∧ d' = true) →
      (a' && b') = true ∧ (c' && d') = true := by
    intro _ _ _ _ _ _ _ _ h f g
    have h1 := Bool.and_eq_true_iff.1 h.1
    have h2 := Bool.and_eq_true_iff.1 h.2
    exact ⟨Bool.and_eq_true_iff.2 ⟨(f ⟨h1.1, h2.1⟩).1, (g ⟨h1.2, h2.2⟩).1⟩,
      Bool.and_eq_true_iff.2 ⟨(f ⟨h1.1, h2.1⟩).2, (g ⟨h1.2, h2.2⟩).2⟩⟩
  apply Ty.induct
  case any => exact fun _ h => nomatch h.1
  case prim => exact fun _ h => h
  case generic =>
    intro n _
    rw [subst]
    cases hg : σ.get n with
    | some t => exact hσ n t hg
    | none => exact ⟨rfl, rfl⟩
  case nominal =>
    intro s m i ts ih h
    have hs := Bool.and_eq_true_iff.1 h.2
    have := ih ⟨h.1, hs.2⟩
    exact ⟨this.1, Bool.and_eq_true_iff.2 ⟨hs.1, this.2⟩⟩
  case fn => exact fun as r ihl ih h => pair h ihl ih
  case nil => exact id
  case cons => exact fun t ts ih ihl h => pair h ih ihl

theorem subst_annot (σ : Subst) (hσ : AnnotSubst σ) : ∀ (t : Ty), annot t → annot (subst σ t) :=
  (subst_annot_both σ hσ).1

theorem substL_annot (σ : Subst) (hσ : AnnotSubst σ) : ∀ (ts : List Ty),
    (anyFreeL ts = true ∧ noStaticsL ts = true) → (anyFreeL (substL σ ts) = true ∧ noStaticsL (substL σ ts) = true) :=
  (subst_annot_both σ hσ).2

theorem zip_annot : ∀ (ns : List Nat) (ts : List Ty), (∀ t ∈ ts, annot t) → AnnotSubst (ns.zip ts)
  | [], _, _ => fun _ _ h => nomatch h
  | _ :: _, [], _ => fun _ _ h => nomatch h
  | k :: ns, u :: ts, h => by
    intro n t hg
    rw [List.forall_mem_cons] at h
    rw [List.zip_cons_cons, Subst.get] at hg
    split at hg
    · exact Option.some.inj hg ▸ h.1
    · exact zip_annot ns ts h.2 n t hg

/-- Instantiating an inherited signature with annotation type arguments gives an annotation-shaped
signature again (so `conformance_exact` applies to what the checker really compares against). -/
theorem instantiate_wf (tparams : List Nat) (targs : List Ty) (m : MSig)
    (hm : m.wf) (ht : ∀ t ∈ targs, annot t) : (instantiateSig tparams targs m).wf := by
  have hσ := zip_annot tparams targs ht
  refine ⟨subst_annot _ hσ m.ty hm.1, List.forall_mem_map.2 fun q hq => ?_⟩
  obtain ⟨n, b⟩ := q
  cases b with
  | none => trivial
  | some b => exact subst_annot _ hσ b (hm.2 _ hq)

/-- **Conformance against a generic interface instance `I<targs>`**: the class passes iff every
member of `I` is declared and every declaration bearing such a name is public and has exactly the
member's type parameters, bounds and function type *with `I`'s type parameters replaced by the
type arguments*. -/
theorem conformance_inst_exact (tparams : List Nat) (targs : List Ty) (iface declared : List MSig)
    (hi : ∀ e ∈ iface, e.wf) (ht : ∀ t ∈ targs, annot t) (hd : ∀ a ∈ declared, a.wf) :
    classConformsInst tparams targs iface declared = true ↔
      (∀ e ∈ iface, ∃ a ∈ declared, a.name = e.name) ∧
      (∀ a ∈ declared, ∀ e ∈ iface, e.name = a.name →
        a.isPublic = true ∧ (instantiateSig tparams targs e).tparams = a.tparams ∧
        subst (tparams.zip targs) e.ty = a.ty) := by
  have hwf : ∀ e ∈ iface.map (instantiateSig tparams targs), e.wf :=
    List.forall_mem_map.2 fun e he => instantiate_wf tparams targs e (hi e he) ht
  rw [classConformsInst, conformance_exact _ _ hwf hd]
  -- `instantiateSig` leaves the name alone and its type is `subst (tparams.zip targs) e.ty` by definition
  simp only [List.forall_mem_map]
  exact Iff.rfl

example : classConformsInst [1] [.prim .int] [⟨1, true, [], .fn [.generic 1] (.generic 1)⟩]
    [⟨1, true, [], .fn [.prim .int] (.prim .int)⟩] = true := by decide
example : classConformsInst [1] [.prim .int] [⟨1, true, [], .fn [.generic 1] (.generic 1)⟩]
    [⟨1, true, [], .fn [.prim .bool] (.prim .int)⟩] = false := by decide

theorem resolveClassModule_not_imported (imports : List (Nat × Nat)) (cur name : Nat)
    (h : ∀ p ∈ imports, p.1 ≠ name) : resolveClassModule imports cur name = cur := by
  induction imports with
  | nil => rfl
  | cons p rest ih =>
    rw [List.forall_mem_cons] at h
    rw [resolveClassModule, if_neg h.1]
    exact ih h.2

theorem classExists_none (tab : List ((Nat × Nat) × Bool)) (m i : Nat)
    (h : ∀ e ∈ tab, e.1 ≠ (m, i)) : classExists tab m i = false := by
  induction tab with
  | nil => rfl
  | cons e rest ih =>
    rw [List.forall_mem_cons] at h
    rw [classExists, if_neg fun hc => h.1 (Prod.ext hc.1 hc.2)]
    exact ih h.2

/-- **Unresolved class ⇒ error.** A class name that is not imported and is not a toplevel of the
current module never resolves (`CannotResolveClass`). -/
theorem unresolved_class_reported (imports : List (Nat × Nat)) (cur : Nat)
    (tab : List ((Nat × Nat) × Bool)) (name : Nat)
    (himp : ∀ p ∈ imports, p.1 ≠ name) (hloc : ∀ e ∈ tab, e.1 ≠ (cur, name)) :
    classIdResolved imports cur tab name = false := by
  rw [classIdResolved, resolveClassModule_not_imported imports cur name himp]
  exact classExists_none tab cur name hloc

example : classIdResolved [(5, 2)] 1 [((2, 5), true)] 5 = true := by decide
example : classIdResolved [(5, 2)] 1 [((2, 5), true)] 6 = false := by decide
example : classIdResolved [] 1 [((1, 5), false)] 5 = false := by decide   -- an interface is not a class value

/-- **Unresolved module ⇒ error.** -/
theorem unresolved_module_reported (modules : List Nat) (m : Nat) :
    moduleResolved modules m = true ↔ m ∈ modules := by
  simp [moduleResolved]

theorem lookupMember_none (ms : List (Nat × Bool)) (n : Nat) (h : ∀ p ∈ ms, p.1 ≠ n) :
    lookupMember ms n = none := by
  induction ms with
  | nil => rfl
  | cons p rest ih =>
    rw [List.forall_mem_cons] at h
    rw [lookupMember, if_neg h.1]
    exact ih h.2

/-- **Unresolved member ⇒ error.** A name that is neither a declared method nor a declared field
of the class never resolves (`CannotResolveMember`), from anywhere. -/
theorem unresolved_member_reported (cx : Ctx) (c : ClassRef) (methods fields : List (Nat × Bool))
    (name : Nat) (hm : ∀ p ∈ methods, p.1 ≠ name) (hf : ∀ p ∈ fields, p.1 ≠ name) :
    memberAccessResolved cx c methods fields name = false := by
  rw [memberAccessResolved, memberResolved, fieldResolved, lookupMember_none methods name hm,
    lookupMember_none fields name hf]
  cases classVisible cx c <;> rfl

/-- A call whose callee is neither a function type nor `any` is always reported. -/
theorem non_function_call_rejected (t : Ty) : calleeOk t = true ↔ (∃ as r, t = .fn as r) ∨ ∃ p, t = .any p := by
  cases t <;> simp [calleeOk]

/-- A member access on a primitive, a function or an unbounded type parameter is always reported. -/
theorem member_object_gate (bg : List Nat) (t : Ty) : memberObjectOk bg t = true ↔
    (∃ s m i ts, t = .nominal s m i ts) ∨ (∃ n, t = .generic n ∧ n ∈ bg) ∨ ∃ p, t = .any p := by
  cases t <;> simp [memberObjectOk]

theorem field_tyargs_gate (g : Option Nat) : fieldTyArgsOk g = true ↔ g = none := by
  cases g <;> simp [fieldTyArgsOk]

/-- A declared class among the (transitive) super types is always reported. -/
theorem class_as_supertype_rejected (tab : KindTable) (known supers : List (Nat × Nat)) :
    superKindsOk tab known supers = true ↔
      ∀ k ∈ supers, k ∈ known → isInterface tab k.1 k.2 = true := by
  simp only [superKindsOk, List.all_eq_true, Bool.or_eq_true, Bool.not_eq_true', List.contains_eq_mem,
    decide_eq_false_iff_not]
  constructor
  · intro h k hk hkn
    rcases h k hk with h1 | h1
    · exact absurd hkn h1
    · exact h1
  · intro h k hk
    by_cases hkn : k ∈ known
    · exact Or.inr (h k hk hkn)
    · exact Or.inl hkn

/-- A function member inside an interface is always reported. -/
theorem function_in_interface_rejected (members : List Bool) :
    interfaceMembersOk false members = true ↔ ∀ m ∈ members, m = true := by
  simp [interfaceMembersOk]

/-! ## Transitive super types: every reachable cycle is reported -/

/-- `b` is a later state of the accumulator `a`: the list has only grown, no flag was cleared. -/
def Grows (a b : SupAcc) : Prop :=
  (∃ suf, b.1 = a.1 ++ suf) ∧ (a.2.1 = true → b.2.1 = true) ∧ (a.2.2 = true → b.2.2 = true)

theorem Grows.refl (a : SupAcc) : Grows a a := ⟨⟨[], (List.append_nil _).symm⟩, id, id⟩

theorem Grows.trans {a b c : SupAcc} (h1 : Grows a b) (h2 : Grows b c) : Grows a c := by
  obtain ⟨⟨s1, e1⟩, f1, x1⟩ := h1
  obtain ⟨⟨s2, e2⟩, f2, x2⟩ := h2
  exact ⟨⟨s1 ++ s2, by rw [e2, e1, List.append_assoc]⟩, f2 ∘ f1, x2 ∘ x1⟩

theorem Grows.flag_false {a b : SupAcc} (h : Grows a b) (hb : b.2.1 = false) : a.2.1 = false :=
  Bool.eq_false_iff.2 fun ha => Bool.eq_false_iff.1 hb (h.2.1 ha)

theorem Grows.exhausted_false {a b : SupAcc} (h : Grows a b) (hb : b.2.2 = false) : a.2.2 = false :=
  Bool.eq_false_iff.2 fun ha => Bool.eq_false_iff.1 hb (h.2.2 ha)

theorem Grows.push (a : SupAcc) (s : Ty) : Grows a (a.1 ++ [s], a.2.1, a.2.2) := ⟨⟨[s], rfl⟩, id, id⟩

theorem Grows.cyclic (a : SupAcc) : Grows a (a.1, true, a.2.2) :=
  ⟨⟨[], (List.append_nil _).symm⟩, fun _ => rfl, id⟩

theorem Grows.exhausted (a : SupAcc) : Grows a (a.1, a.2.1, true) :=
  ⟨⟨[], (List.append_nil _).symm⟩, id, fun _ => rfl⟩

/-- A claim "flagged ∨ exhausted ∨ `P`" about `a` is carried to a later state `b` by showing, from `P`, the
claim "flagged ∨ exhausted ∨ `Q`" about `b`: flags that are set stay set. -/
theorem Grows.unless {a b : SupAcc} {P Q : Prop} (g : Grows a b)
    (h : a.2.1 = true ∨ a.2.2 = true ∨ P) (k : P → b.2.1 = true ∨ b.2.2 = true ∨ Q) :
    b.2.1 = true ∨ b.2.2 = true ∨ Q :=
  h.elim (fun hf => Or.inl (g.2.1 hf)) fun h => h.elim (fun hx => Or.inr (Or.inl (g.2.2 hx))) k

theorem foldl_grows (f : SupAcc → Ty → SupAcc) (hf : ∀ a s, Grows a (f a s)) :
    ∀ (l : List Ty) (a : SupAcc), Grows a (l.foldl f a)
  | [], a => Grows.refl a
  | s :: l, a => (hf a s).trans (foldl_grows f hf l (f a s))

/-- In a fold whose steps only extend the accumulator, the state right after the step on `u` is an earlier
state of the fold's result: what that step establishes and growth preserves holds at the end. -/
theorem foldl_grows_from {f : SupAcc → Ty → SupAcc} (hf : ∀ a s, Grows a (f a s)) {u : Ty} {l : List Ty}
    (a : SupAcc) (h : u ∈ l) : ∃ b, Grows (f b u) (l.foldl f a) := by
  obtain ⟨l₁, l₂, rfl⟩ := List.append_of_mem h
  rw [List.foldl_append, List.foldl_cons]
  exact ⟨_, foldl_grows f hf l₂ _⟩

theorem walk_grows (tab : List Decl) (fuel : Nat) (path : List (Nat × Nat)) (t : Ty) (acc : SupAcc) :
    Grows acc (resolveSupersF tab fuel path t acc) := by
  -- 1 out of fuel; 2 `t` has no toplevel; 3 its toplevel is on the path; 4 it is not declared; 5 the fold
  fun_induction resolveSupersF tab fuel path t acc with
  | case1 _ _ acc => exact Grows.exhausted acc
  | case2 => exact Grows.refl _
  | case3 _ _ _ acc => exact Grows.cyclic acc
  | case4 => exact Grows.refl _
  | case5 _ _ _ _ _ _ _ _ _ ih =>
    exact foldl_grows _ (fun a s => (ih a s).trans (Grows.push _ s)) _ _

/-- once a cycle has been flagged it stays flagged -/
theorem cyclic_flag_monotone (tab : List Decl) : ∀ (fuel : Nat) (path : List (Nat × Nat)) (t : Ty)
    (acc : SupAcc), acc.2.1 = true → (resolveSupersF tab fuel path t acc).2.1 = true :=
  fun fuel path t acc => (walk_grows tab fuel path t acc).2.1

/-- `u` is one of the instantiated direct super types of `t`, whose key is `k`. -/
def SuperEdge (tab : List Decl) (t : Ty) (k : Nat × Nat) (u : Ty) : Prop :=
  keyOf t = some k ∧ ∃ d, findDecl tab k = some d ∧ u ∈ d.supers.map (subst (d.tparams.zip (targsOf t)))

/-- `Returns tab n t seen`: following at most `n` super-type edges from `t` one reaches a type
whose toplevel is in `seen` or was passed on the way — i.e. a cycle of the declaration graph is
reachable from `t` (with `seen = []`). -/
inductive Returns (tab : List Decl) : Nat → Ty → List (Nat × Nat) → Prop
  | hit (n : Nat) (t : Ty) (k : Nat × Nat) (seen : List (Nat × Nat)) :
      keyOf t = some k → k ∈ seen → Returns tab n t seen
  | step (n : Nat) (t u : Ty) (k : Nat × Nat) (seen : List (Nat × Nat)) :
      SuperEdge tab t k u → Returns tab n u (k :: seen) → Returns tab (n + 1) t seen

/-- **Cyclic super types are always reported.** If a cycle of the declaration graph is reachable
from `t` within `n` edges, `resolve_all_transitive_super_types` sets `is_cyclic` (given recursion
budget `> n`; the real function has no budget, the model's `resolveSupers` starts with
`declarations + 2`, enough for every simple path). -/
theorem cycle_detected (tab : List Decl) : ∀ (n : Nat) (t : Ty) (path : List (Nat × Nat)),
    Returns tab n t path → ∀ (fuel : Nat) (acc : SupAcc), n < fuel →
    (resolveSupersF tab fuel path t acc).2.1 = true := by
  intro n t path h
  induction h with
  | hit n t k seen hk hmem =>
    intro fuel acc hf
    cases fuel with
    | zero => omega
    | succ fuel =>
      rw [resolveSupersF, hk]
      dsimp only
      rw [if_pos (List.contains_iff_mem.2 hmem)]
  | step n t u k seen hedge _ ih =>
    intro fuel acc hf
    cases fuel with
    | zero => omega
    | succ fuel =>
      obtain ⟨hk, d, hd, hu⟩ := hedge
      rw [resolveSupersF, hk]
      dsimp only
      by_cases hc : k ∈ seen
      · rw [if_pos (List.contains_iff_mem.2 hc)]
      · rw [if_neg (mt List.contains_iff_mem.1 hc), hd]
        -- the walk from `u` sets the flag, and the fold steps after it keep it
        obtain ⟨b, g⟩ := foldl_grows_from
          (fun a s => (walk_grows tab fuel (k :: seen) s a).trans (Grows.push _ s)) acc hu
        exact g.2.1 (ih fuel b (Nat.lt_of_succ_lt_succ hf))

/-- Special cases: a toplevel that lists itself as a super type, and a two-cycle. -/
example : (resolveSupers [⟨(1, 1), [], [.nominal false 1 1 []]⟩] (.nominal false 1 1 [])).2.1 = true := by
  decide
example : (resolveSupers [⟨(1, 1), [], [.nominal false 1 2 []]⟩, ⟨(1, 2), [], [.nominal false 1 1 []]⟩]
    (.nominal false 1 1 [])).2.1 = true := by decide
example : (resolveSupers [⟨(1, 1), [], [.nominal false 1 2 []]⟩, ⟨(1, 2), [], []⟩]
    (.nominal false 1 1 [])).2 = (false, false) := by decide

/-! ### Memoised variant (repair of C05-F6) -/

/-- The body of the fold in `resolveSupersMF`, under a name: `(…).foldl (memoStep tab fuel (k :: path)) acc`
is the last clause of `resolveSupersMF` by unfolding, which is how the proofs below meet it. -/
def memoStep (tab : List Decl) (fuel : Nat) (path : List (Nat × Nat)) (a : SupAcc) (s : Ty) : SupAcc :=
  if a.1.any (fun u => sameType u s) then a
  else ((resolveSupersMF tab fuel path s a).1 ++ [s], (resolveSupersMF tab fuel path s a).2.1,
    (resolveSupersMF tab fuel path s a).2.2)

/-- The memoised walk keeps every property of the accumulator that setting a flag keeps and that
pushing a type not yet collected keeps, given it holds after the walk from that type. -/
theorem memo_preserves (tab : List Decl) {I : SupAcc → Prop}
    (exhausted : ∀ a, I a → I (a.1, a.2.1, true)) (cyclic : ∀ a, I a → I (a.1, true, a.2.2))
    (push : ∀ fuel path a s, (a.1.any fun u => sameType u s) = false → I a →
      I (resolveSupersMF tab fuel path s a) →
      I ((resolveSupersMF tab fuel path s a).1 ++ [s], (resolveSupersMF tab fuel path s a).2.1,
        (resolveSupersMF tab fuel path s a).2.2))
    (fuel : Nat) (path : List (Nat × Nat)) (t : Ty) (acc : SupAcc) :
    I acc → I (resolveSupersMF tab fuel path t acc) := by
  -- 1 out of fuel; 2 `t` has no toplevel; 3 its toplevel is on the path; 4 it is not declared; 5 the fold
  fun_induction resolveSupersMF tab fuel path t acc with
  | case1 _ _ acc => exact exhausted acc
  | case2 => exact id
  | case3 _ _ _ acc => exact cyclic acc
  | case4 => exact id
  | case5 fuel path _ _ k _ _ _ _ ih =>
    refine fun h => List.foldlRecOn _ (memoStep tab fuel (k :: path)) h fun a ha s _ => ?_
    unfold memoStep
    split
    · exact ha
    · rename_i hm
      exact push fuel (k :: path) a s (Bool.eq_false_iff.2 hm) ha (ih a s ha)

theorem memo_grows (tab : List Decl) (fuel : Nat) (path : List (Nat × Nat)) (t : Ty) (acc : SupAcc) :
    Grows acc (resolveSupersMF tab fuel path t acc) :=
  memo_preserves tab (I := Grows acc) (fun a h => h.trans (Grows.exhausted a))
    (fun a h => h.trans (Grows.cyclic a)) (fun _ _ _ s _ _ h => h.trans (Grows.push _ s))
    fuel path t acc (Grows.refl acc)

theorem memoStep_grows (tab : List Decl) (fuel : Nat) (path : List (Nat × Nat)) (a : SupAcc) (s : Ty) :
    Grows a (memoStep tab fuel path a s) := by
  unfold memoStep
  split
  · exact Grows.refl a
  · exact (memo_grows tab fuel path s a).trans (Grows.push _ s)

/-- The flag is monotone for the memoised walk as well. -/
theorem cyclic_flag_monotone_memo (tab : List Decl) : ∀ (fuel : Nat) (path : List (Nat × Nat)) (t : Ty)
    (acc : SupAcc), acc.2.1 = true → (resolveSupersMF tab fuel path t acc).2.1 = true :=
  fun fuel path t acc => (memo_grows tab fuel path t acc).2.1

example : (resolveSupersM [⟨(1, 1), [], [.nominal false 1 2 [], .nominal false 1 2 []]⟩, ⟨(1, 2), [], []⟩]
    (.nominal false 1 1 [])).1.length = 1 := by decide
example : (resolveSupers [⟨(1, 1), [], [.nominal false 1 2 [], .nominal false 1 2 []]⟩, ⟨(1, 2), [], []⟩]
    (.nominal false 1 1 [])).1.length = 2 := by decide
example : (resolveSupersM [⟨(1, 1), [], [.nominal false 1 2 []]⟩, ⟨(1, 2), [], [.nominal false 1 1 []]⟩]
    (.nominal false 1 1 [])).2.1 = true := by decide

end SamVerif.Gates
