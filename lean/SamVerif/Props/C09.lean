import SamVerif.Lemmas.Doc
import SamVerif.Lemmas.CommentQueue
import SamVerif.Lemmas.Imports
import SamVerif.Model.Attach
import SamVerif.Lemmas.ExprDoc
import SamVerif.Lemmas.CommentText
/-!
# C09 — Formatting is idempotent and keeps every comment

The models `Doc`, `CommentQueue`, `Imports`, `ExprDoc` and `CommentText` have a lemma module each
(`Lemmas/Doc.lean`, …), which also holds the proof-side definitions the statements below use (`Lin`,
`tval`; `remaining`, `elemComments`; `items`, `IRok`, `chainVal`; `flatComments`, `importComments`).
`Model/Attach.lean` and the comment store have none: their helpers stand next to the theorems here, as
do `Built`, `WF` and `replace`.

Models: `Model/Doc.lean` (the layout engine `crates/samlang-printer/src/prettier.rs`, all of it),
`Model/CommentQueue.lean` (the parser's pending-comment queue and the comment-store helpers),
`Model/Imports.lean` (import reorganisation of `source_module_to_document`), `Model/Attach.lean` (where
the comments in front of an expression are attached), `Model/ExprDoc.lean` (document construction of
an expression fragment: identifiers, literals, unary, binary, member access, calls, dotted chains) and
`Model/CommentText.lean` (`post_process_block_comment`).
Tie, checked on every run by `vlib/c09.py`:
* protocol `layout`/`expand`/`flatten`: the real `prettier::pretty_print` and the real builders
  (hook H4) against `prettyPrint` etc. on random documents, exact string equality;
* protocol `fmtdoc`: the *real* `Document` the source printer builds for every generated module
  (hook H4b) is laid out by the model (exact equality with the real output) and the hypothesis
  `Agree commentKey d` of `layout_preserves_text` is evaluated on it (`agreeB`);
* protocol `queue`/`prepend`: the real `SourceParser::{peek, consume}` and
  `mod_associated_comments_with_additional_preceding_comments` against the model;
* protocols `list`, `imports`, `attach`/`paren`, `exprdoc`, `ctext`: the real list production, import
  section, attachment helpers, `create_doc` and lexer text against `parseList`, `Model/Imports.lean`,
  `Model/Attach.lean`, `Model/ExprDoc.lean`, `Model/CommentText.lean`.

What is *not* modelled (reached only by the implementation-side oracle): the comment attachment code
of the parser's ~60 productions other than the attachment in front of an expression (`Model/Attach.lean`),
and the per-construct document construction of the printer outside the fragments of `Model/ExprDoc.lean`
and `Model/Imports.lean`.

The round trip with comments and the idempotence of formatting, `print (parse (print t)) = print t` on
the C08 expression fragment extended with comment references, are proved in part in `Props/C09b.lean`
(`roundtrip_with_comments_partial`, `format_idempotent_with_comments_partial`: side condition `RT`,
comments on atoms); comments on operator nodes are covered only by the implementation-side oracle of
`vlib/c09.py` (idempotence and the comment sequence on every token gap).
-/
namespace SamVerif.Doc
open Doc

/-- **The layout is a linearisation.** For every width and every document, the tokens the engine
collects are exactly what the document prints to along *one* choice of branch per `Union`:
no text leaf is invented, dropped, duplicated or reordered by the work-list loop, the budget
check or the back-tracking `truncate`, and every line break carries the indentation of its
enclosing `Nest`s. -/
theorem layout_is_linearisation (w : Nat) (d : Doc) : Lin 0 d (tokens w d) := by
  obtain ⟨ts, h1, h2⟩ := genBest_spec w [] 0 false [(0, d)]
  unfold tokens
  rw [h1]
  cases h2 (genBest_true w [] 0 false _ rfl) with
  | cons hd hn => cases hn; rwa [List.nil_append, List.append_nil]

example : tokens 3 (group (.concat (.text ['a', 'b']) (.concat .line (.text ['c', 'd'])))) =
    [.text ['a', 'b'], .line 0 false, .text ['c', 'd']] := by
  simp [tokens, group, flatten, genBest, utf8Len, Char.utf8Size]

/-- **Layout preserves text** (`layout_preserves_text` of DESIGN §8 C09), for every width: under
any reading `k` of the leaves on which the two branches of every `Union` agree, the content of the
collected tokens is the content of the document. -/
theorem layout_preserves_text {α : Type} (k : Key α) (w : Nat) (d : Doc) (h : Agree k d) :
    tval k (tokens w d) = val k d :=
  (layout_is_linearisation w d).tval k h

theorem Reads.tokens {α : Type} {k : Key α} {d : Doc} {cs : List α} (h : Reads k d cs) (w : Nat) :
    tval k (tokens w d) = cs :=
  (layout_preserves_text k w d h.1).trans h.2

/-- **Rendering touches only whitespace**: the hard-line undo (`truncate(trim_end)`), the per-line
`trim_end`, the final `trim_end` and the trailing newline never remove or add a non-whitespace
character. -/
theorem render_only_whitespace (toks : List Tok) :
    nonWs (post (render toks)) = tval textKey toks := by
  rw [post_nonWs, render_nonWs]

example : post (render [.text ['a'], .line 2 true, .line 0 false, .text ['b', ' ']]) =
    ['a', '\n', 'b', '\n'] := rfl

/-- **String-level statement**: for every width, the non-whitespace characters of
`pretty_print(width, d)` are those of `d`'s text leaves, in order. -/
theorem pretty_print_preserves_text (w : Nat) (d : Doc) (h : Agree textKey d) :
    nonWs (prettyPrint w d) = val textKey d := by
  unfold prettyPrint
  rw [render_only_whitespace, layout_preserves_text textKey w d h]

/-- The width changes whitespace only (`Props/C08b.lean` builds on this). -/
theorem pretty_print_width_irrelevant (w₁ w₂ : Nat) (d : Doc) (h : Agree textKey d) :
    nonWs (prettyPrint w₁ d) = nonWs (prettyPrint w₂ d) := by
  rw [pretty_print_preserves_text w₁ d h, pretty_print_preserves_text w₂ d h]

/-- `group`: the flattened alternative has the same non-whitespace text as the original. -/
theorem group_content_equal (d : Doc) (h : Agree textKey d) :
    Agree textKey (group d) ∧ val textKey (group d) = val textKey d :=
  Reads.group textKey_space (.of_agree h)

/-- `bracket_flexible` (hence `no_space_bracket`, `spaced_bracket`). -/
theorem bracketFlexible_content_equal (l r : Str) (sep doc : Doc)
    (hs : Agree textKey sep) (hd : Agree textKey doc) :
    Agree textKey (bracketFlexible l sep doc r) ∧
      val textKey (bracketFlexible l sep doc r) =
        nonWs l ++ (val textKey sep ++ val textKey doc) ++ val textKey sep ++ nonWs r :=
  Reads.bracketFlexible textKey_space l r (.of_agree hs) (.of_agree hd)

/-- `line_comment`: whichever way it is wrapped, the comment's own characters come out complete
and in order; only the continuation leader `"// "` is repeated. -/
theorem lineComment_content_equal (t : Str) :
    Agree commentKey (lineComment t) ∧ val commentKey (lineComment t) = nonWs t :=
  lineComment_ok t

/-- `multiline_comment` (block and doc comments). -/
theorem multilineComment_content_equal (starter t : Str) :
    Agree commentKey (multilineComment starter t) ∧
      val commentKey (multilineComment starter t) =
        commentKey.text starter ++ nonWs t ++ ['*', '/'] :=
  multilineComment_ok starter t

/-- The full-strength reading (*every* non-whitespace character, leaders included) is **false**
for the comment builders, by design: re-wrapping repeats the leader. -/
theorem lineComment_textKey_counterexample : ¬ Agree textKey (lineComment ['a']) := by
  intro h
  -- in the re-flowed branch, the `Union` of the one word: `a` and a blank against `a`, a hard line
  -- and the leader `// `
  exact absurd h.2.2.2.1 (by decide)

/-- **Every comment survives layout, at every width.** -/
theorem layout_keeps_line_comment (w : Nat) (t : Str) :
    tval commentKey (tokens w (lineComment t)) = nonWs t :=
  (lineComment_ok t).tokens w

theorem layout_keeps_block_comment (w : Nat) (starter t : Str) :
    tval commentKey (tokens w (multilineComment starter t)) =
      commentKey.text starter ++ nonWs t ++ ['*', '/'] :=
  (multilineComment_ok starter t).tokens w

example : tval commentKey (tokens 4 (lineComment ['h', 'i', ' ', 'y', 'o'])) = ['h', 'i', 'y', 'o'] :=
  layout_keeps_line_comment 4 _

/-- Documents assembled from primitive leaves and the four builders (this is the vocabulary
`source_printer.rs` uses everywhere except its two hand-made `Union`s for if-else chains and dotted
chains; the dotted chains of `Model/ExprDoc.lean` are proved to agree in `dottedChain_ok`, and on the
real documents the hypothesis `Agree commentKey` is evaluated at run time, protocol `fmtdoc`). -/
inductive Built : Doc → Prop
  | nil : Built .nil
  | text (s) : Built (.text s)
  | nstext (s) : Built (.nstext s)
  | line : Built .line
  | lineNil : Built .lineNil
  | lineHard : Built .lineHard
  | concat {a b} : Built a → Built b → Built (.concat a b)
  | nest (n) {d} : Built d → Built (.nest n d)
  | group {d} : Built d → Built (group d)
  | bracket (l r) {sep d} : Built sep → Built d → Built (bracketFlexible l sep d r)
  | lineComment (t) : Built (lineComment t)
  | multilineComment (s t) : Built (multilineComment s t)

theorem built_agree {d : Doc} (h : Built d) : Agree commentKey d := by
  induction h with
  | nil | text | nstext | line | lineNil | lineHard => trivial
  | concat _ _ iha ihb => exact ⟨iha, ihb⟩
  | nest _ _ ih => exact ih
  | group _ ih => exact (Reads.group commentKey_space (.of_agree ih)).1
  | bracket l r _ _ ihs ihd =>
    exact (Reads.bracketFlexible commentKey_space l r (.of_agree ihs) (.of_agree ihd)).1
  | lineComment t => exact (lineComment_ok t).1
  | multilineComment s t => exact (multilineComment_ok s t).1

/-- **Builder-made documents keep all their text and every comment character at every width**
(modulo repeated comment leaders). -/
theorem built_layout_preserves {d : Doc} (h : Built d) (w : Nat) :
    tval commentKey (tokens w d) = val commentKey d :=
  layout_preserves_text commentKey w d (built_agree h)

example : Built (bracketFlexible ['('] .lineNil (.concat (lineComment ['x']) (.text ['y'])) [')']) :=
  .bracket _ _ .lineNil (.concat (.lineComment _) (.text _))

/-
Termination of the layout: `genBest` is accepted by Lean as a total function by well-founded recursion
on `lsize` (sum of the sizes of the documents in the work list, `Model/Doc.lean`); there is no fuel
and no separate statement to prove.
-/

end SamVerif.Doc

namespace SamVerif.CommentQueue

/-- **The queue conserves comments**: whatever sequence of `peek`/`consume` the productions
perform on whatever token stream, the comments handed out by the `consume`s, followed by the
pending ones and those still in the stream, are exactly the stream's comments in source order —
none lost, none duplicated, none reordered. -/
theorem queue_conserves (ops : List Op) (stream : List RawTok) :
    (run ops (init stream)).2.flatten ++ remaining (run ops (init stream)).1 = commentsOf stream := by
  have := run_conserves ops (init stream)
  simpa [remaining, init] using this

/-- Once the stream is exhausted and nothing is pending (the state after the production that
consumed `EOF`), every comment of the file has been handed to some production. -/
theorem queue_complete (ops : List Op) (stream : List RawTok)
    (h1 : (run ops (init stream)).1.rest = []) (h2 : (run ops (init stream)).1.pending = []) :
    (run ops (init stream)).2.flatten = commentsOf stream := by
  have := queue_conserves ops stream
  simpa [remaining, h1, h2, commentsOf] using this

/-- `consume` never leaves anything pending, and hands out exactly what `peek` had gathered. -/
theorem consume_takes_all_pending (st : State) :
    (consume st).1.pending = [] ∧ (consume st).2 = (peek st).1.pending := ⟨rfl, rfl⟩

example :
    let c1 : Comment := ⟨.block, ['x']⟩
    let c2 : Comment := ⟨.line, ['y']⟩
    let r := run [.peek, .consume, .consume, .consume] (init [.tok ['a'], .comment c1, .comment c2, .tok ['b']])
    r.2 = [[], [c1, c2], []] ∧ r.1.rest = [] ∧ r.1.pending = [] := ⟨rfl, rfl, rfl⟩

/-! ## Comma separated lists on the queue (`parse_comma_separated_list_with_end_token_with_start`)

The model mirrors `pushBack` of the code: the comments consumed with a trailing comma are put back in
front of the pending ones (finding C09-F7, comments before a trailing comma dropped, fixed by /repo
85e0ab0). -/

theorem pushBack_conserves (cs : List Comment) (st : State) :
    remaining (pushBack cs st) = cs ++ remaining st := pushBack_remaining cs st

/-- **A comma separated list conserves comments**, for every element count, with or without a
trailing comma and at end of input: the comments handed to the elements, then those handed to the
closing token, then what is still ahead, are exactly the comments that were ahead, in order. -/
theorem list_production_conserves (endTok : Str) (fuel : Nat) (st : State) :
    elemComments (parseList endTok fuel st [] []).2.1 ++ (parseList endTok fuel st [] []).2.2 ++
        remaining (parseList endTok fuel st [] []).1 = remaining st := by
  simpa [elemComments_nil] using parseList_conserves endTok fuel st [] []

example :
    let c : Comment := ⟨.block, ['c']⟩
    (parseList ['>'] 5 (init [.tok ['A'], .tok [','], .tok ['B'], .comment c, .tok [','], .tok ['>']]) [] []).2 =
      ([(['A'], []), (['B'], [])], [c]) := rfl

/-! ## Prepending comments to an already built node
(`mod_associated_comments_with_additional_preceding_comments`, source_parser.rs:2181-2196)

On the original code the statement below was false (empty store, reference 0, one extra comment: the
comment became unreachable): finding C09-F1, fixed by /repo commit 5884ffb. The model follows the
fixed code. -/

/-- Store invariant: entry 0 is `NoComment` (`CommentStore::default`, never overwritten). -/
def WF (st : Store) : Prop := st[0]? = some []

theorem wf_empty : WF emptyStore := rfl

theorem createRef_frame (st : Store) (cs : List Comment) {j : Nat} (hj : j < st.length) :
    get (createRef st cs).1 j = get st j := by
  unfold createRef get
  split
  · rfl
  · exact List.getElem?_append_left hj

theorem createRef_wf (st : Store) (cs : List Comment) (h : WF st) : WF (createRef st cs).1 :=
  (createRef_frame st cs (List.getElem?_eq_some_iff.mp h).1).trans h

/-- `create_comment_reference` returns a reference that reads back exactly the given comments. -/
theorem createRef_get (st : Store) (cs : List Comment) (h : WF st) :
    get (createRef st cs).1 (createRef st cs).2 = some cs := by
  unfold createRef get
  split
  · rename_i he
    have : cs = [] := by simpa using he
    subst this
    exact h
  · simp

/-- What both helpers do to the entry of a node whose comments are `old`: a node without comments
(reference to `NoComment`) gets a fresh reference, otherwise its entry is overwritten in place. -/
def replace (st : Store) (r : Nat) : List Comment → List Comment → Store × Nat
  | [], new => createRef st new
  | _ :: _, new => (st.set r new, r)

theorem replace_spec {st : Store} (hwf : WF st) {r : Nat} {old : List Comment}
    (h : st[r]? = some old) (new : List Comment) :
    get (replace st r old new).1 (replace st r old new).2 = some new ∧ WF (replace st r old new).1 ∧
      ∀ j, j < st.length → (old ≠ [] → j ≠ r) → get (replace st r old new).1 j = get st j := by
  cases old with
  | nil =>
    exact ⟨createRef_get st new hwf, createRef_wf st new hwf, fun j hj _ => createRef_frame st new hj⟩
  | cons e es =>
    have hlt : r < st.length := (List.getElem?_eq_some_iff.mp h).1
    -- entry 0 is `NoComment`, so a node that has comments is not stored there
    have hr : r ≠ 0 := fun hr => by rw [hr, show st[0]? = some [] from hwf] at h; cases h
    refine ⟨?_, ?_, fun j _ hj => ?_⟩
    · exact (List.getElem?_set_self hlt)
    · exact (List.getElem?_set_ne hr).trans hwf
    · exact List.getElem?_set_ne (Ne.symm (hj (List.cons_ne_nil _ _)))

/-- **Prepending conserves comments** (full strength): the returned reference reads back the
additional comments followed by the node's own, every other live reference is unchanged, and the
store invariant is kept. -/
theorem prepend_conserves (st : Store) (hwf : WF st) (r : Nat) (extra old : List Comment)
    (h : get st r = some old) :
    ∃ st' r', prepend st r extra = some (st', r') ∧ get st' r' = some (extra ++ old) ∧ WF st' ∧
      ∀ j, j < st.length → (old ≠ [] → j ≠ r) → get st' j = get st j := by
  refine ⟨_, _, ?_, replace_spec hwf h (extra ++ old)⟩
  unfold prepend
  rw [show st[r]? = some old from h]
  cases old with
  | nil => rw [List.append_nil]; rfl
  | cons => rfl

example : ∃ st' r', prepend emptyStore 0 [⟨.block, ['c']⟩] = some (st', r') ∧
    get st' r' = some [⟨.block, ['c']⟩] := ⟨_, _, rfl, rfl⟩

/-- **Unwrapping parentheses conserves comments**: the inner expression ends up with the comments
written after `(`, its own, and those written before `)`, in this order; other references and the
store invariant are untouched. -/
theorem keepParen_conserves (st : Store) (hwf : WF st) (r : Nat) (start stop old : List Comment)
    (h : get st r = some old) :
    ∃ st' r', keepParen st r start stop = some (st', r') ∧
      get st' r' = some (start ++ old ++ stop) ∧ WF st' ∧
      ∀ j, j < st.length → (old ≠ [] → j ≠ r) → get st' j = get st j := by
  have h' : st[r]? = some old := h
  by_cases hemp : (start.isEmpty && stop.isEmpty) = true
  · obtain ⟨h1, h2⟩ := Bool.and_eq_true_iff.mp hemp
    cases List.isEmpty_iff.mp h1
    cases List.isEmpty_iff.mp h2
    refine ⟨st, r, ?_, by rw [List.nil_append, List.append_nil]; exact h, hwf, fun _ _ _ => rfl⟩
    unfold keepParen
    rw [if_pos hemp, h']; rfl
  · refine ⟨_, _, ?_, replace_spec hwf h (start ++ old ++ stop)⟩
    unfold keepParen
    rw [if_neg hemp, h']
    cases old with
    | nil => rw [List.append_nil]; rfl
    | cons => rfl

example : ∃ st' r', keepParen emptyStore 0 [⟨.block, ['a']⟩] [⟨.line, ['b']⟩] = some (st', r') ∧
    get st' r' = some [⟨.block, ['a']⟩, ⟨.line, ['b']⟩] := ⟨_, _, rfl, rfl⟩

end SamVerif.CommentQueue

namespace SamVerif.Imports
open SamVerif.Doc
open SamVerif.CommentQueue (Comment Kind)

/-! ## Import reorganisation (`source_module_to_document`, source_printer.rs:1260-1302)

The one place where the printer reorders and merges declarations. Tied to the code by protocol
`imports` (the model's document for the import section equals the real `Document`, hook H4b). -/

/-- **Grouping is exact.** Every printed import line carries the comments of *all* source lines
importing that module, in source order, and all their members; there is one line per imported
module. -/
theorem imports_group_exact (imps : List Import) :
    ((organize imps).map (·.path)).Nodup ∧
    (∀ p, p ∈ (organize imps).map (·.path) ↔ p ∈ imps.map (·.path)) ∧
    ∀ g ∈ organize imps,
      g.comments = (imps.filter (fun i => i.path = g.path)).map (·.comments) ∧
      g.members = (imps.filter (fun i => i.path = g.path)).flatMap (·.members) := by
  have hnd : ((organize imps).map (·.path)).Nodup := nodup_foldl imps [] (by simp)
  refine ⟨hnd, ?_, ?_⟩
  · intro p
    have := mem_paths_foldl p imps []
    simpa [organize] using this
  · intro g hg
    have h1 := fieldAt_organize (f := (·.comments)) (fi := fun i => [i.comments]) (fun _ _ => rfl)
      (fun _ => rfl) g.path imps
    have h2 := fieldAt_organize (f := (·.members)) (fi := (·.members)) (fun _ _ => rfl)
      (fun _ => rfl) g.path imps
    rw [fieldAt_of_mem _ hnd hg] at h1 h2
    exact ⟨h1.trans List.map_eq_flatMap.symm, h2⟩

/-- **No comment of an import line or of an imported member is lost or duplicated by merging and
sorting**: the comments printed in the import section are a permutation of the comments attached
to the source import lines and their members. -/
theorem imports_conserve_comments (imps : List Import) :
    (flatComments (sortedGroups imps)).Perm (imps.flatMap importComments) := by
  refine (sortedGroups_comments imps).trans ?_
  have := flatComments_foldl imps []
  simpa [organize, flatComments] using this

/-- The comments move *with their line*: inside one printed line they appear in source order of the
merged lines. -/
theorem imports_comments_move_with_line (imps : List Import) (g : Group) (hg : g ∈ sortedGroups imps) :
    g.comments.flatten = (imps.filter (fun i => i.path = g.path)).flatMap (·.comments) := by
  unfold sortedGroups at hg
  obtain ⟨g0, hg0, rfl⟩ := List.mem_map.mp hg
  have hm : g0 ∈ organize imps := (sortBy_perm _ _).mem_iff.mp hg0
  have := ((imports_group_exact imps).2.2 g0 hm).1
  rw [this, List.flatMap_def]

example :
    let c1 : Comment := ⟨.line, ['1']⟩
    let c3 : Comment := ⟨.line, ['3']⟩
    (sortedGroups [⟨['B'], [c1], [⟨[], ['y']⟩]⟩, ⟨['A'], [], [⟨[], ['z']⟩]⟩, ⟨['B'], [c3], [⟨[c1], ['x']⟩]⟩]) =
      [⟨['A'], [[]], [⟨[], ['z']⟩]⟩, ⟨['B'], [[c1], [c3]], [⟨[c1], ['x']⟩, ⟨[], ['y']⟩]⟩] := rfl

end SamVerif.Imports

namespace SamVerif.Attach
open SamVerif.CommentQueue (Comment)

/-! ## Attachment of the comments in front of an expression (`Model/Attach.lean`) -/

theorem printCE_lead_rest (e : CE) (h : NF e) : printCE e = (lead e).map .comment ++ rest e := by
  -- an inner node of a normal form has no comments of its own: its text begins with its left child's
  induction e with
  | leaf cs a => rfl
  | post cs e p ih =>
    obtain ⟨rfl, he⟩ := h
    rw [printCE, ih he, lead, rest]
    simp only [List.map_nil, List.nil_append, List.append_assoc]
  | bin cs l ocs o r ihl _ =>
    obtain ⟨rfl, hl, _⟩ := h
    rw [printCE, ihl hl, lead, rest]
    simp only [List.map_nil, List.nil_append, List.append_assoc]

theorem nf_wrapLeft (start stop : List Comment) (e : CE) (h : NF e) : NF (wrapLeft start stop e) := by
  induction e with
  | leaf cs a => trivial
  | post cs e p ih => exact ⟨h.1, ih h.2⟩
  | bin cs l ocs o r ihl _ => exact ⟨h.1, ihl h.2.1, h.2.2⟩

theorem lead_wrapLeft (start stop : List Comment) (e : CE) :
    lead (wrapLeft start stop e) = start ++ lead e ++ stop := by
  induction e with
  | leaf cs a => rfl
  | post cs e p ih => exact ih
  | bin cs l ocs o r ihl _ => exact ihl

theorem rest_wrapLeft (start stop : List Comment) (e : CE) : rest (wrapLeft start stop e) = rest e := by
  induction e with
  | leaf cs a => rfl
  | post cs e p ih => rw [wrapLeft, rest, ih, rest]
  | bin cs l ocs o r ihl _ => rw [wrapLeft, rest, ihl, rest]

/-- **Unwrapping parentheses keeps the source order**: the text of the inner expression becomes
`(`-comments, its own leading comments, `)`-comments, then the rest unchanged. -/
theorem printCE_wrapLeft (start stop : List Comment) (e : CE) (h : NF e) :
    printCE (wrapLeft start stop e) =
      start.map .comment ++ (lead e).map .comment ++ stop.map .comment ++ rest e := by
  rw [printCE_lead_rest _ (nf_wrapLeft start stop e h), lead_wrapLeft, rest_wrapLeft,
    List.map_append, List.map_append]

theorem attachLeft_eq_wrapLeft (extra : List Comment) (e : CE) : attachLeft extra e = wrapLeft extra [] e := by
  induction e with
  | leaf cs a => rw [attachLeft, wrapLeft, List.append_nil]
  | post cs e p ih => rw [attachLeft, wrapLeft, ih]
  | bin cs l ocs o r ihl _ => rw [attachLeft, wrapLeft, ihl]

theorem printCE_attachLeft (extra : List Comment) (e : CE) (h : NF e) :
    printCE (attachLeft extra e) = extra.map .comment ++ printCE e := by
  rw [attachLeft_eq_wrapLeft, printCE_wrapLeft _ _ e h, printCE_lead_rest e h, List.map_nil,
    List.append_nil, List.append_assoc]

theorem nf_attachLeft (extra : List Comment) (e : CE) (h : NF e) : NF (attachLeft extra e) :=
  attachLeft_eq_wrapLeft extra e ▸ nf_wrapLeft extra [] e h

theorem nf_normalize (e : CE) : NF (normalize e) := by
  induction e with
  | leaf cs a => trivial
  | post cs e p ih => exact ⟨rfl, nf_attachLeft _ _ ih⟩
  | bin cs l ocs o r ihl ihr => exact ⟨rfl, nf_attachLeft _ _ ihl, ihr⟩

/-- **Re-reading never changes the text**: the normal form prints exactly like the original tree
(comments and tokens, in order) — wherever comments were attached, none is lost or moved. -/
theorem printCE_normalize (e : CE) : printCE (normalize e) = printCE e := by
  induction e with
  | leaf cs a => rfl
  | post cs e p ih =>
    simp only [normalize, printCE, printCE_attachLeft _ _ (nf_normalize e), ih, List.map_nil, List.nil_append]
  | bin cs l ocs o r ihl ihr =>
    simp only [normalize, printCE, printCE_attachLeft _ _ (nf_normalize l), ihl, ihr, List.map_nil, List.nil_append]

theorem attachLeft_nil (e : CE) : attachLeft [] e = e := by
  induction e with
  | leaf cs a => rfl
  | post cs e p ih => rw [attachLeft, ih]
  | bin cs l ocs o r ihl _ => rw [attachLeft, ihl]

/-- Normal-form trees are fixpoints of print-then-read. -/
theorem normalize_of_nf (e : CE) (h : NF e) : normalize e = e := by
  induction e with
  | leaf cs a => rfl
  | post cs e p ih =>
    obtain ⟨rfl, he⟩ := h
    simp only [normalize, ih he, attachLeft_nil]
  | bin cs l ocs o r ihl ihr =>
    obtain ⟨rfl, hl, hr⟩ := h
    simp only [normalize, ihl hl, ihr hr, attachLeft_nil]

/-- Both attachment policies print the additional comments in front of the expression, so the fix
changes the tree, never the first-pass text. -/
theorem attach_same_text (extra : List Comment) (e : CE) (h : NF e) :
    printCE (attachOuter extra e) = printCE (attachLeft extra e) := by
  rw [printCE_attachLeft extra e h]
  cases e <;> simp only [attachOuter, printCE, List.map_append, List.append_assoc]

/-- **The fixed policy is stable under re-reading, the old one was not**: with `attachLeft` the
parser's result already is the tree that reading the printed text gives back … -/
theorem attachLeft_stable (extra : List Comment) (e : CE) (h : NF e) :
    normalize (attachLeft extra e) = attachLeft extra e :=
  normalize_of_nf _ (nf_attachLeft extra e h)

/-- … whereas `attachOuter` produced a tree that the next pass replaced by a different one
(finding C09-F5; the differing trees are laid out differently by the printer). -/
theorem attachOuter_unstable_counterexample :
    ¬ ∀ (extra : List Comment) (e : CE), NF e → normalize (attachOuter extra e) = attachOuter extra e := by
  intro h
  have := h [⟨.block, ['c']⟩] (.post [] (.leaf [] 0) 1) ⟨rfl, trivial⟩
  revert this
  decide

end SamVerif.Attach

namespace SamVerif.ExprDoc
open SamVerif.Doc
open SamVerif.CommentQueue (Comment)

/-! ## Document construction of the expression fragment (`Model/ExprDoc.lean`)

Tied by protocol `exprdoc`: `docOf` of the parsed expression equals the real `Document`
(`create_doc`, hook `expression_doc`) structurally, for generated expressions with comments. -/

/-- The three mutually recursive functions of the model (`docOf` / `chainIR` / `argDocs`) against
their item counterparts. -/
theorem docOf_chain_args_ok (e : AExpr) :
    (Agree commentKey (docOf e) ∧ val commentKey (docOf e) = items (printA e)) ∧
    (IRok (chainIR e) ∧ chainVal (chainIR e) = items (chainItems e)) ∧
    ((∀ d ∈ argDocs e, Agree commentKey d) ∧ (argDocs e).map (val commentKey) = (argItems e).map items) := by
  suffices h : Prints (docOf e) (printA e) ∧ IRPrints (chainIR e) (chainItems e) ∧
      PrintsAll (argDocs e) (argItems e) from ⟨h.1, h.2.1, h.2.2.spec⟩
  induction e with
  | atom cs name =>
    have h := optPreceding_ok cs (.name name)
    exact ⟨h, .base h, .nil⟩
  | unary cs u e ih =>
    have h := unaryDoc_ok cs u e.prec ih.1
    exact ⟨h, .base h.paren, .nil⟩
  | binary cs o ocs l r ihl ihr =>
    have h := binaryDoc_ok cs o ocs l r ihl.1 ihr.1
    exact ⟨h, .base h.paren, .nil⟩
  | field cs obj ncs name ih =>
    have h := ih.2.1.field ncs name
    exact ⟨(optPreceding_ok cs h.dottedChain).cast (by simp only [printA, List.append_assoc]), h, .nil⟩
  | call cs callee scs args ecs ihc iha =>
    have h := ihc.2.1.call (argsDoc_ok iha.2.2 scs ecs)
    exact ⟨(optPreceding_ok cs h.dottedChain).cast (by simp only [printA, List.append_assoc]), h, .nil⟩
  | argsNil => exact ⟨.nil, .base .nil, .nil⟩
  | argsCons e rest ihe ihr => exact ⟨.nil, .base .nil, .cons ihe.1 ihr.2.2⟩

/-- **The document of an expression has agreeing `Union`s and its content is exactly the printed
comment/token sequence** — identifiers, literals, unary and binary expressions, member access, calls
and whole dotted chains (all three layouts of `create_doc_for_dotted_chain`), argument lists with
their start / ending comments, parentheses where the printer keeps them. -/
theorem docOf_ok (e : AExpr) :
    Agree commentKey (docOf e) ∧ val commentKey (docOf e) = (printA e).flatMap itemChars :=
  (docOf_chain_args_ok e).1

/-- A latent gap of `create_chainable_ir_docs`, mirrored by the model: the comments stored on an
*inner* node of a dotted chain are never printed. The parser cannot produce such a tree (it
attaches comments to the node owning the first token, finding C09-F5 fixed by a0babc7; protocol
`exprdoc` checks on every run that inner chain nodes of real parses carry no comments), so no input
loses a comment here. -/
theorem inner_chain_comment_not_printed (c : Comment) (a f g : Str) :
    printA (.field [] (.field [c] (.atom [] a) [] f) [] g) =
      printA (.field [] (.field [] (.atom [] a) [] f) [] g) := rfl

/-- **For every width, the laid-out expression consists of exactly its comments and tokens**, in
print order (whitespace and repeated comment leaders aside): the layout engine and the document
construction together neither lose nor reorder anything on this fragment. -/
theorem expression_layout_text (w : Nat) (e : AExpr) :
    tval commentKey (tokens w (docOf e)) = (printA e).flatMap itemChars :=
  Reads.tokens (docOf_ok e) w

/-- Hence the non-whitespace text of a formatted expression does not depend on the width. -/
theorem expression_layout_width_irrelevant (w₁ w₂ : Nat) (e : AExpr) :
    tval commentKey (tokens w₁ (docOf e)) = tval commentKey (tokens w₂ (docOf e)) := by
  rw [expression_layout_text, expression_layout_text]

end SamVerif.ExprDoc

namespace SamVerif.CommentText
open SamVerif.Doc (isWs)

/-! ## Comment text normalisation (`post_process_block_comment`) against the printer's re-flow

Tied by protocol `ctext` (the real lexer's comment text vs `postProcess` on generated bodies). -/

/-- **Reading back a re-flowed line gives its words**: a continuation line written by the printer —
indentation, ` * `, words separated by one blank — is read by the lexer as exactly those words, whatever
the words are (they may start or end with `*`, `/`, …): one star is decoration, everything after it is
text. (The seeded variant that strips every leading star falsifies this for `*kwargs`.) -/
theorem stripLine_reflowLine (indent : Nat) (ws : List Str) (hne : ws ≠ []) (hw : ∀ w ∈ ws, Word w) :
    stripLine (reflowLine indent ws) = joinSp ws := by
  have hsp : isWs ' ' = true := by decide
  have hstar : isWs '*' = false := by decide
  have h1 : trimStart (reflowLine indent ws) = '*' :: ' ' :: joinSp ws := by
    unfold trimStart reflowLine
    rw [List.append_assoc, dropWhile_replicate_sp]
    simp [List.dropWhile, hsp, hstar]
  unfold stripLine
  rw [h1]
  exact trim_sp_joinSp ws hne hw

example : stripLine (reflowLine 3 [['*', 'k'], ['*', '*', 'u', '*', '*'], ['*']]) =
    ['*', 'k', ' ', '*', '*', 'u', '*', '*', ' ', '*'] := rfl

/-- **The opener's own line keeps its text** (since the /repo fix of finding C09-F9; before it a text
beginning with `*` lost that star): what follows `/*` on its line is read back as exactly the words
written, star-led or not. -/
theorem stripOpener_ok (ws : List Str) (hne : ws ≠ []) (hw : ∀ w ∈ ws, Word w) :
    stripOpener (' ' :: joinSp ws ++ [' ']) = joinSp ws :=
  trim_pad_joinSp 1 1 ws hne hw

example : stripOpener (' ' :: joinSp [['*', 'k'], ['b']] ++ [' ']) = joinSp [['*', 'k'], ['b']] := rfl

end SamVerif.CommentText
