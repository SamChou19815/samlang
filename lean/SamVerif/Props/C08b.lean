import SamVerif.Props.C08
import SamVerif.Props.C09
import SamVerif.Lemmas.FmtDoc
/-!
# C08 composed with C09 (the layout engine and the import model of C09)

The only file of C08 that imports another property's theorems.  It discharges the two clauses of the
property text that C08's own models do not speak about:

* "× line widths": C08's models are token-level; `Model/Doc.lean` (C09) is the layout engine.
* "up to the documented merging and sorting of import lines": `Model/Imports.lean` (C09) is
  `source_module_to_document`'s import section (source_printer.rs:1260-1302).

`Model/FmtDoc.lean` is the printer one level earlier — `docOf e` is the `Document` that
`create_doc` builds for an expression of `Model/FmtFull.lean` (dotted chains with their three layouts,
calls and tuples, unary/binary, if-else flattened ∪ expanded, match, lambda, blocks with statements),
and the theorems below say that *every* layout alternative of *every* `Union` in it reads the token
sequence `printE e`, so that the round-trip theorems of `Props/C08.lean` hold at every line width.
-/
namespace SamVerif.C08b
open SamVerif.Doc SamVerif.Imports

/-- **Checking the printed tokens at one width is checking them at every width**: if, for a document
whose `Union` branches agree on their text, the non-whitespace characters of the output at some width
`w₀` are `target` (in the `fmt-expr` correspondence: the characters of the model's token sequence
`printE e`), then they are `target` at every width.  (From `pretty_print_width_irrelevant`, C09.) -/
theorem tokens_at_one_width_suffice (d : Doc) (h : Agree textKey d) (target : List Char) (w₀ : Nat)
    (h0 : nonWs (prettyPrint w₀ d) = target) (w : Nat) : nonWs (prettyPrint w d) = target := by
  rw [pretty_print_width_irrelevant w w₀ d h, h0]

/-- **Imports are the same up to merging and sorting**: the printed import section has exactly one
line per imported module, for exactly the modules of the source, and the members on the line of a
module are a permutation of all members imported from that module anywhere in the source — nothing is
lost, duplicated or attributed to another module.  (From `imports_group_exact`, `sortBy_perm`, C09.)
This is the normal form modulo which the reparse oracle compares `parse (format m)` with `parse m`. -/
theorem imports_same_up_to_merge_sort (imps : List Import) :
    ((sortedGroups imps).map (·.path)).Nodup ∧
    (∀ p, p ∈ (sortedGroups imps).map (·.path) ↔ p ∈ imps.map (·.path)) ∧
    ∀ g ∈ sortedGroups imps,
      g.members.Perm ((imps.filter (fun i => i.path = g.path)).flatMap (·.members)) := by
  obtain ⟨hnd, hmem, hg⟩ := imports_group_exact imps
  have hperm : (sortBy (fun a b => strLe a.path b.path) (organize imps)).Perm (organize imps) :=
    sortBy_perm _ _
  have hpaths : ((sortedGroups imps).map (·.path)) =
      (sortBy (fun a b => strLe a.path b.path) (organize imps)).map (·.path) := by
    simp [sortedGroups, List.map_map, Function.comp_def]
  refine ⟨?_, ?_, ?_⟩
  · rw [hpaths]
    exact (hperm.map _).nodup_iff.mpr hnd
  · intro p
    rw [hpaths, (hperm.map _).mem_iff]
    exact hmem p
  · intro g hgm
    unfold sortedGroups at hgm
    obtain ⟨g0, hg0, rfl⟩ := List.mem_map.mp hgm
    have hm : g0 ∈ organize imps := hperm.mem_iff.mp hg0
    have := (hg g0 hm).2
    simp only
    rw [← this]
    exact sortBy_perm _ _

/-! ## The document of an expression: every layout is the printed token sequence -/

open SamVerif.FmtDoc SamVerif.FmtFull

/-- **Every `Union` of the document of an expression offers the same text in both branches** — the
flattened, less-expanded and expanded layouts of a dotted chain, the flattened and expanded if-else,
the one-line and broken forms of every bracket: whatever the layout engine picks, no token is lost,
added or reordered.  (`L.Ok`: the same holds inside the opaque leaves.) -/
theorem doc_unions_agree (L : Leaves) (hL : L.Ok) (e : Expr) : Agree textKey (docOf L e) :=
  (ir_ok L hL e).doc.1

/-- The text of the document is the printed token sequence of `Model/FmtFull.lean`. -/
theorem doc_reads_printed_tokens (L : Leaves) (hL : L.Ok) (e : Expr) :
    val textKey (docOf L e) = chars L (printE e) :=
  (ir_ok L hL e).doc.2

/-- **For every width, the tokens the layout engine emits for `docOf e` read as `printE e`.** -/
theorem layout_tokens_every_width (L : Leaves) (hL : L.Ok) (e : Expr) (w : Nat) :
    tval textKey (tokens w (docOf L e)) = chars L (printE e) := by
  rw [layout_preserves_text textKey w _ (doc_unions_agree L hL e), doc_reads_printed_tokens L hL e]

/-- String level: for every width, the non-whitespace characters of the formatted expression are
those of `printE e`. -/
theorem formatted_text_every_width (L : Leaves) (hL : L.Ok) (e : Expr) (w : Nat) :
    nonWs (prettyPrint w (docOf L e)) = chars L (printE e) := by
  rw [pretty_print_preserves_text w _ (doc_unions_agree L hL e), doc_reads_printed_tokens L hL e]

/-- **Round trip at every width**: at every line width the formatted expression consists of exactly
the tokens `printE e`, and these parse back to `regroup e` (`roundtrip_expr_total`), which denotes the
same program (`format_preserves_meaning`). -/
theorem roundtrip_every_width (L : Leaves) (hL : L.Ok) (e : Expr) (w : Nat) :
    nonWs (prettyPrint w (docOf L e)) = chars L (printE e) ∧ parseE (printE e) = some (regroup e) :=
  ⟨formatted_text_every_width L hL e w, roundtrip_expr_total e⟩

/-- The obligation is not vacuous and not trivially true: a chain document whose expanded layout has
lost the first member (the shape of the seeded fault C08f) has a `Union` whose branches differ. -/
theorem chain_layout_losing_a_member_counterexample :
    ¬ Agree textKey (.union (concatV [.nstext ['a'], .text ['.'], .nstext ['b'], .text ['.'], .nstext ['c']])
      (concatV [.nstext ['a'], .nest 2 (concatV [.lineHard, .text ['.'], .nstext ['c']])])) := by
  intro h
  exact absurd h.1 (by decide)

/-- Leaves that satisfy `L.Ok` (identifiers as non-static text, no type arguments / annotations). -/
def plainLeaves : Leaves :=
  ⟨fun a => .nstext (Nat.repr a).toList, fun p => .nstext (Nat.repr p).toList, fun _ => .nil,
   fun k => .nstext (Nat.repr k).toList, fun k => .nstext (Nat.repr k).toList, fun _ => .nil,
   fun k => .nstext (Nat.repr k).toList⟩

theorem plainLeaves_ok : plainLeaves.Ok :=
  ⟨fun _ => trivial, fun _ => trivial, fun _ => trivial, fun _ => trivial, fun _ => trivial,
   fun _ => trivial, fun _ => trivial⟩

/-- `a.b` really is a `Union` of three layouts. -/
example : docOf plainLeaves (.post (.atom 0) 1 true) =
    .union (concatV [.nstext ['0'], .nil, .text ['.'], .nstext ['1'], .nil])
      (.union (concatV [.nstext ['0'], .nil, .text ['.'], concatV [.nstext ['1'], .nil], .nest 2 .nil])
        (concatV [.nstext ['0'], .nest 2 (concatV [.lineHard, .text ['.'], .nstext ['1'], .nil])])) := by
  rfl

end SamVerif.C08b
