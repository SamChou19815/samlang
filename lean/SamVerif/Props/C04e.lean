import SamVerif.Props.C04
/-!
# C04 (continued) — the emitted template literal is lexically valid and cooks to the denoted string
-/
namespace SamVerif.Backends

/-- Lexical validity of the text between the back quotes of a substitution-free JS template literal
(ECMAScript 12.9.6), stated independently of `tsCook`: no unescaped back quote, no `${`, no lone
trailing backslash, `\x` only with two hex digits, no `\0` before a digit, no `\1`…`\9`, no `\u`. -/
def templateOk : Text → Bool
  | [] => true
  | 96 :: _ => false
  | 36 :: 123 :: _ => false
  | 92 :: [] => false
  | 92 :: 13 :: 10 :: rest => templateOk rest
  | 92 :: 120 :: h1 :: h2 :: rest =>
    (hexDigitVal h1).isSome && (hexDigitVal h2).isSome && templateOk rest
  | 92 :: c :: rest =>
    if c = 48 then !((rest.head?.map isDigit).getD false) && templateOk rest
    else if isDigit c || c = 120 || c = 117 then false
    else templateOk rest
  | 13 :: 10 :: rest => templateOk rest
  | _ :: rest => templateOk rest
termination_by s => s.length
decreasing_by all_goals simp_wf <;> omega

/-- the cooking model rejects exactly the lexically invalid texts -/
theorem tsCook_isSome (t : Text) : (tsCook t).isSome = templateOk t := by
  -- `templateOk` has the case tree of `tsCook`: in each case of the recursion its equation applies.
  -- `assumption` settles the side conditions of that equation (no earlier pattern matches), which in
  -- cases 8–18 and 21 are hypotheses of the case word for word, and the line continuation
  -- `\<CR><LF>` (case 5), whose goal is then the induction hypothesis
  fun_induction tsCook t <;> rw [templateOk] <;> try assumption
  -- the empty text; back quote, `${` and a lone backslash are rejected at sight
  case case1 | case2 | case3 | case4 => rfl
  -- `\x`: both characters are hex digits, or the text is rejected
  case case6 hb ha ih => rw [Option.isSome_map, ih, ha, hb]; rfl
  case case7 h1 h2 _ hx =>
    cases ha : hexDigitVal h1 with
    | none => rfl
    | some a => cases hb : hexDigitVal h2 with
      | none => rfl
      | some b => exact (hx a b ha hb).elim
  -- one character is cooked and the scan goes on: the six letters (their tests evaluate), CR LF,
  -- a CR, an ordinary character
  case case8 | case9 | case10 | case11 | case12 | case13 | case19 | case20 | case21 =>
    rw [Option.isSome_map]; assumption
  -- `\0` before a digit and `\1` … `\9`, `\x`, `\u` are rejected; `\0` otherwise, an escaped line
  -- terminator and any other escaped character are skipped: the conditions of the case decide the `if`s
  case case14 | case15 | case16 | case17 | case18 => simp [Option.isSome_map, *]
  -- left are the seven side conditions of the last equation of `templateOk` in case 20 (a CR not
  -- before LF). Six say that an earlier pattern starts with another character than 13: they evaluate
  all_goals simp
  -- the seventh is the pattern CR LF, excluded by the hypothesis of the case
  assumption

/-- **(a) The emitted template literal is always lexically valid**: for every string literal the
lexer accepts (any code points), the text `template_literal_text` writes between the back quotes
contains no unescaped back quote, no `${`, no `\0` before a digit and no invalid escape. -/
theorem template_literal_valid (raw : Text) (h : lexAccepts raw = true) :
    templateOk (tsEscape (content raw)) = true := by
  obtain ⟨hw, _⟩ := content_wellEsc raw (lexAccepts_wellEscQ raw h)
  rw [← tsCook_isSome, cook_wellEsc _ hw]
  rfl

/-- **(b) … and cooks to exactly the characters the literal denotes** (the characters the escape
table of the specification assigns, which are also what the WebAssembly data segment stores), as
UTF-16 code units — for every accepted literal, no restriction on the code points. -/
theorem template_literal_cooks (raw : Text) (h : lexAccepts raw = true) :
    tsDecode (content raw) = some ((wasmUnescape (content raw)).flatMap utf16) := by
  obtain ⟨hw, _⟩ := content_wellEsc raw (lexAccepts_wellEscQ raw h)
  exact cook_wellEsc _ hw

/-- the printer with the `\0` look-ahead narrowed to octal digits (the fault of seed C04g) -/
def tsEscapeOctalLookahead : Text → Text
  | [] => []
  | 92 :: [] => [92]
  | 92 :: n :: r =>
    if n = 48 ∧ (r.head?.map (fun d => decide (48 ≤ d ∧ d ≤ 55))).getD false = true then
      tsNulBeforeDigit ++ tsEscapeOctalLookahead r
    else 92 :: n :: tsEscapeOctalLookahead r
  | c :: r =>
    match tsRewriteOf c r.head? with
    | some rep => rep ++ tsEscapeOctalLookahead r
    | none => c :: tsEscapeOctalLookahead r

/-- `"\08"`: accepted by the lexer; with the octal-only look-ahead the emitted template literal
contains `\0` followed by the digit 8 — a SyntaxError — while the real printer writes `\x008`,
which is valid and cooks to NUL, `8`. The full decimal look-ahead is necessary. -/
theorem octal_lookahead_counterexample :
    lexAccepts [92, 48, 56] = true ∧
      templateOk (tsEscapeOctalLookahead (content [92, 48, 56])) = false ∧
      templateOk (tsEscape (content [92, 48, 56])) = true ∧
      tsDecode (content [92, 48, 56]) = some [0, 56] := by
  refine ⟨by decide, ?_, ?_, ?_⟩
  · have e : tsEscapeOctalLookahead (content [92, 48, 56]) = [92, 48, 56] := by decide
    rw [e, templateOk]
    all_goals simp [isDigit]
  · exact template_literal_valid _ (by decide)
  · rw [template_literal_cooks _ (by decide)]
    have e : wasmUnescape (content [92, 48, 56]) = [0, 56] := by decide
    rw [e]; simp [utf16]

example : lexAccepts [97, 96, 36, 123, 92, 110, 92, 48, 57, 13, 92, 34, 233] = true := by decide

end SamVerif.Backends
