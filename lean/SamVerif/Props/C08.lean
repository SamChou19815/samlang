import SamVerif.Lemmas.FmtEval
import SamVerif.Lemmas.FmtPat
import SamVerif.Model.FmtLists
/-!
# C08 — Formatting a file never changes the program it denotes (expression / literal fragment)

Models: `Model/FmtFull.lean` expressions, `Model/FmtEval.lean` evaluation, `Model/Fmt.lean` tables
and literals, `Model/FmtPat.lean` patterns, `Model/FmtLists.lean` bracketed lists; helper lemmas:
`Lemmas/FmtFull.lean`, `Lemmas/FmtEval.lean`, `Lemmas/Fmt.lean`, `Lemmas/FmtPat.lean`.  The model is
tied to `crates/samlang-printer` / `crates/samlang-parser` by the `fmt-expr` correspondence protocol
(`harness/src/bin/c08.rs` vs `Driver/C08.lean`), which compares on every run
(a) the real parser's tree with `parseE`, (b) the real printer's token sequence with `printE`,
(c) the tree of the re-parsed output with `parseE (printE e)` and with `regroup e`, and
(d) "the real round trip is exact" with `regroup e = e`.

The full-strength *tree* statement

    theorem roundtrip_expr (e : Expr) : parseE (printE e) = some e

is false: same-operator regrouping (C08-F5, asserted by a golden test) is a counterexample by
design, and the findings C08-F1 … F4, F6 are five further counterexamples in the code, each fixed in
/repo (list below).  What *is* true for every expression is stated by
`roundtrip_expr_total` (what exactly is read back) and `format_preserves_meaning` (it means the same).
-/
namespace SamVerif.FmtFull
open SamVerif.Fmt (BinOp UOp Val M)

private def a : Expr := .atom 0
private def b : Expr := .atom 1
private def c : Expr := .atom 2

/-! ## What is false, and the fixed findings

Findings whose witnesses are replayed on the real formatter, with the /repo commits that fix them:
* C08-F1 `a * (b / c)` ↦ `a * b / c`, `t == (x < y)` ↦ `t == x < y`, `a * ((x / y) * z)`  (9730edb, 8fbb1c9)
* C08-F3 `-(-a)` ↦ `--a`, `!(!a)` ↦ `!!a` (syntax errors)                               (7a6d532)
* C08-F4 `(a + b) :: c` ↦ `a + b :: c` = `a + (b :: c)` …                               (8067f9b, parser)
* C08-F2 `"q\"uote"` ↦ `"q"uote"`                                                       (b0a5193)
* C08-F6 `(a.b) < c` ↦ `a.b < c` (syntax error: `<` after a member name)                 (0291c0a)
Open (C08-F5: the golden test `assert_reprint_expr("1 + (1 + 1)", "1 + 1 + 1")` asserts
it): `a ⊕ (b ⊕ c)` with ⊕ ∈ {+, *, &&, ||} is printed `a ⊕ b ⊕ c` and read back as `(a ⊕ b) ⊕ c`
— another tree, the same meaning (`format_preserves_meaning`). -/

/-- C08-F5: `a + (b + c)` is printed `a + b + c`, which is `(a + b) + c`. -/
theorem shortcut_regroups_same_operator :
    printE (.binary .plus a (.binary .plus b c)) = [.atom 0, .op .plus, .atom 1, .op .plus, .atom 2] ∧
    parseE (printE (.binary .plus a (.binary .plus b c))) = some (.binary .plus (.binary .plus a b) c) := by
  decide

/-- **Negation of the full-strength tree-equality statement** (witness: C08-F5). -/
theorem roundtrip_expr_counterexample : ¬ ∀ e : Expr, parseE (printE e) = some e := by
  intro h
  have := h (.binary .plus a (.binary .plus b c))
  rw [shortcut_regroups_same_operator.2] at this
  exact absurd this (by decide)

/-- the witnesses of the fixed findings C08-F1, F3, F4 round-trip (regression, by evaluation). -/
theorem former_witnesses_roundtrip :
    parseE (printE (.binary .mul a (.binary .div b c))) = some (.binary .mul a (.binary .div b c)) ∧
    parseE (printE (.binary .eq a (.binary .lt b c))) = some (.binary .eq a (.binary .lt b c)) ∧
    parseE (printE (.binary .mul a (.binary .mul (.binary .div a b) c))) =
      some (.binary .mul a (.binary .mul (.binary .div a b) c)) ∧
    parseE (printE (.unary .neg (.unary .neg a))) = some (.unary .neg (.unary .neg a)) ∧
    parseE (printE (.unary .not (.unary .not a))) = some (.unary .not (.unary .not a)) ∧
    parseE (printE (.binary .concat (.binary .plus a b) c)) = some (.binary .concat (.binary .plus a b) c) ∧
    parseE (printE (.binary .concat (.binary .mul a b) c)) = some (.binary .concat (.binary .mul a b) c) ∧
    parseE (printE (.binary .concat a (.binary .mul b c))) = some (.binary .concat a (.binary .mul b c)) := by
  decide

/-- C08-F6 (fixed by 0291c0a): `(a.b) < c` keeps its parentheses; the parser model rejects the
unparenthesised text, accepts `<=`, and accepts `<` after explicit type arguments or a call. -/
theorem member_name_before_lt :
    printE (.binary .lt (.post a 0 true) b) = [.lp, .atom 0, .post 0 true, .rp, .op .lt, .atom 1] ∧
    parseE (printE (.binary .lt (.post a 0 true) b)) = some (.binary .lt (.post a 0 true) b) ∧
    parseE (printE (.binary .lt (.unary .neg (.post a 0 true)) b)) =
      some (.binary .lt (.unary .neg (.post a 0 true)) b) ∧
    parseE [.atom 0, .post 0 true, .op .lt, .atom 1] = none ∧
    parseE [.atom 0, .post 0 true, .op .le, .atom 1] = some (.binary .le (.post a 0 true) b) ∧
    parseE [.atom 0, .post 0 false, .op .lt, .atom 1] = some (.binary .lt (.post a 0 false) b) ∧
    parseE [.atom 0, .lp, .rp, .op .lt, .atom 1] = some (.binary .lt (.call0 a) b) := by
  decide

/-! ## The round-trip theorems -/

/-- **Every printed expression in context**: a printed expression followed by any input at which
the loops of all levels stop (`)`, `,`, `{`, `}`, end of input, … — anything but an operator, a
member access or an opening parenthesis) is read back as `regroup e`, leaving the rest. -/
theorem roundtrip_expr_in_context (e : Expr) (rest : List Tok)
    (hs : ∀ t r, rest = t :: r → bl t = none) (f : Nat) (hf : fuelFor (printE e) ≤ f) :
    parseTop f (printE e ++ rest) = some (regroup e, rest) := by
  have hm := main_top (main e) (rest := rest)
    (fun t r b ht hb => by rw [hs t r ht] at hb; cases hb)
  have hb := B_le e
  exact hm f (by simp only [fuelFor] at hf; omega)

/-- **What formatting does to every expression** (unbounded size, fuel-free, no side condition;
operators, unary operators, member accesses with and without type arguments, calls with their
arguments, tuples, blocks with `let` and expression statements, if-else, match with its cases,
lambdas — recursively in every position):
the printed token sequence always parses, and the tree read back is `regroup e` — the original tree
with the right spine of every shortcut node `x ⊕ (y ⊕ z)` (⊕ ∈ {+, *, &&, ||}) re-associated to
the left, and nothing else changed. -/
theorem roundtrip_expr_total (e : Expr) : parseE (printE e) = some (regroup e) := by
  have := roundtrip_expr_in_context e [] (fun _ _ h => nomatch h) _ (Nat.le_refl _)
  rw [List.append_nil] at this
  simp [parseE, parseFuel, this]

/-- **With the parser's size check** (`parseExpr`: a parse is accepted iff every tuple expression has
at most 16 elements, on whichever of the parser's two tuple paths it was built): every expression the
parser can produce is printed to a text the parser accepts again, and reads back as `regroup e`. -/
theorem roundtrip_expr_sized (e : Expr) (h : sizeOk e = true) :
    parseExpr (printE e) = some (regroup e) := by
  simp [parseExpr, roundtrip_expr_total, sizeOk_regroup, h]

/-- acceptance of a tuple depends only on its number of elements (16 accepted, 17 rejected),
whatever its first element looks like. -/
theorem tuple_size_limit (e : Expr) (es : Args) (h : sizeOk e = true) (hs : sizeOkArgs es = true) :
    (parseExpr (printE (.tuple e es))).isSome = decide (es.len + 1 ≤ 16) := by
  by_cases hl : es.len + 1 ≤ 16
  · rw [roundtrip_expr_sized _ (by simp [sizeOk, hl, h, hs])]; simp [hl]
  · simp [parseExpr, roundtrip_expr_total, sizeOk_regroup, sizeOk, hl]

/-- **Regrouping keeps the meaning**: the tree read back evaluates like the original, under every
interpretation of the opaque units (first component of `eval_rg`). -/
theorem eval_regroup (I : Interp) (e : Expr) : eval I (regroup e) = eval I e := (eval_rg I e).1

/-- **Formatting never changes the meaning of an expression of the fragment**: the output parses,
and the tree read back evaluates — under every interpretation of the opaque units — to the same
value or trap with the same sequence of observable events (left-to-right evaluation of operands,
arguments and elements, short-circuit `&&`/`||`, one branch of `if`, 32-bit wrap-around arithmetic).
This covers the still-open tree change C08-F5. -/
theorem format_preserves_meaning (I : Interp) (e : Expr) :
    ∃ e', parseE (printE e) = some e' ∧ eval I e' = eval I e :=
  ⟨regroup e, roundtrip_expr_total e, eval_regroup I e⟩

mutual
/-- no node of the expression takes the shortcut (no `x ⊕ (y ⊕ z)` with ⊕ ∈ {+,*,&&,||}, `x` not on
⊕'s level and `y` not on ⊕'s level; C08-F5). -/
def NoShortcut : Expr → Bool
  | .atom _ => true
  | .tuple e es => NoShortcut e && NoShortcutArgs es
  | .block b => NoShortcutBlk b
  | .post e _ _ => NoShortcut e
  | .call0 f => NoShortcut f
  | .call f args => NoShortcut f && NoShortcutArgs args
  | .unary _ e => NoShortcut e
  | .binary o l r => NoShortcut l && NoShortcut r && !usesShortcut o l r
  | .ifElse c t e => NoShortcut c && NoShortcutBlk t && NoShortcutBlk e
  | .matchE m cs => NoShortcut m && NoShortcutCases cs
  | .lambda _ b => NoShortcut b
def NoShortcutArgs : Args → Bool
  | .one e => NoShortcut e
  | .cons e rest => NoShortcut e && NoShortcutArgs rest
def NoShortcutCases : Cases → Bool
  | .one _ b => NoShortcut b
  | .cons _ b rest => NoShortcut b && NoShortcutCases rest
def NoShortcutBlk : Blk → Bool
  | .fin ss e => NoShortcutStmts ss && NoShortcut e
  | .noFin ss => NoShortcutStmts ss
def NoShortcutStmts : Stmts → Bool
  | .nil => true
  | .letS _ e rest => NoShortcut e && NoShortcutStmts rest
  | .exprS e rest => NoShortcut e && NoShortcutStmts rest
end

mutual
theorem regroup_noShortcut : (e : Expr) → NoShortcut e = true → regroup e = e
  | .atom a, _ => regroup_atom a
  | .tuple e es, h => by
    simp only [NoShortcut, Bool.and_eq_true] at h
    rw [regroup_tuple, regroup_noShortcut e h.1, rgArgs_noShortcut es h.2]
  | .block b, h => by
    rw [regroup_block, rgBlk_noShortcut b (by simpa [NoShortcut] using h)]
  | .post e p f, h => by
    rw [regroup_post, regroup_noShortcut e (by simpa [NoShortcut] using h)]
  | .call0 f, h => by
    rw [regroup_call0, regroup_noShortcut f (by simpa [NoShortcut] using h)]
  | .call f args, h => by
    simp only [NoShortcut, Bool.and_eq_true] at h
    rw [regroup_call, regroup_noShortcut f h.1, rgArgs_noShortcut args h.2]
  | .unary u x, h => by
    rw [regroup_unary, regroup_noShortcut x (by simpa [NoShortcut] using h)]
  | .binary o l r, h => by
    simp only [NoShortcut, Bool.and_eq_true, Bool.not_eq_true'] at h
    rw [regroup_binary, h.2, regroup_noShortcut l h.1.1, regroup_noShortcut r h.1.2]
    simp
  | .ifElse x y z, h => by
    simp only [NoShortcut, Bool.and_eq_true] at h
    rw [regroup_ifElse, regroup_noShortcut x h.1.1, rgBlk_noShortcut y h.1.2, rgBlk_noShortcut z h.2]
  | .matchE m cs, h => by
    simp only [NoShortcut, Bool.and_eq_true] at h
    rw [regroup_matchE, regroup_noShortcut m h.1, rgCases_noShortcut cs h.2]
  | .lambda k x, h => by
    rw [regroup_lambda, regroup_noShortcut x (by simpa [NoShortcut] using h)]
theorem rgArgs_noShortcut : (es : Args) → NoShortcutArgs es = true → rgArgs es = es
  | .one e, h => by
    rw [rgArgs_one, regroup_noShortcut e (by simpa [NoShortcutArgs] using h)]
  | .cons e rest, h => by
    simp only [NoShortcutArgs, Bool.and_eq_true] at h
    rw [rgArgs_cons, regroup_noShortcut e h.1, rgArgs_noShortcut rest h.2]
theorem rgCases_noShortcut : (cs : Cases) → NoShortcutCases cs = true → rgCases cs = cs
  | .one k x, h => by
    rw [rgCases_one, regroup_noShortcut x (by simpa [NoShortcutCases] using h)]
  | .cons k x rest, h => by
    simp only [NoShortcutCases, Bool.and_eq_true] at h
    rw [rgCases_cons, regroup_noShortcut x h.1, rgCases_noShortcut rest h.2]
theorem rgBlk_noShortcut : (b : Blk) → NoShortcutBlk b = true → rgBlk b = b
  | .fin ss e, h => by
    simp only [NoShortcutBlk, Bool.and_eq_true] at h
    rw [rgBlk_fin, rgStmts_noShortcut ss h.1, regroup_noShortcut e h.2]
  | .noFin ss, h => by
    rw [rgBlk_noFin, rgStmts_noShortcut ss (by simpa [NoShortcutBlk] using h)]
theorem rgStmts_noShortcut : (ss : Stmts) → NoShortcutStmts ss = true → rgStmts ss = ss
  | .nil, _ => by simp [rgStmts]
  | .letS k e rest, h => by
    simp only [NoShortcutStmts, Bool.and_eq_true] at h
    rw [rgStmts_letS, regroup_noShortcut e h.1, rgStmts_noShortcut rest h.2]
  | .exprS e rest, h => by
    simp only [NoShortcutStmts, Bool.and_eq_true] at h
    rw [rgStmts_exprS, regroup_noShortcut e h.1, rgStmts_noShortcut rest h.2]
end

/-- **Exact round trip for every expression in which the shortcut is not taken**: the printed
tokens parse back to exactly the original tree.  Every parenthesisation decision of the printer
other than the shortcut (precedence classes 0/1/2/4–8/10/11/12, member name before `<`) and every
delimited position (arguments, elements, branches, cases, bodies) is thereby proved to agree with
the parser. -/
theorem roundtrip_expr_noShortcut (e : Expr) (h : NoShortcut e = true) :
    parseE (printE e) = some e := by
  rw [roundtrip_expr_total, regroup_noShortcut e h]

/-- **The recursion budget never changes an answer**: once the parser model returns a tree, every
larger budget returns the same tree. -/
theorem parseFuel_stable (f f' : Nat) (ts : List Tok) (e : Expr) (h : parseFuel f ts = some e)
    (hf : f ≤ f') : parseFuel f' ts = some e := by
  have := parseTop_mono (parseFuel_some h) hf
  simp [parseFuel, this]

/-- **Redundant parentheses are invisible to the parser** (the statement C13 needs; `Props/C13b.lean`
has its own version over `Model/Fmt.lean`): if a complete token sequence parses to `e`, so does the
same sequence wrapped in one more pair of parentheses. -/
theorem paren_insensitive (ts : List Tok) (e : Expr) (h : parseE ts = some e) :
    parseE (.lp :: (ts ++ [.rp])) = some e := by
  have := paren_top (parseFuel_some h) (fuelFor (.lp :: (ts ++ [.rp])))
    (by simp only [fuelFor, List.length_cons, List.length_append, List.length_nil]; omega)
  simp [parseE, parseFuel, show parseTop _ (.lp :: (ts ++ [.rp])) = _ from this]

-- non-vacuity: nested expressions of every level, class and delimited position …
private def big : Expr :=
  .binary .or (.binary .and a (.unary .not (.unary .not (.post (.post b 0 true) 1 false))))
    (.binary .lt
      (.binary .plus a (.binary .mul
        (.call (.lambda 0 (.binary .plus b (.ifElse a (.fin (.letS 0 (.binary .mul a b) (.exprS (.call0 c) .nil)) (.binary .plus b c)) (.noFin (.exprS (.tuple a (.one (.unary .neg b))) .nil)))))
          (.cons (.binary .plus a b) (.one (.block (.fin .nil c)))))
        (.binary .concat c (.matchE a (.cons 0 (.binary .minus a b) (.one 1 (.call0 c)))))))
      (.binary .minus (.binary .minus a b) (.binary .plus b (.unary .neg (.post (.unary .neg c) 3 true)))))
example : NoShortcut big = true ∧ parseE (printE big) = some big := by decide
example : NoShortcut (.binary .mul a (.binary .div b c)) = true := by decide
-- … the remaining witness is excluded, and `regroup` is what is read back
example : NoShortcut (.binary .plus a (.binary .plus b c)) = false ∧
    regroup (.binary .plus a (.binary .plus b (.binary .plus c a))) =
      .binary .plus (.binary .plus (.binary .plus a b) c) a ∧
    regroup (.call a (.one (.binary .mul a (.binary .mul b c)))) =
      .call a (.one (.binary .mul (.binary .mul a b) c)) := by decide
-- the semantics is not trivial: events are ordered, arithmetic wraps around, `if` takes one branch
private def Iex : Interp :=
  { atom := fun n => ([n], some (.int 2147483647)), member := fun _ _ v => ([], some v),
    call := fun _ vs => ([100 + vs.length], some (.int 0)), tuple := fun _ => ([], none),
    matchSel := fun _ cs => ((cs.headD (0, ([], none))).2), lam := fun _ d => d,
    letBind := fun n _ => ([200 + n], some (.other 0)) }
example : eval Iex (.binary .plus a (.binary .plus b c)) = ([0, 1, 2], some (.int 2147483645)) ∧
    eval Iex (.binary .and a (.binary .and b c)) = ([0], some (.bool false)) ∧
    eval Iex (.call a (.cons b (.one c))) = ([0, 1, 2, 102], some (.int 0)) ∧
    eval Iex (.ifElse (.binary .eq a a) (.fin (.letS 7 c .nil) b) (.noFin .nil)) =
      ([0, 0, 2, 207, 1], some (.int 2147483647)) ∧
    eval Iex (.binary .plus a (.tuple b (.one c))) = ([0, 1, 2], none) := by decide
example : parseE [.lp, .atom 0, .op .plus, .atom 1, .rp] = some (.binary .plus a b) := by decide

end SamVerif.FmtFull

namespace SamVerif.FmtLists

/-! ## Trailing commas of bracketed lists -/

/-- **The printer emits a trailing comma only where the parser accepts one**, for every kind of
bracketed, comma separated list (the two tables are compared with the real printer and parser by the
`trail` stream on every run; seed C08e — type arguments parsed with the wrong closing token — makes
the parser's table differ). -/
theorem trailing_comma_emitted_only_where_accepted (k : ListKind) :
    printerEmitsTrailing k = true → parserAcceptsTrailing k = true := by
  cases k <;> decide

/-- the list the driver looks a kind up in (`Driver/C08.lean`, by name) has every kind. -/
theorem allKinds_complete (k : ListKind) : k ∈ allKinds := by cases k <;> decide

end SamVerif.FmtLists

namespace SamVerif.FmtPat

/-! ## Patterns (`let`, `match` cases, `if let`) -/

/-- **Pattern round trip, full strength**: every pattern — identifiers, `_`, variants with and without
data, tuple and object patterns, or-patterns, nested arbitrarily — is printed to a token sequence that
the pattern parser reads back as exactly that pattern, leaving the rest of the input, whenever the
rest does not start with `(` or `|` (in the language it starts with `=`, `:`, `->`, `,`, `)` or `}`). -/
theorem roundtrip_pattern (o : OPat) (rest : List PTok) (hl : ∀ r, rest ≠ .lp :: r)
    (hb : ∀ r, rest ≠ .bar :: r) : parsePattern (printO o ++ rest) = some (o, rest) := by
  have := sizeO_le o
  exact mO o rest hl hb _ (by simp only [List.length_append]; omega)

/-- the side conditions are necessary: a tag followed by `(` takes it as its data, a pattern followed
by `|` continues as an or-pattern. -/
theorem roundtrip_pattern_side_conditions :
    parsePattern (printO (.one (.variant 0)) ++ [.lp, .lower 1, .rp]) =
      some (.one (.variantT 0 (.one (.one (.id 1)))), []) ∧
    parsePattern (printO (.one (.id 0)) ++ [.bar, .us]) = some (.alt (.id 0) (.one .wild), []) := by
  decide

private def samplePat : OPat :=
  .alt (.variantT 0 (.cons (.one (.id 1)) (.one (.alt .wild (.one (.variant 2))))))
    (.one (.obj (.consS 3 (.oneA 4 (.one (.tuple (.cons (.one (.id 5)) (.one (.one .wild)))))))))
example : parsePattern (printO samplePat ++ [.other 0]) = some (samplePat, [.other 0]) := by decide

end SamVerif.FmtPat

namespace SamVerif.Fmt

/-! ## String literals -/

/-- **String round trip, full strength** (finding C08-F2, `"q\"uote"` printed `"q"uote"`, is fixed by
b0a5193; the model follows the fixed code): whatever the lexer accepts as a string token — any
content, any escapes, any following input — the parser's stored string is printed as a literal that
lexes to the same token with the same remaining input, and the parser stores the same string again. -/
theorem roundtrip_str (inp c rest : List Char) (h : lexStr inp = some (c, rest)) :
    parseStr inp = some (unescapeQuotes c, rest) ∧
    printStr (unescapeQuotes c) = '"' :: (c ++ ['"']) ∧
    parseStr (printStr (unescapeQuotes c) ++ rest) = some (unescapeQuotes c, rest) := by
  refine ⟨by simp [parseStr, h], ?_⟩
  -- the arms of `lexStr`: an opening quote (case1), anything else fails (case2)
  fun_cases lexStr inp with
  | case1 inp =>
    obtain ⟨s, hc, _, hcl, hb⟩ := lexStrGo_some inp [] c rest h
    simp only [List.reverse_nil, List.nil_append] at hc
    subst hc
    have hqe : quotesEscaped false c = true := by
      simpa [countBackslashes] using closed_quotesEscaped c [] hcl
    have hesc := escape_unescape c hqe
    have := lexStrGo_closed c [] rest hcl hb
    simp only [List.reverse_nil, List.nil_append] at this
    refine ⟨by simp [printStr, hesc], ?_⟩
    simp [parseStr, printStr, lexStr, hesc, this]
  | case2 _ hne =>
    rw [lexStr] at h
    · cases h
    · exact hne

-- non-vacuity, incl. the witness of C08-F2, "q\"u", followed by more input
example : lexStr ['"', 'q', '\\', '"', 'u', '"', '/', '/'] = some (['q', '\\', '"', 'u'], ['/', '/']) ∧
    parseStr (printStr ['q', '"', 'u'] ++ ['/', '/']) = some (['q', '"', 'u'], ['/', '/']) := by decide

/-! ## Int literals and `-` -/

/-- **Int literal round trip**, for every literal value the parser can produce
(`0 … 2147483647` and the merged `-2147483648`). -/
theorem roundtrip_int (i : Int) (h : (0 ≤ i ∧ i < 2147483648) ∨ i = -2147483648) :
    readInt (mergeMinInt (printInt i)) = some i := by
  rcases h with ⟨h0, h1⟩ | rfl
  · have hn : ¬ i < 0 := by omega
    have h2 : i.toNat < 2147483648 := by omega
    simp only [printInt, hn, if_false, mergeMinInt, readInt, h2, if_true]
    congr 1
    omega
  · decide

/-- a `-` in front of any other literal stays a separate token (`- 5`, `-5` are `NEG 5`), and a
`-` in front of the printed `-2147483648` does not capture its sign (`--2147483648`). -/
theorem minus_not_merged (n : Nat) (hn : n ≠ 2147483648) (rest : List RawTok) :
    mergeMinInt (.minus :: .int n :: rest) = .minus :: .int n :: mergeMinInt rest ∧
    mergeMinInt (.minus :: (printInt (-2147483648) ++ rest)) = .minus :: .minInt :: mergeMinInt rest := by
  constructor
  · rw [mergeMinInt]
    · simp [mergeMinInt]
    · intro r h; cases h; exact hn rfl
  · simp [printInt, mergeMinInt]

example : readInt (mergeMinInt (printInt 2147483647)) = some 2147483647 := by decide


/-! ## The smaller model `Model/Fmt.lean` (opaque call arguments / if / match)

`Props/C09b.lean` and `Props/C13b.lean` are stated over it.  It is the restriction of
`Model/FmtFull.lean` to expressions whose call arguments, if-else and match parts are single words;
the driver runs both models on every line of the `fmt-expr` protocol that lies in the smaller
fragment and reports any difference (`v2=` field), so it stays tied to the code. -/

/-- **Round trip under the side condition `RT`** (unbounded expressions, fuel-free): if the printer
leaves operands without parentheses only where the parser's level structure reads them back as
operands (`RT`, decidable, see `Model/Fmt.lean`), then the printed token sequence parses to exactly
the original tree — same operators, same grouping, same postfix chains, same lambda bodies. -/
theorem roundtrip_expr_partial (e : Expr) (h : RT e = true) : parseE (printE e) = some e := by
  have hm := main_top (main e h) h (stopsAbove_nil 0)
  rw [List.append_nil] at hm
  have hb := B_le e
  have := hm (fuelFor (printE e)) (by simp only [fuelFor]; omega)
  simp [parseE, parseFuel, this]

/-- **Redundant parentheses are invisible to the parser** (the statement C13 needs;
`Props/C13b.lean` has its own version, `paren_insensitive'`, from `Lemmas/Fmt.lean`): if a complete
token sequence parses to `e`, so does the same sequence wrapped in one more pair of parentheses. -/
theorem paren_insensitive (ts : List Tok) (e : Expr) (h : parseE ts = some e) :
    parseE (.lp :: (ts ++ [.rp])) = some e := by
  have := paren_top (parseFuel_some h) (fuelFor (.lp :: (ts ++ [.rp])))
    (by simp only [fuelFor, List.length_cons, List.length_append, List.length_nil]; omega)
  simp [parseE, parseFuel, show parseTop _ (.lp :: (ts ++ [.rp])) = _ from this]


end SamVerif.Fmt
