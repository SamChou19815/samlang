import SamVerif.Lemmas.ErrorSet
/-!
# C12 — compilation results depend only on the sources (order / schedule / hash-seed invariance)

Property theorems over `Model/ErrorSet.lean`.  The compiler's result may depend on hash seeds and
schedules only through (a) the *order* in which a `HashMap` is enumerated / parallel results are
merged, and (b) the *numbers* handed out along such an enumeration (module-reference ids, heap
string ids, synthetic function / type / temp numbers).  Every theorem below is a statement "for
every permutation of the enumeration …" or "for every id assignment …".

Full-strength statements that are false in the model are kept as comments, each with a proved
`…_counterexample` and a `…_partial` theorem.
-/
namespace SamVerif.ErrorSet

section Generic
variable {α : Type} {lt : α → α → Bool}

/-- The merged set only depends on *which* errors were reported (not on how they were grouped,
ordered or duplicated): it is the canonical sorted, duplicate-free list of the union. -/
theorem errorset_extensional (h : StrictTotal lt) (ls ls' : List (List α))
    (hm : ∀ x, (∃ l ∈ ls, x ∈ l) ↔ (∃ l ∈ ls', x ∈ l)) : mergeAll lt ls = mergeAll lt ls' := by
  rw [mergeAll_eq_ofList, mergeAll_eq_ofList]
  refine ofList_congr h fun x => ?_
  rw [List.mem_flatten, List.mem_flatten]
  exact hm x

example : mergeAll lexLt [[[1], [1]], [[2]]] = mergeAll lexLt [[[2], [1]]] := by decide

/-- samlang-checker/src/lib.rs:39-52, samlang-errors/src/lib.rs:892-894.
Merging the per-module error sets in *any* order (any rayon schedule, any `HashMap` iteration
order of the modules) yields the same ordered set. -/
theorem errorset_merge_ac (h : StrictTotal lt) (ls ls' : List (List α)) (hp : ls'.Perm ls) :
    mergeAll lt ls' = mergeAll lt ls :=
  errorset_extensional h ls' ls fun _ => by simp only [hp.mem_iff]

example : mergeAll lexLt [[[1], [3]], [[2]]] = mergeAll lexLt [[[2]], [[1], [3]]] := by decide

/-- Association: merging two partial results equals merging everything one by one
(any tree-shaped reduction of the parallel results gives the same set). -/
theorem errorset_merge_assoc (h : StrictTotal lt) (ls₁ ls₂ : List (List α)) :
    merge lt (mergeAll lt ls₁) (mergeAll lt ls₂) = mergeAll lt (ls₁ ++ ls₂) := by
  rw [mergeAll_eq_ofList, mergeAll_eq_ofList, mergeAll_eq_ofList, merge_ofList, List.flatten_append]
  refine ofList_congr h fun x => ?_
  rw [List.mem_append, List.mem_append, mem_ofList h]

example : merge lexLt (mergeAll lexLt [[[5]]]) (mergeAll lexLt [[[1]], [[5]]]) = [[1], [5]] := by decide

/-- Two orders that agree on the reported errors give the same sequence (the side condition
`stable` of `diagnostics_ids_partial`). -/
theorem mergeAll_order_agree {lt' : α → α → Bool} (h : StrictTotal lt) (h' : StrictTotal lt')
    (ls : List (List α))
    (agree : ∀ a b, (∃ l ∈ ls, a ∈ l) → (∃ l ∈ ls, b ∈ l) → lt a b = true → lt' a b = true) :
    mergeAll lt ls = mergeAll lt' ls := by
  rw [mergeAll_eq_ofList, mergeAll_eq_ofList]
  exact ofList_order_agree h h' _ fun a ha b hb =>
    agree a b (List.mem_flatten.mp ha) (List.mem_flatten.mp hb)

/-- Enumerating a `HashMap` through a sort by key (module
name order: `compile_sources` lib.rs:45 since /repo 06eeb5e, `compile_sources_with_generics_preserved`
hir_lowering.rs since /repo 15327a3, the CLI directory walk) yields the same sequence for every
iteration order of the map. -/
theorem sorted_enumeration_perm_invariant (h : StrictTotal lt) (entries entries' : List α)
    (hp : entries'.Perm entries) : ofList lt entries' = ofList lt entries :=
  ofList_congr h fun _ => hp.mem_iff

/-- samlang-checker/src/pattern_matching.rs:354: the
counterexample search sorts the root-constructor map before its first-match-wins loop, therefore
its answer is the same for every iteration order of that `HashMap`. -/
theorem sorted_first_perm_invariant {β : Type} (h : StrictTotal lt) (f : α → Option β)
    (entries entries' : List α) (hp : entries'.Perm entries) :
    sortedFirst lt f entries' = sortedFirst lt f entries := by
  unfold sortedFirst
  rw [sorted_enumeration_perm_invariant h entries entries' hp]

example : sortedFirst lexLt (fun k => if k = [2] then none else some k) [[3], [2], [1]] = some [1] := by
  decide

/-- pattern_matching.rs:343 `incomplete_names.into_iter().min()`. -/
theorem min_perm_invariant (h : StrictTotal lt) (entries entries' : List α)
    (hp : entries'.Perm entries) : minOf lt entries' = minOf lt entries := by
  unfold minOf
  rw [sorted_enumeration_perm_invariant h entries entries' hp]

example : minOf lexLt [[3], [1], [2]] = some [1] := by decide

end Generic

/-- module names / handles as numbers ordered by `<` -/
def natLt (a b : Nat) : Bool := decide (a < b)

theorem natLt_strictTotal : StrictTotal natLt :=
  ⟨fun a => decide_eq_false (Nat.lt_irrefl a),
   fun _ _ _ h1 h2 => decide_eq_true (Nat.lt_trans (of_decide_eq_true h1) (of_decide_eq_true h2)),
   fun _ _ h1 h2 => Nat.le_antisymm (Nat.not_lt.mp (of_decide_eq_false h2))
     (Nat.not_lt.mp (of_decide_eq_false h1))⟩

example : ofList natLt [3, 1, 2] = ofList natLt [2, 3, 1] := by decide

/-- Without the sort the loop is *not* invariant — this is exactly the shape of a fault that drops
`sorted_by_key` (or of any first-match loop over a raw `HashMap`): full statement
`∀ f xs ys, ys.Perm xs → firstSome f ys = firstSome f xs` is false. -/
theorem unsorted_first_counterexample :
    ∃ (f : Nat → Option Nat) (xs ys : List Nat), ys.Perm xs ∧ firstSome f ys ≠ firstSome f xs :=
  ⟨some, [1, 2], [2, 1], List.Perm.swap 1 2 [], by decide⟩

theorem render_eq_ofList (ids : Nat → Nat) (hi : Inj ids) (pm : List (List Err)) :
    render ids pm = ofList (errLt ids) pm.flatten :=
  mergeAll_map_ofList (errLt_strictTotal ids hi) pm

theorem render_eq_mergeAll (ids : Nat → Nat) (hi : Inj ids) (pm : List (List Err)) :
    render ids pm = mergeAll (errLt ids) pm :=
  (render_eq_ofList ids hi pm).trans (mergeAll_eq_ofList pm).symm

/-- For a fixed assignment of ids to handles, the rendered
sequence of errors does not depend on the order in which the per-module results arrive. -/
theorem diagnostics_schedule_independent (ids : Nat → Nat) (hi : Inj ids)
    (perModule perModule' : List (List Err)) (hp : perModule'.Perm perModule) :
    render ids perModule' = render ids perModule :=
  errorset_merge_ac (errLt_strictTotal ids hi) _ _ (hp.map _)

def e1 : Err := ⟨0, 1, 31, 1, 35, 19, []⟩
def e2 : Err := ⟨1, 1, 32, 1, 33, 19, []⟩
example : render id [[e1], [e2]] = render id [[e2], [e1]] := by decide

/-- The order in which the errors *inside* one module are reported is irrelevant as well. -/
theorem diagnostics_report_order_independent (ids : Nat → Nat) (hi : Inj ids)
    (perModule perModule' : List (List Err))
    (hm : ∀ x, (∃ l ∈ perModule, x ∈ l) ↔ (∃ l ∈ perModule', x ∈ l)) :
    render ids perModule = render ids perModule' := by
  rw [render_eq_mergeAll ids hi, render_eq_mergeAll ids hi]
  exact errorset_extensional (errLt_strictTotal ids hi) _ _ hm

/- Full-strength statement (what the property demands), **false** for `render`:
   `∀ ids ids', Inj ids → Inj ids' → render ids pm = render ids' pm`
   — the ids are allocation numbers: module references are numbered in enumeration order of the
   modules, heap strings (> 15 bytes) in parse order, which follows the hash seed. -/

/-- Finding C12-F1, fixed by /repo cc1fd59 for the
report of `compile_sources`, which is rendered in module-name order — see
`diagnostics_by_name_independent_of_module_ids` in Props/C12g.lean; the statement below remains
true of `ErrorSet::pretty_print_error_messages`, whose order a golden test pins: two modules with
one error each; numbering the modules in the other order swaps the two rendered blocks. -/
theorem diagnostics_depend_on_ids_counterexample :
    ∃ (ids ids' : Nat → Nat) (pm : List (List Err)), Inj ids ∧ Inj ids' ∧
      render ids pm ≠ render ids' pm :=
  ⟨id, fun n => if n = 0 then 1 else if n = 1 then 0 else n, [[e1], [e2]],
   fun _ _ h => h, inj_swap 0 1, by decide⟩

def e3 : Err := ⟨0, 2, 3, 2, 9, 3, [.heap 10]⟩
def e4 : Err := ⟨0, 2, 3, 2, 9, 3, [.heap 11]⟩
/-- Same for heap string ids (finding C12-F2, fixed by /repo 06eeb5e: the ids are handed out
along the name-sorted enumeration, `sorted_numbering_perm_invariant`; the statement below is why
an *unsorted* parse order leaks): two errors at the same place that differ in a
heap-allocated name are rendered in allocation order of the two names. -/
theorem diagnostics_depend_on_heap_ids_counterexample :
    ∃ (ids ids' : Nat → Nat), Inj ids ∧ Inj ids' ∧ ids 0 = ids' 0 ∧
      render ids [[e3, e4]] ≠ render ids' [[e3, e4]] :=
  ⟨id, fun n => if n = 10 then 11 else if n = 11 then 10 else n,
   fun _ _ h => h, inj_swap 10 11, by decide, by decide⟩

/-- Ids handed out along an enumeration: the id of handle `h` is its position. -/
def idsOf (enumeration : List Nat) (h : Nat) : Nat := (numbering enumeration h).getD enumeration.length

/-- Fix /repo 06eeb5e for finding C12-F2, /repo 15327a3:
numbers handed out along the *name-sorted* enumeration of the modules (heap string ids during
parsing, synthetic function / type / string-global numbers and specialisation roots during
lowering) do not depend on the iteration order of the `HashMap`. -/
theorem sorted_numbering_perm_invariant (items items' : List Nat) (hp : items'.Perm items) (x : Nat) :
    numbering (ofList natLt items') x = numbering (ofList natLt items) x := by
  rw [sorted_enumeration_perm_invariant natLt_strictTotal items items' hp]

/-- Full strength for the hash-seed part of the property,
after /repo 06eeb5e: with ids handed out along the name-sorted enumeration, the rendered report is
the same for every iteration order of the source map and every arrival order of the per-module
results. -/
theorem diagnostics_hash_seed_independent (handles handles' : List Nat) (hp : handles'.Perm handles)
    (pm pm' : List (List Err)) (hpm : pm'.Perm pm)
    (hi : Inj (idsOf (ofList natLt handles))) :
    render (idsOf (ofList natLt handles')) pm' = render (idsOf (ofList natLt handles)) pm := by
  rw [sorted_enumeration_perm_invariant natLt_strictTotal handles handles' hp]
  exact diagnostics_schedule_independent _ hi pm pm' hpm

example : render (idsOf (ofList natLt [1, 0])) [[e2], [e1]] = render (idsOf (ofList natLt [0, 1])) [[e1], [e2]] := by
  decide

/-- If two id assignments order the reported errors
the same way, the rendered sequences are identical. The side condition is decidable for concrete
`pm` and holds e.g. when all errors are in one module and no two errors at the same location
differ first in a heap string. -/
theorem diagnostics_ids_partial (ids ids' : Nat → Nat) (hi : Inj ids) (hi' : Inj ids')
    (pm : List (List Err))
    (stable : ∀ a b, (∃ l ∈ pm, a ∈ l) → (∃ l ∈ pm, b ∈ l) →
      errLt ids a b = true → errLt ids' a b = true) :
    render ids pm = render ids' pm := by
  rw [render_eq_mergeAll ids hi, render_eq_mergeAll ids' hi']
  exact mergeAll_order_agree (errLt_strictTotal ids hi) (errLt_strictTotal ids' hi') _ stable

example : render id [[e1, ⟨0, 3, 1, 3, 2, 3, [.inl [97]]⟩]] =
    render (fun n => n + 5) [[e1, ⟨0, 3, 1, 3, 2, 3, [.inl [97]]⟩]] := by decide

/-- The number handed to an item is its position in the enumeration. -/
theorem numbering_eq_some (items : List Nat) (x n : Nat) (h : numbering items x = some n) :
    items[n]? = some x := by
  -- the branches of `numbering`: no items; `x` is the first item; `x` is not the first item `y`
  fun_induction numbering items x generalizing n with
  | case1 => cases h
  | case2 ys => cases h; rfl
  | case3 y ys _ ih =>
    obtain ⟨m, hm, rfl⟩ := Option.map_eq_some_iff.mp h
    exact ih m hm

theorem ctxIndex_eq_numbering (c : List (Nat × Int)) (x : Nat) :
    ctxIndex c x = numbering (c.map (·.1)) x := by
  induction c with
  | nil => rfl
  | cons p ps ih => simp only [ctxIndex, List.map_cons, numbering, ih]

theorem ctxIndex_lt (c : List (Nat × Int)) (x i : Nat) (h : ctxIndex c x = some i) :
    i < c.length := by
  rw [ctxIndex_eq_numbering] at h
  have := (List.getElem?_eq_some_iff.mp (numbering_eq_some _ x i h)).1
  rwa [List.length_map] at this

theorem ctxRead_cons (y : Nat) (v : Int) (ps : List (Nat × Int)) (x : Nat) :
    ctxRead ((y, v) :: ps) x = if x = y then some v else ctxRead ps x := by
  simp only [ctxRead, ctxIndex]
  by_cases hxy : x = y
  · rw [if_pos hxy, if_pos hxy]; rfl
  · rw [if_neg hxy, if_neg hxy]
    cases ctxIndex ps x <;> rfl

theorem ctxRead_eq_lookup (c : List (Nat × Int)) (x : Nat) : ctxRead c x = ctxLookup c x := by
  induction c with
  | nil => rfl
  | cons p ps ih => rw [ctxRead_cons, ih]; rfl

theorem ctxLookup_iff (l : List (Nat × Int)) (hl : (l.map (·.1)).Nodup) (x : Nat) (v : Int) :
    ctxLookup l x = some v ↔ (x, v) ∈ l := by
  fun_induction ctxLookup l x with
  | case1 => simp
  | case2 w rest =>
    -- `x` is the first key (value `w`): no later pair has it
    have hn := List.nodup_cons.mp hl
    refine ⟨fun h => Option.some.inj h ▸ List.mem_cons_self, fun h => ?_⟩
    rcases List.mem_cons.mp h with e | hm
    · rw [(Prod.mk.inj e).2]
    · exact absurd (List.mem_map_of_mem (f := (·.1)) hm) hn.1
  | case3 y w rest hxy ih =>
    -- the first key `y` is not `x`
    rw [ih (List.nodup_cons.mp hl).2, List.mem_cons]
    exact ⟨.inr, fun h => h.resolve_left fun e => hxy (Prod.mk.inj e).1⟩

/-- samlang-compiler/src/hir_lowering.rs:1067-1074: the captured
variables are laid out in `HashMap` order; whatever that order, the lambda body reads back for
every variable the value it was captured with. -/
theorem ctx_layout_perm_invariant (c c' : List (Nat × Int)) (hp : c'.Perm c)
    (hn : (c.map (·.1)).Nodup) (x : Nat) : ctxRead c' x = ctxRead c x := by
  rw [ctxRead_eq_lookup, ctxRead_eq_lookup]
  refine Option.ext fun v => ?_
  rw [ctxLookup_iff c' ((hp.map _).nodup_iff.mpr hn), ctxLookup_iff c hn, hp.mem_iff]

example : ctxRead [(1, 10), (2, 20)] 2 = ctxRead [(2, 20), (1, 10)] 2 := by decide

theorem numbering_some_iff (items : List Nat) (x : Nat) :
    (numbering items x).isSome ↔ x ∈ items := by
  -- the branches of `numbering`, as in `numbering_eq_some`
  fun_induction numbering items x with
  | case1 => simp
  | case2 ys => simp
  | case3 y ys hxy ih => simp [hxy, ih]

theorem numbering_inj (items : List Nat) (x y : Nat) (n : Nat)
    (hx : numbering items x = some n) (hy : numbering items y = some n) : x = y :=
  Option.some.inj ((numbering_eq_some items x n hx).symm.trans (numbering_eq_some items y n hy))

/-- hir_lowering.rs:113-123, 1281-1316; hir_string_manager; type
synthesizer; `TempPStrCounter`: numbers handed out along two enumerations of the same items are
related by a *bijective renaming*: both numberings are total and injective on the items, so
`n ↦ n'` (the numbers of the same item) is a bijection between the two sets of numbers. -/
theorem numbering_is_renaming (items items' : List Nat) (hp : items'.Perm items) (x y : Nat)
    (hx : x ∈ items) (_hy : y ∈ items) :
    (numbering items x).isSome ∧ (numbering items' x).isSome ∧
    (numbering items x = numbering items y ↔ numbering items' x = numbering items' y) := by
  have h1 := (numbering_some_iff items x).mpr hx
  have h2 := (numbering_some_iff items' x).mpr (hp.mem_iff.mpr hx)
  refine ⟨h1, h2, ?_⟩
  obtain ⟨n, hn⟩ := Option.isSome_iff_exists.mp h1
  obtain ⟨m, hm⟩ := Option.isSome_iff_exists.mp h2
  constructor
  · intro h
    rw [numbering_inj items x y n hn (h ▸ hn)]
  · intro h
    rw [numbering_inj items' x y m hm (h ▸ hm)]

example : numbering [7, 8, 9] 9 = some 2 ∧ numbering [9, 7, 8] 9 = some 0 := by decide

end SamVerif.ErrorSet
