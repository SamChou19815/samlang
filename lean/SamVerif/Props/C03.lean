import SamVerif.Model.CompileGate
import SamVerif.Lemmas.MatchLowerBind
import SamVerif.Lemmas.EnumRepr
import SamVerif.Lemmas.BoundCheck
import SamVerif.Lemmas.CastInsert
import SamVerif.Lemmas.C03Live
import SamVerif.Lemmas.C03Opt
import SamVerif.Lemmas.C03Str
import SamVerif.Props.C07
/-!
# C03 — programs accepted by the checker never go wrong: property theorems

The accept-set of the checker cannot be enumerated and the type soundness of the whole checker +
back end is *not* proved here (that part is reached only by the oracle of `vlib/c03.py`: accepted
mutants and generated programs are compiled by the real compiler, validated and executed).  What is
proved, for all inputs, are the gates the property rests on:

1. `compile_gate`            — `compile_sources` lowers nothing unless the error set is empty
                               (Model/CompileGate.lean, lib.rs:35-69).
2. `fold_total`, `trip_total` — the compile-time arithmetic of the optimizer (C02's kernels) never
                               aborts, for all operands (through Lemmas/C03Opt.lean).
3. `ts_literal_closed`       — every lexer-accepted string constant is, in the emitted TypeScript, one
                               well-formed substitution-free template literal (the printer as of /repo
                               9fd2988; built on C04's lemmas through Lemmas/C03Str.lean).
4. `exhaustive_no_fallback`  — composition of C07 with the model of `lower_match`
                               (Model/MatchLower.lean): a `match` the checker accepts never reaches the
                               fallback panic and its pattern tests never fault, for all types, arm lists
                               and values (rests on the checker rejecting a field named twice, /repo
                               76a01ae: see the note in section 4);
                               `bindings_correct/_frame/_complete` (temporaries hold the source bindings,
                               first matching alternative of an or-pattern), `iflet_correct`,
                               `let_destructure_total`.
5. `destructure_never_traps` — model of the enum layout choice, the LIR type erasure and the guard code
                               of `ConditionalDestructure` with the `ref.test`/`ref.cast` the wasm
                               lowering inserts (Model/EnumRepr.lean): no illegal cast, for every layout;
                               `variant_fits_erased_type` (the erasure test as of /repo 1c7db42).
6. `bounds_checked_everywhere`, `bounds_gate` — the bounds of type arguments are validated at every
                               bounded position: `validateFrom` reports exactly the positions whose
                               argument fails the bound (Lemmas/BoundCheck.lean).
7. `erased_uses_validate`, `context_signature_survives_tailrec` — a type-erased context parameter is
                               downcast wherever a concrete reference is required, and the context
                               signature survives the tail-recursion rewrite (Lemmas/CastInsert.lean).
8. `sole_reference_kept`, `loop_value_reference_kept` — a reference in any use position keeps the
                               referenced entity alive in the use collector (Lemmas/C03Live.lean).
-/
namespace SamVerif.C03
open SamVerif

/-! ## 1. The compile gate -/
section gate
open SamVerif.Gate

/-- **compile_gate**: the back end runs exactly when every entry module exists and neither the
parser nor the checker reported an error. -/
theorem compile_gate (i : Input) :
    compileSources i = .lowered ↔
      (∀ e ∈ i.entries, e ∈ i.modules) ∧ i.parseErrors = 0 ∧ i.checkErrors = 0 := by
  have hent : (∀ e ∈ i.entries, e ∈ i.modules) ↔
      i.entries.any (fun e => !i.modules.contains e) = false := by simp
  rw [hent, ← Nat.add_eq_zero_iff]
  -- `compileSources`: an entry is missing; all entries exist and there are errors; neither
  fun_cases compileSources i with
  | case1 hmiss => exact ⟨nofun, fun h0 => nomatch hmiss.symm.trans h0.1⟩
  | case2 _ herr => exact ⟨nofun, fun h0 => absurd h0.2 (Nat.ne_of_gt herr)⟩
  | case3 hall hnone =>
    exact ⟨fun _ => ⟨Bool.eq_false_iff.mpr hall, Nat.eq_zero_of_not_pos hnone⟩, fun _ => rfl⟩

/-- any diagnostic blocks lowering, whatever the entries are -/
theorem compile_gate_errors_block (i : Input) (h : 0 < i.parseErrors + i.checkErrors) :
    compileSources i ≠ .lowered := by
  intro hl
  have := (compile_gate i).mp hl
  omega

example : compileSources ⟨[1, 2], [2], 0, 0⟩ = .lowered := by decide
example : compileSources ⟨[1, 2], [2], 0, 3⟩ = .rejected := by decide
example : compileSources ⟨[1, 2], [5], 0, 3⟩ = .invalidEntry := by decide
end gate

/-! ## 2. The optimizer's compile-time arithmetic never aborts -/
section fold
open SamVerif.Opt

/-- **fold_total**: `evaluate_bin_op` (as of /repo 3b705a0: `MAX + 1` wraps, `MIN / -1`, `MIN % -1` and
`1 << 40` are not folded) never aborts, for all operators and operands. -/
theorem fold_total (op : Op) (a b : Int) : evalImpl op a b ≠ .panic := C03Opt.evalImpl_total op a b
example : evalImpl .add 2147483647 1 = .val (-2147483648) := by decide
example : evalImpl .div (-2147483648) (-1) = .nofold := by decide

/-- **trip_total**: the trip-count closed form (as of /repo 0934671) never aborts. -/
theorem trip_total (g : Guard) (i0 step bound : Int) : tripCount g i0 step bound ≠ .panic :=
  C03Opt.tripCount_total g i0 step bound
example : tripCount .le 0 1 2147483647 = .unknown := by decide

/- `merge_binary_expression` has no totality theorem here: C02 states none for the merger (its kernel
   declines the merges of `(x + c1) cmp c2` whose constant `c2 - c1` would overflow, /repo 58c3f94).
   C03 covers it by the run-time tie `merge` (the real kernel must never abort). -/
end fold

/-! ## 3. String constants in the emitted TypeScript -/
section tslit
open SamVerif.Backends

/- What would break a template literal, and what the printer (`template_literal_text`, lir.rs, as of
/repo 0e855e5 and 9fd2988; findings C04-F3, C03-F4) does with it: a back quote and `${` are escaped, `\0`
before a digit (an octal escape, witness `"\01"`) is written `\x00`, a raw CR is written `\r`; the eight
escapes are kept. -/

/-- **ts_literal_closed**: for EVERY string literal the lexer accepts, the text the
compiler prints between back quotes in the emitted TypeScript is exactly one well-formed,
substitution-free template literal (`tsDecode … = some js`: no back quote closes it, no `${` opens
a substitution, no escape is a SyntaxError), and `js` is the UTF-16 form of the characters the
literal denotes. -/
theorem ts_literal_closed (raw : Text) (h : lexAccepts raw = true) :
    tsDecode (content raw) = some ((wasmUnescape (content raw)).flatMap utf16) :=
  C03Str.wellEsc_closed _ (C03Str.accepted_content_wellEsc raw h)

theorem ts_literal_closed_isSome (raw : Text) (h : lexAccepts raw = true) :
    (tsDecode (content raw)).isSome = true := by
  rw [ts_literal_closed raw h]; rfl

-- the witnesses of C04-F3 / C03-F4 are accepted literals and closed: "\01", "a`b", "${1}", raw CR
example : lexAccepts [92, 48, 49] = true ∧ lexAccepts [97, 96, 98] = true ∧
    lexAccepts [36, 123, 49, 125] = true ∧ lexAccepts [13] = true := by decide
example : (tsDecode (content [92, 48, 49])).isSome = true := ts_literal_closed_isSome _ (by decide)
end tslit

/-! ## 4. Accepted patterns never go wrong: `match`, `if let`, `let` -/
section matching
open SamVerif.Useful SamVerif.MatchLower

/- `cpatTy` (what the checker guarantees) includes `nodupNat orders`, without which
`exhaustive_no_fallback` is false (finding C03-F3): before /repo 76a01ae the checker accepted an object
pattern naming a field twice (`{ f0 as B(_), f0 as _, f1 as _ }`), the exhaustiveness analysis kept only
the last sub-pattern, and the accepted `match` reached the fallback panic on `S.init(E.A(), 40)`. -/

/-- **lower_correct**: on a typed checked pattern the emitted test computes exactly "the value matches
the abstract pattern the exhaustiveness analysis saw" and performs no faulting access (`≠ none`) -
for every well-typed value. -/
theorem lower_correct (sig : Sig) (p : CPat) (t : Nat) (v : Val)
    (hty : cpatTy sig p t = true) (hv : hasTy sig v t = true) :
    evalCode (lowerPat p) v = some (pmatch (absOf p) v) :=
  lowerPat_correct sig p t v hty hv

/-- **lowering_total**: lowering a typed checked pattern never indexes the struct mapping out of
range (`resolved_struct_mappings[index]`). -/
theorem lowering_total (sig : Sig) (p : CPat) (t : Nat) (hty : cpatTy sig p t = true) :
    lowerCrash p = false :=
  lowerCrash_typed sig p t hty

/-- the abstract pattern of a typed checked pattern is typed (so C07's theorems apply to it) -/
theorem abstract_typed (sig : Sig) (p : CPat) (t : Nat) (hty : cpatTy sig p t = true) :
    patTy sig (absOf p) t = true :=
  absOf_typed sig p t hty

/-- **exhaustive_no_fallback** (composition of C07's `match_accepted_exhaustive` with the lowering
model): if the checker accepts the arms of a `match` on a scrutinee of type `t` (typed patterns, no
missing case reported), then for every value of type `t` the body of some arm runs: never the
fallback panic, never a fault.  For all signatures, arm lists and values; `fuel` is whatever the
analysis needed (C07 proves that it terminates). -/
theorem exhaustive_no_fallback (sig : Sig) (cx : Cx) (hcx : CxOk sig cx) (fuel : Nat)
    (arms : List CPat) (t : Nat) (v : Val)
    (hty : cpatTyAll sig arms t = true)
    (hacc : incompleteCounterexampleF cx fuel (abstractArms arms) = some none)
    (hv : hasTy sig v t = true) :
    ∃ i, i < arms.length ∧ runMatch (lowerMatch arms) v = .arm i := by
  obtain ⟨a, hmem, hm⟩ := match_accepted_exhaustive sig cx hcx fuel _ t
    (cpatTyAll_mem sig arms t hty) hacc v hv
  obtain ⟨i, h2, h3⟩ := runMatchFrom_of_exists sig t v hv arms 0 hty ⟨a, hmem, hm⟩
  exact ⟨i, by omega, h3⟩

/-! ### bindings -/

/-- the statement-level semantics (with assignments) has the same condition and the same faults as
the condition-only semantics the theorems above speak about -/
theorem exec_refines_eval (c : Code) (v : Val) : (execCode c v).map (fun r => r.1) = evalCode c v :=
  exec_fst c v

/-- **bindings_correct**: when the emitted test of a typed checked pattern succeeds, every temporary
holds what the source semantics binds - for an or-pattern the bindings of the *first matching*
alternative, although alternatives that failed earlier may have assigned the same temporaries. -/
theorem bindings_correct (sig : Sig) (p : CPat) (t : Nat) (v : Val) (d : Delta)
    (hty : cpatTy sig p t = true) (hb : bindsOk p = true) (hv : hasTy sig v t = true)
    (h : execCode (lowerPat p) v = some (true, d)) :
    ∀ x, d.lookup x = (srcDelta p v).lookup x :=
  exec_binds sig p t v d hty hb hv h

/-- **bindings_frame**: whatever the outcome (also in alternatives that fail), only temporaries of
the pattern's own names are assigned. -/
theorem bindings_frame (p : CPat) (v : Val) (b : Bool) (d : Delta) (hb : bindsOk p = true)
    (h : execCode (lowerPat p) v = some (b, d)) : ∀ x w, (x, w) ∈ d → x ∈ names p :=
  exec_names p v b d hb h

/-- **bindings_complete**: after a successful test every declared temporary has been assigned
(no read of an uninitialised `LateInit` variable in the arm's body). -/
theorem bindings_complete (p : CPat) (v : Val) (d : Delta) (hb : bindsOk p = true)
    (h : execCode (lowerPat p) v = some (true, d)) : ∀ x ∈ names p, (d.lookup x).isSome = true :=
  exec_assigns p v d hb h

/-! ### temporaries -/

/-- **binding_temps_fresh**: the temporaries `binding_names` gives to the (distinct) source names of a
pattern are fresh (at or above the counter, hence different from every temporary allocated before)
and pairwise different. -/
theorem binding_temps_fresh (ns : List Nat) (c : Nat) :
    (∀ b ∈ allocTemps ns c, c ≤ b.2 ∧ b.2 < c + ns.length) ∧
    ((allocTemps ns c).map (fun b => b.2)).Nodup := by
  constructor
  · intro b hb
    have : b.2 ∈ (allocTemps ns c).map (fun b => b.2) := List.mem_map.mpr ⟨b, hb, rfl⟩
    rw [allocTemps_snd] at this
    have := List.mem_range'_1.mp this
    omega
  · rw [allocTemps_snd]; exact List.nodup_range'

/-- **bindings_correct_on_temps**: `bindings_correct` carried over to what the emitted code really
assigns - the temporaries `bn x` - for any renaming that is injective on the names of the pattern
(which `binding_temps_fresh` provides): reading the temporary of `x` after a successful test yields
the source binding of `x`. -/
theorem bindings_correct_on_temps (sig : Sig) (p : CPat) (t : Nat) (v : Val) (d : Delta)
    (bn : Nat → Nat) (hinj : ∀ x ∈ names p, ∀ y ∈ names p, bn y = bn x → y = x)
    (hty : cpatTy sig p t = true) (hb : bindsOk p = true) (hv : hasTy sig v t = true)
    (h : execCode (lowerPat p) v = some (true, d)) :
    ∀ x ∈ names p, (renameDelta bn d).lookup (bn x) = (srcDelta p v).lookup x := by
  intro x hx
  rw [lookup_rename bn x d (fun y w hm heq => hinj x hx y (exec_names p v true d hb h y w hm) heq)]
  exact exec_binds sig p t v d hty hb hv h x

/-! ### `if let` and `let` -/

/-- **iflet_correct**: `if let p = e { a } else { b }` on a typed pattern and value never faults and
runs `a` (with the source bindings) exactly when the value matches - including when the condition
was decided at compile time by the `== ONE` / `== ZERO` shortcuts of `lower_if_else`. -/
theorem iflet_correct (sig : Sig) (p : CPat) (t : Nat) (v : Val)
    (hty : cpatTy sig p t = true) (hv : hasTy sig v t = true) :
    ∃ d, execCode (lowerPat p) v = some (pmatch (absOf p) v, d) ∧
      runIfLet (lowerPat p) v = if pmatch (absOf p) v then .thenB d else .elseB := by
  obtain ⟨d, hd⟩ := exec_of_eval _ _ _ (lowerPat_correct sig p t v hty hv)
  exact ⟨d, hd, runIfLet_of_exec hd⟩

/-- **let_destructure_total**: `let p = e;` whose pattern the checker accepted as irrefutable (typed,
exhaustiveness analysis of `[p]` reports nothing) never faults, and afterwards every declared
temporary is assigned and holds the source binding. -/
theorem let_destructure_total (sig : Sig) (cx : Cx) (hcx : CxOk sig cx) (fuel : Nat)
    (p : CPat) (t : Nat) (v : Val)
    (hty : cpatTy sig p t = true) (hb : bindsOk p = true)
    (hacc : incompleteCounterexampleF cx fuel (abstractArms [p]) = some none)
    (hv : hasTy sig v t = true) :
    ∃ d, runLet (lowerPat p) v = some d ∧ (∀ x, d.lookup x = (srcDelta p v).lookup x) ∧
      ∀ x ∈ names p, (d.lookup x).isSome = true := by
  obtain ⟨a, hmem, hm⟩ := match_accepted_exhaustive sig cx hcx fuel _ t
    (cpatTyAll_mem sig [p] t (by simp [cpatTyAll, hty])) hacc v hv
  obtain rfl : a = absOf p := List.mem_singleton.mp hmem
  have hev := lowerPat_correct sig p t v hty hv
  rw [hm] at hev
  obtain ⟨d, hd⟩ := exec_of_eval _ _ _ hev
  exact ⟨d, by simp [runLet, hd], exec_binds sig p t v d hty hb hv hd, exec_assigns p v d hb hd⟩

/-! ### non-vacuity -/

/-- type 0 = int, type 1 = `E(A, B(int))`, type 2 = `S(val f0: E, val f1: int)` -/
def sigW : Sig := fun t =>
  match t with
  | 1 => .enum 0 [(0, []), (1, [0])]
  | 2 => .struct [(0, 1), (1, 0)]
  | _ => .prim
def cxW : Cx := fun c => match c with | 0 => [(0, 0), (1, 1)] | _ => []

/-- lets `decide` check `incompleteCounterexampleF … = some none` below: `Option (Option Pat)` has no
`DecidableEq`, the `Bool` image under `isNone` has -/
theorem isNone_map {α : Type} (x : Option (Option α)) (h : x.map Option.isNone = some true) :
    x = some none := by
  cases x with
  | none => cases h
  | some y =>
    cases y with
    | none => rfl
    | some _ => cases h

theorem sigW_cxOk : CxOk sigW cxW := by
  intro t cls vs h
  unfold sigW at h
  split at h
  · injection h with h1 h2
    subst h1; subst h2; rfl
  · cases h
  · cases h

/-- `S.init(E.A(), 40)` -/
def valW : Val := .con none [.con (some ⟨0, 0⟩) [], .prim 40]
def valB : Val := .con none [.con (some ⟨0, 1⟩) [.prim 2], .prim 40]

-- the witness of C03-F3 is not a typed checked pattern (the checker rejects it, fix 76a01ae)
example : cpatTy sigW (.object 2 [0, 0, 1] [.variant ⟨0, 1⟩ [.wild], .wild, .wild]) 2 = false := by decide

-- `match s { { f1 as k, f0 as B(n) } -> 0, { f1 as _, f0 as A } -> 1 }` (fields out of order) is
-- accepted, both arms are reachable, and the bindings are the source ones
def armsOk : List CPat :=
  [.object 2 [1, 0] [.id 7, .variant ⟨0, 1⟩ [.id 8]], .object 2 [1, 0] [.wild, .variant ⟨0, 0⟩ []]]
example : cpatTyAll sigW armsOk 2 = true ∧ bindsOkL armsOk = true ∧
    incompleteCounterexampleF cxW 10 (abstractArms armsOk) = some none := by
  refine ⟨by decide, by decide, isNone_map _ (by decide)⟩
example : runMatch (lowerMatch armsOk) valW = .arm 1 := by decide
example : runMatch (lowerMatch armsOk) valB = .arm 0 := by decide
example : (execCode (lowerPat (.object 2 [1, 0] [.id 7, .variant ⟨0, 1⟩ [.id 8]])) valB).map
    (fun r => (r.1, r.2.map (fun b => b.1))) = some (true, [8, 7]) := by decide
-- or-pattern whose first alternative assigns `x` and then fails: `(B(x) | A) ` is rejected by
-- `bindsOk` (inconsistent names); `B(x) | B(x)`-style alternatives are consistent
example : bindsOk (.or [.variant ⟨0, 1⟩ [.id 3], .variant ⟨0, 0⟩ []]) = false := by decide
example : bindsOk (.or [.variant ⟨0, 1⟩ [.id 3], .variant ⟨0, 1⟩ [.id 3]]) = true := by decide
example : lowerCrash (.tuple 1 [.wild, .wild]) = true := by decide
example : runIfLet (lowerPat (.variant ⟨0, 1⟩ [.id 5])) (.con (some ⟨0, 0⟩) []) = .elseB := by rfl
end matching

/-! ## 5. Variant values: layout, type erasure and the casts of `ConditionalDestructure` -/
section enumrepr
open SamVerif.EnumRepr

/-- **destructure_never_traps**: for every layout the compiler can choose for an enum (any variant
list, any answer of `type_permit_enum_boxed_optimization`), every variant value `j` (payload of the
right length; an unboxed payload is a pointer of its type: `PayloadOk`, which `permit_payload_pointer`
shows of the model's `repr` - the two are not composed by a theorem)
and every tested tag `k`: the emitted guard code - `ref.test`, the `ref.cast` inserted for a
`(ref eq)` local, the tag load, the `ref.cast` to the variant's sub-struct, the field loads - never
traps (no illegal cast, no struct access on a wrong type), runs the success branch exactly when
`j = k`, and binds exactly the payload. -/
theorem destructure_never_traps (p : Nat → Bool) (variants : List (List Nat)) (e j k : Nat)
    (ps : List RV) (fsj fsk : List Nat)
    (hj : variants[j]? = some fsj) (hk : variants[k]? = some fsk) (hlen : ps.length = fsj.length)
    (hpay : PayloadOk (layoutOf p variants) j ps) :
    runGuard (localTy needsAny (layoutOf p variants) e) (layoutOf p variants) e k
      (reprV (layoutOf p variants) e j ps) = if j = k then .success ps else .fail := by
  obtain ⟨lj, hlj, h0, hb⟩ := layoutOf_get p variants j fsj hj
  obtain ⟨lk, hlk, _⟩ := layoutOf_get p variants k fsk hk
  exact runGuard_reprV _ (layoutOf_exclusive p variants) e j k ps lj lk hlj hlk
    (fun h => List.length_eq_zero_iff.mp (by rw [hlen, h0 h]; rfl)) (fun fs h => by rw [hlen, hb fs h]) hpay

/-- **variant_fits_erased_type**: every variant value has the wasm type of the locals, parameters and
fields that hold values of its enum (`(ref eq)` when the enum is erased to `AnyPointer`, else
`(ref $Enum)`), so storing it validates and needs no cast.  With the erasure test of /repo 1c7db42 (`needsAny`: int31 or
unboxed variants); with the test before it the statement fails (`erasure_old_counterexample`). -/
theorem variant_fits_erased_type (p : Nat → Bool) (variants : List (List Nat)) (e j : Nat)
    (ps : List RV) (fsj : List Nat) (hj : variants[j]? = some fsj)
    (hpay : PayloadOk (layoutOf p variants) j ps) :
    rvHasTy (reprV (layoutOf p variants) e j ps) (localTy needsAny (layoutOf p variants) e) = true := by
  obtain ⟨l, hl, _⟩ := layoutOf_get p variants j fsj hj
  exact reprV_fits _ e j ps l hl hpay

/-- **Historical witness (finding C03-F7, fixed)**: with the erasure test of the unfixed code (only
int31 variants count) the single-variant enum `class W(Only(P))` keeps the type `(ref $W)` while its
value is a `P` struct: the value does not fit, and the cast the back end inserts traps
(`illegal cast` on an accepted `match`). -/
theorem erasure_old_counterexample :
    let vs := layoutOf (fun _ => true) [[1]]
    PayloadOk vs 0 [.obj (.base 1) []] ∧
    rvHasTy (reprV vs 0 0 [.obj (.base 1) []]) (localTy needsAnyOld vs 0) = false ∧
    refCast (.base 0) (reprV vs 0 0 [.obj (.base 1) []]) = none := by
  refine ⟨?_, by decide, by decide⟩
  intro f hf
  refine ⟨.obj (.base 1) [], rfl, ?_⟩
  have : f = 1 := by
    have h : layoutOf (fun _ => true) [[1]] = [.unboxed 1] := by decide
    simp only [h] at hf
    simpa using hf.symm
  subst this; decide

/-- **permit_payload_pointer**: a typed value of a type for which
`type_permit_enum_boxed_optimization` answers yes is represented by a pointer to a struct of that
type - what the hypothesis `PayloadOk` of the two theorems above asks of an unboxed payload. -/
theorem permit_payload_pointer (tbl : Table) (lay : Layouts) (self t : Nat) (v : SV)
    (hp : permit tbl lay self t = true) (hv : svTy tbl v t = true)
    (hlen : ∀ vs, tbl.getD t .prim = .enum vs → (layAt lay t).length = vs.length) :
    rvHasTy (repr lay v) (.ref (.base t)) = true :=
  EnumRepr.permit_payload_pointer tbl lay self t v hp hv hlen

-- non-vacuity: `Opt(No, Yes(P))` is [int31, unboxed], `E(A, B(int), C(P, int))` is [int31, boxed, boxed]
example : layoutOf (fun t => t == 1) [[], [1]] = [.int31, .unboxed 1] := by decide
example : layoutOf (fun t => t == 1) [[], [0], [1, 0]] = [.int31, .boxed [0], .boxed [1, 0]] := by decide
example : layoutOf (fun t => t == 1) [[1], [1]] = [.boxed [1], .boxed [1]] := by decide
example : layoutTable [.prim, .struct [0], .enum [[], [1]], .enum [[2]], .enum [[1]]] =
    [none, none, some [.int31, .unboxed 1], some [.boxed [2]], some [.unboxed 1]] := by decide
end enumrepr

/-! ## 6. Bounds of type arguments are validated at every bounded position -/
section bounds
open SamVerif.BoundCheck

/-- **bounds_checked_everywhere**: `validate_type_arguments` reports position `k` exactly when the
`k`-th type parameter has a bound that the `k`-th (explicit or solved) type argument does not satisfy -
wherever the parameter stands in the list, in particular after unbounded parameters. -/
theorem bounds_checked_everywhere (sat : Nat → Nat → Bool) (params : List (Option Nat)) (args : List Nat)
    (k : Nat) :
    k ∈ validate sat params args ↔
      ∃ b a, params[k]? = some (some b) ∧ args[k]? = some a ∧ sat a b = false := by
  rw [validate, validateFrom_iff]
  constructor
  · rintro ⟨j, b, a, hk, h⟩
    obtain rfl : k = j := hk.trans (Nat.zero_add j)
    exact ⟨b, a, h⟩
  · rintro ⟨b, a, h⟩
    exact ⟨k, b, a, (Nat.zero_add k).symm, h⟩

/-- **bounds_gate**: no error is reported iff every bounded position is satisfied - so a call the
checker accepts has all its bounds satisfied (the premise of specialising `b.area()` to a member
that exists). -/
theorem bounds_gate (sat : Nat → Nat → Bool) (params : List (Option Nat)) (args : List Nat) :
    validate sat params args = [] ↔
      ∀ (k b a : Nat), params[k]? = some (some b) → args[k]? = some a → sat a b = true := by
  constructor
  · intro h k b a hp ha
    cases hs : sat a b with
    | true => rfl
    | false =>
      have : k ∈ validate sat params args := (bounds_checked_everywhere sat params args k).mpr ⟨b, a, hp, ha, hs⟩
      rw [h] at this; cases this
  · intro h
    cases hv : validate sat params args with
    | nil => rfl
    | cons k rest =>
      obtain ⟨b, a, hp, ha, hs⟩ := (bounds_checked_everywhere sat params args k).mp (by rw [hv]; simp)
      rw [h k b a hp ha] at hs; cases hs

-- `<L, S: HasArea>` instantiated with `<int, Blob>`: position 1 is reported; the `map_while` slip of
-- seeded/C03d reports nothing
example : validate (fun a b => a == b) [none, some 7] [1, 2] = [1] := by decide
example : validateMapWhile (fun a b => a == b) [none, some 7] [1, 2] 0 = [] := by decide
end bounds

/-! ## 7. Type-erased context parameters are downcast wherever a concrete reference is required -/
section castinsert
open SamVerif.CastInsert

/-- **erased_uses_validate**: for every place a value flows into - `struct.new` field, function result,
assignment to a declared local (if-else finals, break and loop values, late init), direct / indirect
call argument, pointer of a `struct.get` - the operand the lowering emits has a type the validator
accepts there, whenever the LIR is well typed up to erasure (the local is declared at the place's type
or erased to `(ref eq)`, as every method's `_this` is).  I.e. every use of an erased `_this` at a
declared reference type is preceded by the downcast. -/
theorem erased_uses_validate (Γ : Locals) (s : Sink) (h : s.ok Γ) :
    validates Γ s (lowerSink Γ s) = true := by
  cases s with
  | structField e t => exact lowerFor_validates Γ e t h
  | ret e t => exact lowerFor_validates Γ e t h
  | assign e t => exact lowerFor_validates Γ e t h
  | arg e t => exact lowerFor_validates Γ e t h
  | load n t => exact lowerPtr_validates Γ n t h

/-- the downcast is inserted only where it is needed: a local that already has the place's type is
read as it is (no cast that could trap is added to well-typed, unerased code) -/
theorem no_cast_without_erasure (Γ : Locals) (n : Nat) (occ target : WTy) (h : Γ n = target) (hne : target ≠ .eq) :
    lowerFor Γ (.var n occ) target = .get n := by
  cases target with
  | i32 => rfl
  | eq => exact absurd rfl hne
  | ref t => simp [lowerFor, h]

/-- **Historical witness (finding C03-F11, fixed by 0ba77ec)**: with the lowering before the fix, the
erased `_this` (local 0 : `(ref eq)`) stored into a struct field, returned or assigned at type
`(ref $7)` is well typed LIR and does NOT validate. -/
theorem erased_uses_old_counterexample :
    let Γ : Locals := fun _ => .eq
    (Sink.structField (.var 0 (.ref 7)) (.ref 7)).ok Γ ∧
    validates Γ (.structField (.var 0 (.ref 7)) (.ref 7)) (lowerSinkOld Γ (.structField (.var 0 (.ref 7)) (.ref 7))) = false ∧
    validates Γ (.ret (.var 0 (.ref 7)) (.ref 7)) (lowerSinkOld Γ (.ret (.var 0 (.ref 7)) (.ref 7))) = false ∧
    validates Γ (.structField (.var 0 (.ref 7)) (.ref 7)) (lowerSink Γ (.structField (.var 0 (.ref 7)) (.ref 7))) = true := by
  refine ⟨⟨rfl, Or.inr ⟨rfl, 7, rfl⟩⟩, by decide, by decide, by decide⟩

/-- **context_signature_survives_tailrec**: the emitted parameter types of a closure-callable function
(context erased to `(ref eq)`, which is what `call_indirect` expects) are the same before and after the
tail-recursion rewrite has renamed its parameters. -/
theorem context_signature_survives_tailrec (rest : List Nat) (tys : List WTy) :
    erasedSig isContext ((THIS :: rest).map tailrec) tys = erasedSig isContext (THIS :: rest) tys := by
  cases tys with
  | nil => rfl
  | cons t ts => simp [erasedSig, isContext, THIS, tailrec]

/-- **Historical witness (finding C03-F12, fixed by 2a09feb)**: with the old test (`== _this` only) the
renamed method keeps its concrete context type, so its signature differs from the one `call_indirect`
uses: the engine traps with `function signature mismatch`. -/
theorem context_signature_old_counterexample :
    erasedSig isContextOld ([THIS, 5].map tailrec) [.ref 7, .i32] ≠ erasedSig isContextOld [THIS, 5] [.ref 7, .i32] := by
  decide

example : lowerSink (fun n => if n = 0 then .eq else .ref 7) (.structField (.var 0 (.ref 7)) (.ref 7)) = .cast 7 0 := by rfl
example : lowerSink (fun _ => .ref 7) (.structField (.var 3 (.ref 7)) (.ref 7)) = .get 3 := by rfl
end castinsert

/-! ## 8. A reference in any use position keeps the referenced entity (liveness of the use collector) -/
section liveness
open SamVerif.Opt SamVerif.C03Live

/-- **sole_reference_kept**: if a statement that stays in the block reads `x` in ANY use position -
operand, pointer of an access, struct field, closure context, call argument, variable callee, break
value - then `x` is in the set the collector hands on, so the entity is not eliminated.  On C02's
use-collector model (one constructor per use position), through `Lemmas/C03Live.lean`. -/
theorem sole_reference_kept (p : List US) (live : List Nat) (s : US) (x : Nat)
    (hs : s ∈ (dceU true p live).1) (hx : x ∈ s.uses true) : x ∈ (dceU true p live).2 :=
  kept_uses_collected p live s hs x hx

/-- a call or a break always stays, so whatever it mentions in any position is collected - even if it
is the only mention in the whole block -/
theorem effectful_reference_kept (p q : List US) (s : US) (live : List Nat) (x : Nat)
    (hm : s.mustStay = true) (hx : x ∈ s.uses true) : x ∈ (dceU true (p ++ s :: q) live).2 :=
  kept_uses_collected _ live s (mustStay_kept live (List.mem_append_right p List.mem_cons_self) hm) x hx

/-- **loop_value_reference_kept** (the position of seeded fault C03e): a name that occurs only in the
LOOP VALUE (the argument of the self tail call) of a loop variable is among the names the `While` arm
considers mentioned. -/
theorem loop_value_reference_kept (lvs : List (Nat × Operand × Operand)) (body : List US)
    (lv : Nat × Operand × Operand) (x : Nat) (hlv : lv ∈ lvs) (hx : x ∈ lv.2.2.vars) :
    x ∈ whileMentioned lvs body := by
  unfold whileMentioned
  exact List.mem_append_left _ (List.mem_flatMap.mpr ⟨lv, hlv, List.mem_append_right _ hx⟩)

-- one example per use position: the only mention of 9 is in that position, and 9 is collected
example : 9 ∈ (dceU true [.call none [.var 9] none] []).2 := by decide                 -- call argument
example : 9 ∈ (dceU true [.call (some 9) [] none] []).2 := by decide                   -- variable callee
example : 9 ∈ (dceU true [.brk (.var 9)] []).2 := by decide                            -- break value
example : 9 ∈ (dceU true [.strct 1 [.var 9], .brk (.var 1)] []).2 := by decide         -- struct field
example : 9 ∈ (dceU true [.clo 1 (.var 9), .call (some 1) [] none] []).2 := by decide  -- closure context
example : 9 ∈ (dceU true [.idx 1 (.var 9), .brk (.var 1)] []).2 := by decide           -- pointer
example : 9 ∈ (dceU true [.bin 1 (.var 9) (.var 9), .brk (.var 1)] []).2 := by decide  -- operand
example : 9 ∈ whileMentioned [(1, .var 2, .var 9)] [] := by decide                     -- loop value
end liveness

end SamVerif.C03
