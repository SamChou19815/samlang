import SamVerif.Model.Layout
import SamVerif.Props.C12
/-! # C12 — enum layout choice vs. demand order: two mutually recursive enums are laid out differently
in the two demand orders; enumerating the roots in sorted order removes the dependence on the hash
seed; the variant loop looks at the permit bits only for an enum with a one-field variant. -/
namespace SamVerif.Layout

/-- `class A(ConsA(B))`, `class B(NilB, ConsB(A))` (names 0 and 1). -/
def mutualDefs : Defs := [(0, .enum [[.id 1]]), (1, .enum [[], [.id 0]])]

/- Full-strength statement, **false**:
   `∀ defs roots roots', roots'.Perm roots → ∀ n, layoutOf defs roots' n = layoutOf defs roots n`. -/

/-- The two demand orders of two mutually recursive
enums give different layouts (`ConsB` is `Unboxed` only when `A` is finished before `B`'s variant
is decided).  Before /repo e715c2f the difference was observable behaviour (finding C12-F3, witness
`A(NilA, ConsA(B))`, `B(NilB, ConsB(A))`); after it both layouts are sound representations, and
since /repo 15327a3 the roots are enumerated in module-name order
(`layout_sorted_roots_perm_invariant`), so the choice does not depend on the hash seed. -/
theorem layout_order_independent_counterexample :
    ∃ (defs : Defs) (roots roots' : List Nat) (n : Nat), roots'.Perm roots ∧
      layoutOf defs roots' n ≠ layoutOf defs roots n :=
  ⟨mutualDefs, [0, 1], [1, 0], 1, List.Perm.swap 0 1 [], by decide⟩

example : layoutOf mutualDefs [0, 1] 0 = some (.enumL [.boxed]) ∧
    layoutOf mutualDefs [0, 1] 1 = some (.enumL [.int31, .boxed]) ∧
    layoutOf mutualDefs [1, 0] 0 = some (.enumL [.boxed]) ∧
    layoutOf mutualDefs [1, 0] 1 = some (.enumL [.int31, .unboxed]) := by decide

/-- a struct is a pointer even while it is in progress: `class S(val e: E)`, `class E(None, Some(S))`
gives `Some` unboxed over `S` in both demand orders. -/
example : layoutOf [(0, .struct [.id 1]), (1, .enum [[], [.id 0]])] [0] 1 = some (.enumL [.int31, .unboxed]) ∧
    layoutOf [(0, .struct [.id 1]), (1, .enum [[], [.id 0]])] [1] 1 = some (.enumL [.int31, .unboxed]) := by decide

/-- /repo 15327a3: the specialisation roots are enumerated
in module-name order, so the layouts are the same for every iteration order of the module map. -/
theorem layout_sorted_roots_perm_invariant (defs : Defs) (roots roots' : List Nat)
    (hp : roots'.Perm roots) :
    layoutAll defs (SamVerif.ErrorSet.ofList SamVerif.ErrorSet.natLt roots') =
      layoutAll defs (SamVerif.ErrorSet.ofList SamVerif.ErrorSet.natLt roots) := by
  rw [SamVerif.ErrorSet.sorted_enumeration_perm_invariant SamVerif.ErrorSet.natLt_strictTotal roots roots' hp]

example : layoutAll mutualDefs (SamVerif.ErrorSet.ofList SamVerif.ErrorSet.natLt [1, 0]) =
    layoutAll mutualDefs (SamVerif.ErrorSet.ofList SamVerif.ErrorSet.natLt [0, 1]) := by decide

theorem stepV_arity_ne_one (s : LoopSt) (a : Nat) (b b' : Bool) (h : a ≠ 1) :
    stepV s (a, b) = stepV s (a, b') := by
  simp [stepV, h]

theorem stepV_fold_no_arity_one (vs vs' : List (Nat × Bool)) (s : LoopSt)
    (ha : vs.map (·.1) = vs'.map (·.1)) (h1 : ∀ v ∈ vs, v.1 ≠ 1) :
    vs.foldl stepV s = vs'.foldl stepV s := by
  induction vs generalizing vs' s with
  | nil => rw [List.map_eq_nil_iff.mp ha.symm]
  | cons v rest ih =>
    obtain ⟨⟨a, b'⟩, rest', rfl, hv, hr⟩ := List.map_eq_cons_iff.mp ha.symm
    obtain ⟨_, b⟩ := v
    cases hv
    rw [List.foldl_cons, List.foldl_cons, stepV_arity_ne_one s a b b' (h1 _ List.mem_cons_self)]
    exact ih rest' _ hr.symm fun w hw => h1 w (List.mem_cons_of_mem _ hw)

/-- The order-dependent test only matters for an enum that has a variant
with exactly one field: for every other enum the variant loop yields the same layouts whatever the
permit bits (hence whatever the demand order) were. -/
theorem layout_loop_partial (vs vs' : List (Nat × Bool))
    (ha : vs.map (·.1) = vs'.map (·.1)) (h1 : ∀ v ∈ vs, v.1 ≠ 1) :
    variantLoop vs = variantLoop vs' := by
  unfold variantLoop
  rw [stepV_fold_no_arity_one vs vs' _ ha h1]

example : variantLoop [(0, false), (2, true), (3, false)] = variantLoop [(0, true), (2, false), (3, true)] := by
  decide

/-- …and the test *does* matter as soon as there is one: same arities, different bits. -/
theorem layout_loop_counterexample :
    ∃ vs vs' : List (Nat × Bool), vs.map (·.1) = vs'.map (·.1) ∧ variantLoop vs ≠ variantLoop vs' :=
  ⟨[(0, false), (1, true)], [(0, false), (1, false)], by decide, by decide⟩

end SamVerif.Layout
