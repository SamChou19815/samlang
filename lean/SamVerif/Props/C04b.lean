import SamVerif.Lemmas.Backends
import SamVerif.Lemmas.ListIndex
/-!
# C04 (continued) — the two `Vec` runtimes, `Str.concat`, string `==`, `Str.fromInt`, `Str.toInt`,
identity comparison of references
-/
namespace SamVerif.Backends

/-! ## `Vec`: the WebAssembly runtime refines the TypeScript one, for every element boxing `box` -/

section Generic
variable {box : Int → Int} {t : List Int} {w : WVec}

/-- The WebAssembly vector `w` represents the TypeScript array `t`: same length, within capacity,
and slot `i` holds element `i` as the call site boxes it (`box`: `i31wrap` for `Vec<int>`, the
identity for references). -/
def Rel (box : Int → Int) (t : List Int) (w : WVec) : Prop :=
  w.len = t.length ∧ w.len ≤ w.data.length ∧
    ∀ (i : Nat) (v : Int), t[i]? = some v → w.data[i]? = some (some (box v))

/-- what the WebAssembly program observes when the TypeScript program observes `r` -/
def expectW (box : Int → Int) : VOp → VRes → VRes
  | .pop, .val n => .val (box n)
  | .get _, .val n => .val (box n)
  | _, r => r

theorem rel_empty : Rel box [] WVec.empty := by
  refine ⟨rfl, by simp [WVec.empty], ?_⟩
  intro i v h; simp at h

theorem rel_of (v : Int) : Rel box (tsVecOf v) (wasmVecOf box v) := by
  refine ⟨rfl, by simp [wasmVecOf], ?_⟩
  intro i x hx
  cases i with
  | zero => simp [tsVecOf] at hx; subst hx; simp [wasmVecOf]
  | succ i => simp [tsVecOf] at hx

theorem rel_withCapacity (n : Int) (w : WVec) (h : wasmVecWithCapacity n = some w) : Rel box [] w := by
  unfold wasmVecWithCapacity at h
  split at h
  · cases h
  · cases h; exact ⟨rfl, by simp, by intro i v hv; simp at hv⟩

theorem ite_lt_eq_max (a b : Nat) : (if a < b then b else a) = max a b := by
  by_cases h : a < b
  · rw [if_pos h, Nat.max_eq_right (Nat.le_of_lt h)]
  · rw [if_neg h, Nat.max_eq_left (Nat.not_lt.mp h)]

theorem wReserve_spec (w : WVec) (min : Nat) (h : w.len ≤ w.data.length) :
    (wReserve w min).len = w.len ∧ min ≤ (wReserve w min).data.length ∧
      w.len ≤ (wReserve w min).data.length ∧
      ∀ i, i < w.len → (wReserve w min).data[i]? = w.data[i]? := by
  unfold wReserve
  by_cases hm : min ≤ w.data.length
  · rw [if_pos hm]; exact ⟨rfl, hm, h, fun _ _ => rfl⟩
  · rw [if_neg hm]
    have hl : (w.data.take w.len).length = w.len := by rw [List.length_take]; exact Nat.min_eq_left h
    simp only [ite_lt_eq_max, List.length_append, List.length_replicate, hl]
    have hc : min ≤ max (max (2 * w.data.length) min) 4 :=
      Nat.le_trans (Nat.le_max_right _ _) (Nat.le_max_left _ _)
    have hlc := Nat.le_trans h (Nat.le_trans (Nat.le_of_not_le hm) hc)
    rw [Nat.add_sub_cancel' hlc]
    refine ⟨trivial, hc, hlc, fun i hi => ?_⟩
    rw [List.getElem?_append_left (hl.symm ▸ hi), List.getElem?_take, if_pos hi]

theorem Rel.getD (h : Rel box t w) {i : Nat} (hi : i < t.length) :
    w.data.getD i none = some (box (t.getD i 0)) := by
  rw [List.getD_eq_getElem?_getD, List.getD_eq_getElem?_getD,
    h.2.2 i t[i] (List.getElem?_eq_getElem hi), List.getElem?_eq_getElem hi]; rfl

theorem Rel.reserve (h : Rel box t w) (n : Nat) : Rel box t (wReserve w n) := by
  obtain ⟨r1, _, r3, r4⟩ := wReserve_spec w n h.2.1
  refine ⟨r1 ▸ h.1, r1 ▸ r3, fun i x hx => ?_⟩
  rw [r4 i (h.1 ▸ (List.getElem?_eq_some_iff.mp hx).1)]; exact h.2.2 i x hx

theorem Rel.push (h : Rel box t w) (hc : w.len < w.data.length) (v : Int) :
    Rel box (t ++ [v]) ⟨w.data.set w.len (some (box v)), w.len + 1⟩ := by
  obtain ⟨hlen, _, hel⟩ := h
  refine ⟨by simp [hlen], by simp; omega, fun i x hx => ?_⟩
  rw [List.getElem?_set]
  rcases getElem?_snoc_eq_some.mp hx with hi | ⟨rfl, rfl⟩
  · have := (List.getElem?_eq_some_iff.mp hi).1
    rw [if_neg (by omega)]; exact hel i x hi
  · rw [if_pos hlen, if_pos hc]

theorem Rel.pop (h : Rel box t w) :
    Rel box (t.take (t.length - 1)) ⟨w.data.set (w.len - 1) none, w.len - 1⟩ := by
  obtain ⟨hlen, hcap, hel⟩ := h
  refine ⟨by simp [hlen], by simp; omega, fun i x hx => ?_⟩
  rw [List.getElem?_take] at hx
  split at hx
  · rw [List.getElem?_set, if_neg (by omega)]; exact hel i x hx
  · cases hx

theorem Rel.set (h : Rel box t w) (i : Nat) (v : Int) :
    Rel box (t.set i v) { w with data := w.data.set i (some (box v)) } := by
  obtain ⟨hlen, hcap, hel⟩ := h
  refine ⟨by simp [hlen], by simp; exact hcap, fun j x hx => ?_⟩
  rw [List.getElem?_set] at hx ⊢
  split
  · rw [if_pos ‹_›] at hx
    split at hx
    · rw [if_pos (by omega)]; cases hx; rfl
    · cases hx
  · rw [if_neg ‹_›] at hx; exact hel j x hx

/-- **One call**: related states stay related, the WebAssembly result is the `box` image of the
TypeScript result (`expectW`), and a call fails on one side iff it fails on the other. -/
theorem vec_step_sim (t : List Int) (w : WVec) (h : Rel box t w) (op : VOp) :
    (wasmVecStep box w op).2 = expectW box op (tsVecStep t op).2 ∧
      ((∀ m, (tsVecStep t op).2 ≠ .fail m) → Rel box (tsVecStep t op).1 (wasmVecStep box w op).1) := by
  have hlen := h.1
  -- the cases of `tsVecStep` in its order: push; pop (empty, non-empty); get (out of bounds, in
  -- bounds); set (likewise); len; reserve
  fun_cases tsVecStep t op <;> simp only [wasmVecStep, hlen]
  case case1 v =>
    have hr := h.reserve (w.len + 1)
    have hc := (wReserve_spec w (w.len + 1) h.2.1).2.1
    have hl : (wReserve w (w.len + 1)).len = w.len := hr.1.trans hlen.symm
    have := hr.push (by omega) v
    rw [hl, hlen] at this
    exact ⟨rfl, fun _ => this⟩
  case case2 h0 => rw [if_pos h0]; exact ⟨rfl, fun hf => absurd rfl (hf _)⟩
  case case3 h0 => rw [if_neg h0, h.getD (by omega)]; exact ⟨rfl, fun _ => hlen ▸ h.pop⟩
  case case4 hb => rw [if_pos hb]; exact ⟨rfl, fun hf => absurd rfl (hf _)⟩
  case case5 hb => rw [if_neg hb, h.getD (by omega)]; exact ⟨rfl, fun _ => h⟩
  case case6 hb => rw [if_pos hb]; exact ⟨rfl, fun hf => absurd rfl (hf _)⟩
  case case7 i v hb => rw [if_neg hb]; exact ⟨rfl, fun _ => hlen ▸ h.set i.toNat v⟩
  case case8 => exact ⟨rfl, fun _ => h⟩
  case case9 n => exact ⟨rfl, fun _ => h.reserve n.toNat⟩

theorem expectW_fail_iff (op : VOp) (r : VRes) (m : String) : expectW box op r = .fail m ↔ r = .fail m := by
  cases op <;> cases r <;> simp [expectW]

theorem expectW_isFail (op : VOp) (r : VRes) : (expectW box op r).isFail = r.isFail := by
  cases op <;> cases r <;> rfl

/-- **Every call sequence**: the WebAssembly run is the `box` image of the TypeScript run — same
number of results, failure at the same call. -/
theorem vec_refines (ops : List VOp) (t : List Int) (w : WVec) (h : Rel box t w) :
    wasmVecRun box w ops = List.zipWith (expectW box) ops (tsVecRun t ops) := by
  induction ops generalizing t w with
  | nil => rfl
  | cons op ops ih =>
    obtain ⟨hres, hrel⟩ := vec_step_sim t w h op
    rw [wasmVecRun_cons, tsVecRun_cons, List.zipWith_cons_cons, hres, expectW_isFail]
    cases hf : (tsVecStep t op).2.isFail
    · rw [if_neg Bool.false_ne_true, if_neg Bool.false_ne_true,
        ih _ _ (hrel fun m e => by rw [e] at hf; cases hf)]
    · rw [if_pos rfl, if_pos rfl, List.zipWith_nil_right]

example : wasmVecRun i31wrap WVec.empty [.push 5, .push 7, .get 1, .pop, .len] =
    [.unit, .unit, .val 7, .val 7, .val 1] := by decide

/- Full-strength statement (FALSE):
   theorem vec_agree (ops) : wasmVecRun box WVec.empty ops = tsVecRun [] ops                          -/

/-- a stored int outside 31 bits (C04-F5, open). A failing call is not a witness (finding C04-F6:
`unreachable` trap vs panic with a message): the two runtimes fail with the same message
(fix 361669d), see `vec_fail_coincide`. -/
theorem vec_agree_counterexample :
    wasmVecRun i31wrap WVec.empty [.push 2000000000, .get 0] ≠ tsVecRun [] [.push 2000000000, .get 0] := by
  decide

/-- all stored ints fit in 31 bits -/
def SmallValues (ops : List VOp) : Prop :=
  ∀ op ∈ ops, match op with
    | .push v => InI31 v
    | .set _ v => InI31 v
    | _ => True

def VOp.stored : VOp → Option Int
  | .push v => some v
  | .set _ v => some v
  | _ => none

theorem tsVecStep_fix (t : List Int) (ht : ∀ x ∈ t, box x = x) (op : VOp)
    (hop : ∀ v, op.stored = some v → box v = v) :
    (∀ x ∈ (tsVecStep t op).1, box x = x) ∧
      expectW box op (tsVecStep t op).2 = (tsVecStep t op).2 := by
  have hgetD : ∀ i, i < t.length → box (t.getD i 0) = t.getD i 0 := by
    intro i hi
    rw [List.getD_eq_getElem?_getD, List.getElem?_eq_getElem hi]
    exact ht _ (List.getElem_mem hi)
  fun_cases tsVecStep t op
  -- push, pop, get, set in bounds; every other case keeps the array and returns no element
  case case1 v =>
    exact ⟨fun x hx => (List.mem_append.mp hx).elim (ht x) (fun h => List.mem_singleton.mp h ▸ hop v rfl), rfl⟩
  case case3 =>
    exact ⟨fun x hx => ht x (List.mem_of_mem_take hx), congrArg VRes.val (hgetD _ (by omega))⟩
  case case5 => exact ⟨ht, congrArg VRes.val (hgetD _ (by omega))⟩
  case case7 i v _ =>
    exact ⟨fun x hx => (List.mem_or_eq_of_mem_set hx).elim (ht x) (fun h => h ▸ hop v rfl), rfl⟩
  all_goals exact ⟨ht, rfl⟩

theorem vec_agree_fix_aux (ops : List VOp) (t : List Int) (ht : ∀ x ∈ t, box x = x)
    (hs : ∀ op ∈ ops, ∀ v, op.stored = some v → box v = v) :
    List.zipWith (expectW box) ops (tsVecRun t ops) = tsVecRun t ops := by
  induction ops generalizing t with
  | nil => rfl
  | cons op ops ih =>
    obtain ⟨hsm, hex⟩ := tsVecStep_fix t ht op (hs op List.mem_cons_self)
    rw [tsVecRun_cons, List.zipWith_cons_cons, hex]
    split
    · rw [List.zipWith_nil_right]
    · rw [ih _ hsm fun o ho => hs o (List.mem_cons_of_mem _ ho)]

/-- **The two `Vec` runtimes agree on the fixed points of the boxing**: a program that holds and
stores only values `box` leaves alone observes the same from both. `i31_roundtrip_iff` says which
values these are for `Vec<int>`; for a `Vec` of references all are. -/
theorem vec_agree_fix (ops : List VOp) (t : List Int) (w : WVec) (h : Rel box t w)
    (ht : ∀ x ∈ t, box x = x) (hs : ∀ op ∈ ops, ∀ v, op.stored = some v → box v = v) :
    wasmVecRun box w ops = tsVecRun t ops := by
  rw [vec_refines ops t w h, vec_agree_fix_aux ops t ht hs]

/-- **`vec_agree` for 31-bit elements**: if every stored int fits in 31 bits, a program observes
exactly the same results — including which call fails and with which message — from both `Vec`
runtimes, for every call sequence. -/
theorem vec_agree_partial (ops : List VOp) (hs : SmallValues ops) :
    wasmVecRun i31wrap WVec.empty ops = tsVecRun [] ops := by
  refine vec_agree_fix ops [] _ rel_empty nofun fun op hop v hv => i31wrap_id ?_
  -- `SmallValues` asks `InI31` of exactly the values `VOp.stored` returns: those of `push` and `set`
  have := hs op hop
  cases op <;> cases hv <;> exact this

example : wasmVecRun i31wrap WVec.empty [.pop] = tsVecRun [] [.pop] :=
  vec_agree_partial _ fun _ h => List.mem_singleton.mp h ▸ trivial

example : SmallValues [.push 5, .set 0 (-1073741824), .get 7] := by
  intro op hop; simp at hop; rcases hop with rfl | rfl | rfl <;> simp <;> decide

theorem tsVecRun_length_le (ops : List VOp) (t : List Int) :
    (tsVecRun t ops).length ≤ ops.length := by
  induction ops generalizing t with
  | nil => exact Nat.le_refl 0
  | cons op ops ih =>
    rw [tsVecRun_cons, List.length_cons, List.length_cons]
    split
    · exact Nat.succ_le_succ (Nat.zero_le _)
    · exact Nat.succ_le_succ (ih _)

/-- **Failures coincide** (all element values): both runs produce the same number of results, and
the WebAssembly run fails at call `k` with message `m` iff the TypeScript run does. -/
theorem vec_fail_coincide (ops : List VOp) :
    (wasmVecRun box WVec.empty ops).length = (tsVecRun [] ops).length ∧
      ∀ (k : Nat) (m : String), (tsVecRun [] ops)[k]? = some (VRes.fail m) ↔
        (wasmVecRun box WVec.empty ops)[k]? = some (VRes.fail m) := by
  rw [vec_refines ops [] WVec.empty rel_empty]
  have hle := tsVecRun_length_le ops []
  refine ⟨by simp [List.length_zipWith]; omega, fun k m => ?_⟩
  rw [List.getElem?_zipWith]
  by_cases hk : k < (tsVecRun [] ops).length
  · have hk' : k < ops.length := by omega
    rw [List.getElem?_eq_getElem hk, List.getElem?_eq_getElem hk']
    simp only [Option.some.injEq]
    rw [expectW_fail_iff]
  · have : (tsVecRun [] ops)[k]? = none := List.getElem?_eq_none (by omega)
    rw [this]
    cases ops[k]? <;> simp

/-- `capacity` is only a hint, but on both sides it is never below the length. -/
theorem capacity_ge_length (t : List Int) (w : WVec) (h : Rel box t w) :
    t.length ≤ tsCapacity t ∧ t.length ≤ wasmCapacity w := by
  refine ⟨Nat.le_refl _, ?_⟩
  unfold wasmCapacity; rw [← h.1]; exact h.2.1

/-- `reserve n` makes room for `n` elements on the WebAssembly side (that the call shows the program
nothing is its case of `vec_step_sim`, through `Rel.reserve`). -/
theorem reserve_capacity (w : WVec) (n : Int) (h : w.len ≤ w.data.length) :
    n ≤ wasmCapacity (wasmVecStep box w (.reserve n)).1 := by
  obtain ⟨_, r2, _, _⟩ := wReserve_spec w n.toNat h
  simp only [wasmVecStep, wasmCapacity]; omega

/-! ### `Vec.eq` -/

theorem rel_take (t : List Int) (w : WVec) (h : Rel box t w) :
    w.data.take w.len = (t.map box).map some := by
  obtain ⟨hlen, hcap, hel⟩ := h
  apply List.ext_getElem?
  intro i
  rw [List.getElem?_take, List.map_map, List.getElem?_map]
  by_cases hi : i < w.len
  · rw [if_pos hi]
    have hi' : i < t.length := by omega
    rw [hel i t[i] (List.getElem?_eq_getElem hi'), List.getElem?_eq_getElem hi']; rfl
  · rw [if_neg hi, List.getElem?_eq_none (by omega)]; rfl

theorem wasmVecEqLoop_take (n : Nat) : ∀ (a b : List (Option Int)), n ≤ a.length → n ≤ b.length →
    wasmVecEqLoop n a b = decide (a.take n = b.take n) := by
  induction n with
  | zero => intro a b _ _; simp [wasmVecEqLoop]
  | succ n ih =>
    intro a b ha hb
    cases a with
    | nil => simp at ha
    | cons x xs =>
      cases b with
      | nil => simp at hb
      | cons y ys =>
        simp only [wasmVecEqLoop, List.take_succ_cons, List.cons.injEq]
        by_cases hxy : x = y
        · subst hxy; simp [ih xs ys (by simpa using ha) (by simpa using hb)]
        · simp [hxy]

theorem tsVecEqLoop_eq (a b : List Int) (h : a.length = b.length) :
    tsVecEqLoop a b = decide (a = b) := by
  induction a generalizing b with
  | nil => rw [List.eq_nil_of_length_eq_zero h.symm]; rfl
  | cons x xs ih =>
    cases b with
    | nil => simp at h
    | cons y ys =>
      simp only [tsVecEqLoop, List.cons.injEq]
      by_cases hxy : x = y
      · subst hxy; simp [ih ys (by simpa using h)]
      · simp [hxy]

/-- the shape both `Vec.eq` and string `==` have: identity, then lengths, then the element loop -/
theorem eqTest_spec {α : Type} [DecidableEq α] (same : Bool) (a b : List α) (loop : Bool)
    (hs : same = true → a = b) (hl : a.length = b.length → loop = decide (a = b)) :
    (if same then 1 else if a.length ≠ b.length then 0 else b2i loop) = b2i (decide (a = b)) := by
  by_cases h1 : same = true
  · rw [if_pos h1, decide_eq_true (hs h1)]; rfl
  · by_cases h2 : a.length = b.length
    · rw [if_neg h1, if_neg (not_not_intro h2), hl h2]
    · rw [if_neg h1, if_pos h2, decide_eq_false (fun e => h2 (congrArg List.length e))]; rfl

/-- TypeScript `Vec.eq` decides list equality (or identity) — for ALL argument values. -/
theorem tsVecEq_spec (same : Bool) (a b : List Int) (hs : same = true → a = b) :
    tsVecEq same a b = b2i (decide (a = b)) :=
  eqTest_spec same a b _ hs (tsVecEqLoop_eq a b)

/-- **`Vec.eq`, all arguments**: the WebAssembly answer on the representations equals the
TypeScript answer on the `box` images of the two arrays. -/
theorem vec_eq_refines (same : Bool) (ta tb : List Int) (wa wb : WVec) (ha : Rel box ta wa)
    (hb : Rel box tb wb) :
    wasmVecEq same wa wb = tsVecEq same (ta.map box) (tb.map box) := by
  unfold wasmVecEq tsVecEq
  by_cases h1 : same = true
  · simp [h1]
  · simp only [h1, if_false, List.length_map, Bool.false_eq_true]
    rw [ha.1, hb.1]
    by_cases hl : ta.length = tb.length
    · simp only [hl, ne_eq, not_true_eq_false, if_false]
      -- both loops compare the first `len` slots, and by `rel_take` those are the boxed elements
      rw [tsVecEqLoop_eq _ _ (by simp [hl])]
      have h2 := wasmVecEqLoop_take tb.length wa.data wb.data (by rw [← hl, ← ha.1]; exact ha.2.1)
        (by rw [← hb.1]; exact hb.2.1)
      have e1 := rel_take ta wa ha
      have e2 := rel_take tb wb hb
      rw [ha.1, hl] at e1; rw [hb.1] at e2
      rw [h2, e1, e2]
      simp only [List.map_inj_right fun _ _ => Option.some.inj]
    · simp [hl]

/-- **`Vec.eq` agrees on arrays of fixed points of the boxing** (the counterpart of `vec_agree_fix`). -/
theorem vec_eq_agree_fix (same : Bool) (ta tb : List Int) (wa wb : WVec) (ha : Rel box ta wa)
    (hb : Rel box tb wb) (sa : ∀ x ∈ ta, box x = x) (sb : ∀ x ∈ tb, box x = x) :
    wasmVecEq same wa wb = tsVecEq same ta tb := by
  rw [vec_eq_refines same ta tb wa wb ha hb, (List.map_congr_left sa).trans (List.map_id ta),
    (List.map_congr_left sb).trans (List.map_id tb)]

end Generic

/- Full-strength statement (FALSE, C04-F5): wasmVecEq same wa wb = tsVecEq same ta tb -/

/-- `[1073741824].eq([-1073741824])`: equal after i31 truncation, different in TypeScript. -/
theorem vec_eq_agree_counterexample :
    Rel i31wrap [1073741824] (wasmVecOf i31wrap 1073741824) ∧ Rel i31wrap [-1073741824] (wasmVecOf i31wrap (-1073741824)) ∧
      wasmVecEq false (wasmVecOf i31wrap 1073741824) (wasmVecOf i31wrap (-1073741824)) ≠
        tsVecEq false [1073741824] [-1073741824] := by
  refine ⟨rel_of _, rel_of _, by decide⟩

/-- **`vec_eq_agree` (partial: 31-bit elements)**: for all pairs of vectors — equal, prefix,
longer, shorter, empty — both runtimes give the same answer. -/
theorem vec_eq_agree_partial (same : Bool) (ta tb : List Int) (wa wb : WVec) (ha : Rel i31wrap ta wa)
    (hb : Rel i31wrap tb wb) (sa : ∀ x ∈ ta, InI31 x) (sb : ∀ x ∈ tb, InI31 x) :
    wasmVecEq same wa wb = tsVecEq same ta tb :=
  vec_eq_agree_fix same ta tb wa wb ha hb (fun x hx => i31wrap_id (sa x hx))
    (fun x hx => i31wrap_id (sb x hx))

example : tsVecEq false [] [5] = 0 ∧ tsVecEq false [5] [5, 6] = 0 ∧ tsVecEq false [5, 6] [5, 6] = 1 := by
  decide

/-! ## `Vec` of reference elements (`Vec<Str>`, `Vec<Vec<int>>`, `Vec<SomeClass>`)

Elements are object identities (numbered by `Int`); nothing is boxed: `box = id`, so every value is
a fixed point and `vec_agree_fix`, `vec_eq_agree_fix` give agreement at full strength. -/

/-- **`vec_agree` for reference elements, full strength**: every call sequence on a `Vec` whose
elements are references is observed identically (results, failing call, message) on both back ends. -/
theorem vec_agree_ref (ops : List VOp) : wasmVecRun id WVec.empty ops = tsVecRun [] ops :=
  vec_agree_fix ops [] _ rel_empty nofun fun _ _ _ _ => rfl

/-- **`Vec.eq` for reference elements, full strength**: element-wise identity on both sides. -/
theorem vec_eq_agree_ref (same : Bool) (ta tb : List Int) (wa wb : WVec) (ha : Rel id ta wa)
    (hb : Rel id tb wb) : wasmVecEq same wa wb = tsVecEq same ta tb :=
  vec_eq_agree_fix same ta tb wa wb ha hb (fun _ _ => rfl) (fun _ _ => rfl)

example : wasmVecRun id WVec.empty [.push 2000000000, .get 0, .pop, .pop] =
    tsVecRun [] [.push 2000000000, .get 0, .pop, .pop] := vec_agree_ref _

/-! ## `Str.concat` and string `==` -/

theorem copyLoop_spec (cs : List Nat) : ∀ (pre : List Nat) (k : Nat),
    copyLoop (pre ++ List.replicate (cs.length + k) 0) pre.length cs =
      pre ++ cs ++ List.replicate k 0 := by
  induction cs with
  | nil => intro pre k; simp [copyLoop]
  | cons c cs ih =>
    intro pre k
    simp only [copyLoop, List.length_cons]
    have hset : (pre ++ List.replicate (cs.length + 1 + k) 0).set pre.length c =
        (pre ++ [c]) ++ List.replicate (cs.length + k) 0 := by
      rw [show cs.length + 1 + k = (cs.length + k) + 1 by omega, List.replicate_succ]
      simp
    rw [hset]
    have := ih (pre ++ [c]) k
    simp only [List.length_append, List.length_singleton] at this
    rw [this]; simp

/-- **`Str.concat` agrees**: the two copy loops of the WebAssembly runtime build `a ++ b`. -/
theorem concat_agree (a b : List Nat) : wasmStrConcat a b = tsStrConcat a b := by
  unfold wasmStrConcat tsStrConcat
  have h1 := copyLoop_spec a [] b.length
  simp only [List.nil_append, List.length_nil] at h1
  rw [h1]
  have h2 := copyLoop_spec b a 0
  simp only [Nat.add_zero, List.replicate_zero, List.append_nil] at h2
  exact h2

theorem readByte_inj (s : Bool) (x y : Nat) (hx : x < 256) (hy : y < 256) :
    readByte s x = readByte s y ↔ x = y := by
  unfold readByte
  cases s
  · simp only [Bool.false_eq_true, false_and, if_false]; omega
  · simp only [true_and]; split <;> split <;> omega

/-- the comparison loop decides equality of the byte strings for either extension, as long as both
operands are read with the same one -/
theorem strEqLoopWith_same (s : Bool) (a b : List Nat) (h : a.length = b.length)
    (ha : ∀ x ∈ a, x < 256) (hb : ∀ x ∈ b, x < 256) :
    strEqLoopWith s s a b = decide (a = b) := by
  induction a generalizing b with
  | nil => rw [List.eq_nil_of_length_eq_zero h.symm]; rfl
  | cons x xs ih =>
    cases b with
    | nil => simp at h
    | cons y ys =>
      have hxy := readByte_inj s x y (ha x List.mem_cons_self) (hb y List.mem_cons_self)
      simp only [strEqLoopWith, List.cons.injEq, ne_eq]
      by_cases e : x = y
      · subst e
        simp [ih ys (by simpa using h) (fun z hz => ha z (List.mem_cons_of_mem _ hz))
          (fun z hz => hb z (List.mem_cons_of_mem _ hz))]
      · have : ¬ readByte s x = readByte s y := fun hh => e (hxy.mp hh)
        simp [this, e]

/-- mixed extension (one operand `array.get_u`, the other `array.get_s`): a string with a byte
≥ 0x80 is unequal to itself — the fault class of seed C04f -/
theorem strEqLoopWith_mixed_counterexample :
    strEqLoopWith false true [195, 169] [195, 169] = false ∧
      strEqLoopWith true false [195, 169] [195, 169] = false := by decide

theorem wasmStrEqLoop_eq (a b : List Nat) (h : a.length = b.length)
    (ha : ∀ x ∈ a, x < 256) (hb : ∀ x ∈ b, x < 256) :
    wasmStrEqLoop a b = decide (a = b) := by
  have e : strEqSignedB = strEqSignedA := rfl     -- the code reads both operands the same way
  unfold wasmStrEqLoop
  rw [e]
  exact strEqLoopWith_same _ a b h ha hb

/-- **String `==` agrees** for all pairs of byte strings (`$__Str$eq`, with the reads as the code
performs them, vs JS string equality; UTF-8 is injective, so equality of the byte strings is
equality of the strings). -/
theorem str_eq_agree (same : Bool) (a b : List Nat) (hs : same = true → a = b)
    (ha : ∀ x ∈ a, x < 256) (hb : ∀ x ∈ b, x < 256) :
    wasmStrEq same a b = tsStrEq a b :=
  eqTest_spec same a b _ hs (fun hl => wasmStrEqLoop_eq a b hl ha hb)

/-- `==` on strings is an equivalence test: 1 iff the contents are equal -/
theorem strEq_iff (same : Bool) (a b : List Nat) (hs : same = true → a = b)
    (ha : ∀ x ∈ a, x < 256) (hb : ∀ x ∈ b, x < 256) : wasmStrEq same a b = 1 ↔ a = b := by
  rw [str_eq_agree same a b hs ha hb]
  unfold tsStrEq b2i
  by_cases e : a = b <;> simp [e]

example : wasmStrConcat [97, 98] [99] = [97, 98, 99] := by decide

/-! ## `Str.fromInt` / `Str.toInt` -/

theorem or48 (d : Nat) (h : d < 10) : 48 ||| d = 48 + d := by
  have : ∀ d : Fin 10, 48 ||| d.val = 48 + d.val := by decide
  exact this ⟨d, h⟩

/-- Two fuels, since the two runtimes bound the number of digits differently (`digitsRev 11`,
`natDigits 22`); `1 ≤ p` because the WebAssembly loop writes no digit for `0`. -/
theorem digitsRev_reverse (f : Nat) : ∀ (g p : Nat), p < 10 ^ f → p < 10 ^ g → 1 ≤ p →
    (digitsRev f p).reverse = natDigits g p := by
  induction f with
  | zero => intro g p hf _ h1; exact absurd hf (Nat.not_lt.mpr h1)
  | succ f ih =>
    intro g p hf hg h1
    cases g with
    | zero => exact absurd hg (Nat.not_lt.mpr h1)
    | succ g =>
      rw [digitsRev, if_neg (Nat.not_lt.mpr h1), natDigits, ← Nat.mod_eq_sub_div_mul,
        or48 _ (Nat.mod_lt p (by decide)), List.reverse_cons]
      by_cases h10 : p < 10
      · rw [if_pos h10, Nat.div_eq_of_lt h10, Nat.mod_eq_of_lt h10]; cases f <;> rfl
      · rw [Nat.pow_succ'] at hf hg
        rw [if_neg h10, ih g (p / 10) (Nat.div_lt_of_lt_mul hf) (Nat.div_lt_of_lt_mul hg)
          (Nat.div_pos (Nat.le_of_not_lt h10) (by decide))]

/-- **`Str.fromInt` agrees**: for every `int`, the string built by the WebAssembly runtime
(`libsam.wat:35-152`) is the canonical decimal representation that `String(v)` yields. -/
theorem fromInt_agree (n : Int) (h : InRange n) : wasmFromInt n = tsFromInt n := by
  fun_cases wasmFromInt n
  case case1 hmin => subst hmin; decide
  case case2 _ h0 => subst h0; decide
  case case3 hmin h0 p =>
    unfold InRange at h
    rw [tsFromInt, digitsRev_reverse 11 22 p (by omega) (by omega) (by omega)]

example : wasmFromInt (-120) = [45, 49, 50, 48] := by decide

theorem natDigits_digits (f p : Nat) : ∀ c ∈ natDigits f p, 48 ≤ c ∧ c ≤ 57 := by
  fun_induction natDigits f p with
  | case1 => nofun
  | case2 f p h => intro c hc; cases List.mem_singleton.mp hc; omega
  | case3 f p h ih =>
    intro c hc
    rcases List.mem_append.mp hc with h | h
    · exact ih c h
    · cases List.mem_singleton.mp h; omega

theorem natDigits_ne_nil (f p : Nat) : natDigits (f + 1) p ≠ [] := by
  simp only [natDigits]; split <;> simp

theorem decVal_append (l : List Nat) (c : Nat) (acc : Nat) :
    decVal (l ++ [c]) acc = decVal l acc * 10 + (c - 48) := by
  induction l generalizing acc with
  | nil => rfl
  | cons d r ih => exact ih _

theorem decVal_natDigits (f p : Nat) (h : p < 10 ^ f) : decVal (natDigits f p) 0 = p := by
  fun_induction natDigits f p with
  | case1 => exact (Nat.lt_one_iff.mp h).symm
  | case2 f p h10 => simp [decVal]
  | case3 f p h10 ih =>
    rw [decVal_append, ih (by rw [Nat.pow_succ] at h; omega)]
    omega

/-- the wrapping loop of `$__Str$toInt` computes the exact value modulo 2^32 -/
theorem wasmToIntLoop_spec (ds : List Nat) (hd : ∀ c ∈ ds, 48 ≤ c ∧ c ≤ 57) (acc : Int) (acc' : Nat)
    (ha : acc = wrap32 acc') : wasmToIntLoop ds acc = some (wrap32 (decVal ds acc')) := by
  induction ds generalizing acc acc' with
  | nil => simp [wasmToIntLoop, decVal, ha]
  | cons c r ih =>
    have hc := hd c List.mem_cons_self
    simp only [wasmToIntLoop, decVal]
    rw [if_neg (by omega)]
    apply ih (fun d hd' => hd d (List.mem_cons_of_mem _ hd'))
    rw [ha]
    unfold wrap32; omega

theorem takeWhile_all (p : Nat → Bool) (l : List Nat) (h : ∀ c ∈ l, p c = true) :
    l.takeWhile p = l := by
  induction l with
  | nil => rfl
  | cons c r ih =>
    simp [h c List.mem_cons_self, ih (fun d hd => h d (List.mem_cons_of_mem _ hd))]

theorem wasmToInt_digits (neg : Prop) [Decidable neg] (ds : List Nat) (hd : ∀ c ∈ ds, 48 ≤ c ∧ c ≤ 57)
    (hne : ds ≠ []) :
    wasmToInt ((if neg then [45] else []) ++ ds) =
      some (if neg then wrap32 (0 - wrap32 (decVal ds 0)) else wrap32 (decVal ds 0)) := by
  have hloop := wasmToIntLoop_spec ds hd 0 0 rfl
  by_cases hn : neg
  · simp only [if_pos hn, List.singleton_append, wasmToInt, if_true, hloop]
  · obtain ⟨c, r, rfl⟩ := List.exists_cons_of_ne_nil hne
    have hc := hd c List.mem_cons_self
    have h45 : ¬ c = 45 := by omega
    simp only [if_neg hn, List.nil_append, wasmToInt, h45, if_false, hloop]

theorem tsToInt_digits (neg : Prop) [Decidable neg] (ds : List Nat) (hd : ∀ c ∈ ds, 48 ≤ c ∧ c ≤ 57)
    (hne : ds ≠ []) :
    tsToInt ((if neg then [45] else []) ++ ds) =
      some (if neg then -(decVal ds 0 : Int) else (decVal ds 0 : Int)) := by
  have hall : ds.takeWhile isDigit = ds :=
    takeWhile_all _ _ (fun c hc => by have := hd c hc; simp [isDigit]; omega)
  obtain ⟨c, r, rfl⟩ := List.exists_cons_of_ne_nil hne
  have hc := hd c List.mem_cons_self
  have e1 : ¬ (c = 32 ∨ (9 ≤ c ∧ c ≤ 13)) := by omega
  unfold tsToInt
  by_cases hn : neg
  · simp [hn, hall]
  · simp [hn, e1, show c ≠ 45 by omega, show c ≠ 43 by omega, hall]

/-- **`toInt (fromInt n) = n`** in the WebAssembly runtime (including `MIN`, whose digits overflow
the accumulator and wrap back). -/
theorem wasm_toInt_fromInt (n : Int) (h : InRange n) : wasmToInt (wasmFromInt n) = some n := by
  rw [fromInt_agree n h, tsFromInt, wasmToInt_digits _ _ (natDigits_digits 22 _) (natDigits_ne_nil 21 _),
    decVal_natDigits 22 n.natAbs (by unfold InRange at h; omega)]
  unfold InRange at h
  unfold wrap32
  split <;> simp only [Option.some.injEq] <;> omega

/-- **`toInt (fromInt n) = n`** in the TypeScript runtime: `parseInt(String(n), 10)`. -/
theorem ts_toInt_fromInt (n : Int) (_h : InRange n) : tsToInt (tsFromInt n) = some n := by
  rw [tsFromInt, tsToInt_digits _ _ (natDigits_digits 22 _) (natDigits_ne_nil 21 _),
    decVal_natDigits 22 n.natAbs (by unfold InRange at _h; omega)]
  split <;> simp only [Option.some.injEq] <;> omega
/-- **`toInt_fromInt`**: both back ends read back every `int` from its own decimal string. -/
theorem toInt_fromInt (n : Int) (h : InRange n) :
    wasmToInt (wasmFromInt n) = some n ∧ tsToInt (tsFromInt n) = some n :=
  ⟨wasm_toInt_fromInt n h, ts_toInt_fromInt n h⟩

example : wasmToInt (wasmFromInt (-120)) = some (-120) := by decide

/-! ## Identity comparison of references -/

/-- **`ref_eq_agree`** (full strength after fix d380f36; the statement is about the extracted flag
`tsRefCmpStrict`, so reverting the emission to `==` breaks this proof): for all operand values —
numbers/tags, structs, unboxed payloads, vectors, strings — the emitted TypeScript comparison and
WebAssembly's `ref.eq` give the same answer. -/
theorem ref_eq_agree (a b : JsV) (ha : IsRefVal a) (hb : IsRefVal b) :
    tsRefEq a b = wasmRefEq (repOf a) (repOf b) := by
  have hs : tsRefCmpStrict = true := rfl
  unfold tsRefEq
  rw [hs, if_pos rfl]
  -- `===` and `ref.eq` both compare numbers by value, objects by identity, and separate the two
  cases a with
  | raw s => exact absurd ha (by simp [IsRefVal])
  | num x =>
    cases b with
    | raw s => exact absurd hb (by simp [IsRefVal])
    | num y => exact decide_eq_decide.mpr ⟨congrArg WRef.i31, WRef.i31.inj⟩
    | arr j fs => rfl
  | arr i es =>
    cases b with
    | raw s => exact absurd hb (by simp [IsRefVal])
    | num y => rfl
    | arr j fs => exact decide_eq_decide.mpr ⟨congrArg WRef.obj, WRef.obj.inj⟩

/-- Witness of C04-F8 / C18-F10 (fixed by d380f36): with loose equality an unboxed payload
whose only field is the number 1 equals the tag printed as `1`: `[1] == 1`. -/
theorem loose_eq_counterexample :
    looseEq (.arr 7 [.num 1]) (.num 1) = true ∧ wasmRefEq (repOf (.arr 7 [.num 1])) (repOf (.num 1)) = false := by
  decide

/-- **Exactly where loose equality went wrong**: on operand values, `==` and `===` differ iff one
side is a number and the other an array that coerces to that number. -/
theorem loose_eq_iff (a b : JsV) (ha : IsRefVal a) (hb : IsRefVal b) :
    looseEq a b ≠ strictEq a b ↔
      (∃ n i es, ((a = .num n ∧ b = .arr i es) ∨ (a = .arr i es ∧ b = .num n)) ∧
        primNum (.arr i es) = some n) := by
  cases a with
  | raw s => exact absurd ha (by simp [IsRefVal])
  | num x =>
    cases b with
    | raw s => exact absurd hb (by simp [IsRefVal])
    | num y => simp [looseEq, strictEq]
    | arr j fs =>
      simp only [looseEq, strictEq]
      constructor
      · intro h; exact ⟨x, j, fs, Or.inl ⟨rfl, rfl⟩, by simpa using h⟩
      · rintro ⟨n, i, es, (⟨h1, h2⟩ | ⟨h1, _⟩), hp⟩
        · cases h1; cases h2; simp [hp]
        · cases h1
  | arr i es =>
    cases b with
    | raw s => exact absurd hb (by simp [IsRefVal])
    | arr j fs => simp [looseEq, strictEq]
    | num y =>
      simp only [looseEq, strictEq]
      constructor
      · intro h; exact ⟨y, i, es, Or.inr ⟨rfl, rfl⟩, by simpa using h⟩
      · rintro ⟨n, i', es', (⟨h1, _⟩ | ⟨h1, h2⟩), hp⟩
        · cases h1
        · cases h1; cases h2; simp [hp]

/-- a two-element array (every `_Str`, every struct with ≥ 2 fields) never coerces to a tag -/
theorem loose_eq_safe_two (i : Nat) (e1 e2 : JsV) (es : List JsV) (n : Int) :
    looseEq (.arr i (e1 :: e2 :: es)) (.num n) = false := by
  simp [looseEq, primNum]

end SamVerif.Backends
