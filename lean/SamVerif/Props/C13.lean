import SamVerif.Lemmas.ScopeOrder
import SamVerif.Lemmas.ScopeWrap
/-!
# C13 — Type inference is stable under meaning-preserving rewrites of the source

Modelled and proved here (DESIGN §8 C13):

* consistent renaming — `Model/Scope.lean` is `ssa_analysis.rs` (scope stack, hoisting of toplevel
  names, captures, "name already bound", "cannot resolve name");
* reordering of classes / interfaces / members — `Model/ScopeSig.lean` is
  `build_module_signature` (a fold of `HashMap::insert`s).

Both models are tied to the code on every run by the `ssa` and `sig` correspondence protocols
(`harness/src/bin/c13.rs` vs `Driver/C13.lean`).  The annotation / type-argument / module-splitting
/ block rewrites go through the inference engine; their effect on inference is exercised by the
metamorphic oracle of `vlib/c13.py` only (claim is *partial*); block wrapping at scope level is proved
below (`block_wrap_no_leak`, `block_wrap_resolution`, `block_wrap_expr`), and so is the scope of an `if let`
pattern (`iflet_scope_exits_before_else`, `visit_ifGuard_shape`, `delayed_pop_counterexample`); the hint-ordering
kernel is in `Props/C13Hint.lean`.

`paren_insensitive'` and `parens_insensitive` live in `Props/C13b.lean` (it imports C08's parser model).
-/
namespace SamVerif.Scope

variable {α β : Type} [DecidableEq α] [DecidableEq β]

/-- **Alpha invariance of the scope machine** (all event sequences, all start states): running the
renamed events from the renamed state gives the renamed state — same def/use graph, same invalid
definitions, same captures, the same diagnostics up to the renaming. -/
theorem scope_alpha_events (f : α → β) (hf : Function.Injective f) (evs : List (Ev α)) (st : St α) :
    run (evs.map (Ev.map f)) (st.map f) = (run evs st).map f :=
  run_map f hf evs st

/-- Full strength, every module — well-scoped or not: the analysis of
a consistently renamed module is the renamed analysis of the module. `f` renames every name
(locals, `this`, type names …); "fresh" = injective. -/
theorem scope_alpha_invariant (f : α → β) (hf : Function.Injective f) (this : α) (m : Module α) :
    analyze (f this) (m.map f) = (analyze this m).map f := by
  simp only [analyze, visitModule_map]
  rw [← init_map f, run_map f hf]

/-- consequences spelled out: the def/use graph, the invalid definitions and the *number* of
diagnostics are unchanged; the module is accepted by scope analysis iff the renamed one is. -/
theorem alpha_same_graph (f : α → β) (hf : Function.Injective f) (this : α) (m : Module α) :
    (analyze (f this) (m.map f)).useDef = (analyze this m).useDef ∧
    (analyze (f this) (m.map f)).invalid = (analyze this m).invalid ∧
    defToUse (analyze (f this) (m.map f)) = defToUse (analyze this m) ∧
    (analyze (f this) (m.map f)).errors.length = (analyze this m).errors.length ∧
    (analyze (f this) (m.map f)).unbound.length = (analyze this m).unbound.length := by
  rw [scope_alpha_invariant f hf]
  simp [St.map, defToUse]

theorem alpha_same_verdict (f : α → β) (hf : Function.Injective f) (this : α) (m : Module α) :
    (analyze (f this) (m.map f)).errors = [] ↔ (analyze this m).errors = [] := by
  rw [scope_alpha_invariant f hf]
  simp [St.map]

/-- Injectivity is necessary: merging two names turns an accepted module into a rejected one
(witness: `(a, b) -> …` renamed with `a, b ↦ a`). -/
theorem alpha_noninjective_counterexample :
    ∃ (f : Nat → Nat) (evs : List (Ev Nat)),
      (run evs init).errors = [] ∧ (run (evs.map (Ev.map f)) init).errors ≠ [] :=
  ⟨fun _ => 0, [.push, .define 1 10, .define 2 11, .pop .discard 0], by decide, by decide⟩

/-- non-vacuity: a module with a parameter, a `let`, a lambda capturing it, and an unbound name -/
def sampleBody : Node Nat :=
  .mk .block none 6 [
    .mk .decl none 0 [.mk .pId (some 2) 7 [], .mk .none none 0 [], .mk .var (some 1) 8 []],
    .mk .lambda none 10 [.mk .param (some 3) 11 [], .mk .seq none 0 [.mk .var (some 3) 12 [], .mk .var (some 2) 13 []]],
    .mk .var (some 9) 16 []]

def sampleMember : Member Nat where
  name := 101
  nameLoc := 3
  loc := 4
  isMethod := false
  tparams := []
  params := [(1, 5, .mk .seq none 0 [])]
  ret := .mk .seq none 0 []
  body := some sampleBody

def sampleTop : Toplevel Nat where
  isClass := true
  name := 100
  nameLoc := 1
  loc := 2
  tparams := []
  supers := []
  typeDef := .none
  members := [sampleMember]

def sample : Module Nat := { imports := [], toplevels := [sampleTop] }

example : (analyze 0 sample).useDef = [(13, 7), (12, 11), (8, 5)] := by decide +kernel
example : (analyze 0 sample).lambdaCaps = [(10, [(2, 7)])] := by decide +kernel
example : (analyze 0 sample).unbound = [9] := by decide +kernel
example : (analyze (0 + 50) (sample.map (· + 50))).unbound = [59] := by decide +kernel

/-! ### reordering classes / interfaces: the scope analysis itself (not only the signature map) -/

/-- **The scope machine observes its hash maps only through lookups**: two states whose scopes have
the same content (in any internal order) stay so under every event sequence, with identical
use→definition map, diagnostics, invalid set, unbound names. -/
theorem machine_observes_lookups (evs : List (Ev α)) (st1 st2 : St α) (h : StEq st1 st2) :
    StEq (run evs st1) (run evs st2) :=
  run_eq evs st1 st2 h

/-- Hoisting (`ssa_analysis.rs:90-100`): permuting the toplevels of
a module whose imported and toplevel names are pairwise distinct yields a hoisted context with the
same content, and therefore *every* continuation — the analysis of every class body — produces the
same lookups, use→definition entries, diagnostics and capture tables. -/
theorem toplevel_order_invariant (m m' : Module α) (hi : m'.imports = m.imports)
    (hp : m.toplevels.Perm m'.toplevels) (hnd : (names (hoistDefs m)).Nodup) (evs : List (Ev α)) :
    StEq (run evs (run (hoistEvs m) init)) (run evs (run (hoistEvs m') init)) :=
  run_eq evs _ _ (hoist_eq m m' hi hp hnd)

/-- **every toplevel block is analysed in exactly the hoisted context** whichever (and however
many) blocks were analysed before it: a block opens and closes its scopes and leaves the context
untouched (`visit_module` = hoisting ++ blocks, `visitModule_split`). Together with
`toplevel_order_invariant`: the position of a class in the file influences neither the context in
which its body is resolved nor any lookup in it; only the order in which the per-class results
are appended to the result tables differs. -/
theorem toplevel_block_context (this : α) (m : Module α) (ts : List (Toplevel α))
    (hnd : (names (hoistDefs m)).Nodup) :
    (run (hoistEvs m ++ ts.flatMap (visitToplevel this)) init).locals
      = (run (hoistEvs m) init).locals := by
  rw [run_append]
  exact blocks_restore this ts _ (run_wf (rfl : WF (init : St α)) _)

/-- **every traversal fragment is scope-neutral**: running the events of any expression / pattern /
annotation tree between two scope depths never touches the enclosing scopes. -/
theorem visit_scope_neutral (n : Node α) (a : Nat) : Bal a a (visit n) := bal_of_depth (visit_depth n a)

theorem visit_block_one (e : Node α) (loc : Nat) :
    visit (.mk .block none loc [e]) = [.push] ++ visit e ++ [.pop .scoped loc] := by
  rw [visit_block, visitList, visitList, List.append_nil]

/-- **block wrapping, "nothing leaks out"**: wrapping any tree in a block (`{ e }`: push, visit,
pop) restores the surrounding context exactly — whatever `e` binds stays inside. -/
theorem block_wrap_no_leak (e : Node α) (loc : Nat) (st : St α) (s : Scope α) (rest : List (Scope α))
    (h : st.locals = s :: rest) (hw : WF st) :
    (run (visit (.mk .block none loc [e])) st).locals = st.locals := by
  rw [visit_block_one]
  exact scope_restores (visit_depth e 0) .scoped loc hw

/-- **block wrapping, "resolution of the inside is unchanged"**: let `e` be a tree that binds
nothing at its own top level and is scope-balanced (`closedAt 0`, `endDepth 0 … = 0`: decidable; true
of expressions, false of patterns / declarations).  Then analysing `{ e }` instead of `e`, from any
state, yields the same context, the same use→definition map, invalid set, definitions,
diagnostics, unbound names and lambda-capture tables; the only difference is the (empty) binding
table recorded for the new block. -/
theorem block_wrap_resolution (e : Node α) (loc : Nat) (hc : closedAt 0 (visit e) = true)
    (he : endDepth 0 (visit e) = 0) (st : St α) (hw : WF st) :
    let r := run (visit e) st
    let r' := run (visit (.mk .block none loc [e])) st
    r'.locals = r.locals ∧ r'.captured = r.captured ∧ r'.useDef = r.useDef ∧ r'.invalid = r.invalid ∧
    r'.defLocs = r.defLocs ∧ r'.errors = r.errors ∧ r'.unbound = r.unbound ∧
    r'.lambdaCaps = r.lambdaCaps ∧ r'.scopedDefs = insertKV loc [] r.scopedDefs := by
  simp only [visit_block_one]
  exact wrap_sim (visit e) hc he loc st hw

/-- **block wrapping for expressions** (no side condition left to check): every expression-like tree
(`isExpr`: nothing bound at its own top level — blocks, lambdas, match cases and `if let` open their
own scope; patterns / declarations / parameters are excluded) satisfies the hypotheses of
`block_wrap_resolution`, by structural induction over all trees. -/
theorem block_wrap_expr (e : Node α) (loc : Nat) (he : isExpr e = true) (st : St α) (hw : WF st) :
    let r := run (visit e) st
    let r' := run (visit (.mk .block none loc [e])) st
    r'.locals = r.locals ∧ r'.captured = r.captured ∧ r'.useDef = r.useDef ∧ r'.invalid = r.invalid ∧
    r'.defLocs = r.defLocs ∧ r'.errors = r.errors ∧ r'.unbound = r.unbound ∧
    r'.lambdaCaps = r.lambdaCaps ∧ r'.scopedDefs = insertKV loc [] r.scopedDefs :=
  block_wrap_resolution e loc (closed_visit_expr e he) (endDepth_visit e 0) st hw

example : isExpr sampleBody = true := by decide

/-- non-vacuity: the body of `sampleMember` (a block with a `let`, a capturing lambda, uses) is closed -/
example : closedAt 0 (visit sampleBody) = true ∧ endDepth 0 (visit sampleBody) = 0 := by decide
/-- …whereas a bare pattern is not (it binds at its own level) -/
example : closedAt 0 (visit (.mk .pId (some 2) 7 [] : Node Nat)) = false := by decide

/-- `visit_if_else`, `IfElseCondition::Guard`: the names
bound by an `if let` pattern are in scope exactly in the then-branch — the else part (incl. an
`else if let` continuation) is analysed in the very context that was current after the matched
expression, whatever the pattern and the then-branch bind. -/
theorem iflet_scope_exits_before_else (p g e1 : Node α) (st : St α) (s : Scope α) (rest : List (Scope α))
    (h : (run (visit g) st).locals = s :: rest) (hw : WF (run (visit g) st)) :
    (run (visit g ++ ([.push] ++ (visit p ++ visit e1) ++ [.pop .discard 0])) st).locals = s :: rest := by
  rw [run_append, scope_restores (wellNested_visit_append p e1) .discard 0 hw, h]

/-- non-vacuity: `if let p = x { p } else { p }` — the else mention is unresolved, a re-binding in
the else part does not collide -/
example : (run (visit (.mk .ifGuard none 0 [.mk .pId (some 1) 10 [], .mk .seq none 0 [],
      .mk .block none 20 [.mk .var (some 1) 11 []], .mk .block none 21 [.mk .var (some 1) 12 []]])) (init : St Nat)).unbound = [1] := by
  decide
example : (run (visit (.mk .ifGuard none 0 [.mk .pId (some 1) 10 [], .mk .seq none 0 [],
      .mk .block none 20 [.mk .var (some 1) 11 []],
      .mk .block none 21 [.mk .decl none 0 [.mk .pId (some 1) 13 [], .mk .none none 0 [], .mk .seq none 0 []]]])) (init : St Nat)).errors = [] := by
  decide

/-- the model's `if let` has exactly that shape -/
theorem visit_ifGuard_shape (p g e1 e2 : Node α) (loc : Nat) :
    visit (.mk .ifGuard none loc [p, g, e1, e2])
      = (visit g ++ ([.push] ++ (visit p ++ visit e1) ++ [.pop .discard 0])) ++ visit e2 :=
  visit_ifGuard none loc p g e1 e2

/-- fault class (seed C13g): popping the if-let scope only after the else part lets the else part see
(and collide with) the pattern's names. -/
theorem delayed_pop_counterexample :
    (run [Ev.push, .define 1 10, .pop .discard 0, .use 1 11 false] (init : St Nat)).errors ≠ [] ∧
    (run [Ev.push, .define 1 10, .use 1 11 false, .pop .discard 0] (init : St Nat)).errors = [] ∧
    (run [Ev.push, .define 1 10, .pop .discard 0, .push, .define 1 12, .pop .discard 0] (init : St Nat)).errors = [] ∧
    (run [Ev.push, .define 1 10, .push, .define 1 12, .pop .discard 0, .pop .discard 0] (init : St Nat)).errors ≠ [] := by
  decide

end SamVerif.Scope

namespace SamVerif.Sig
open SamVerif.Scope (insertKV lookupKV)
variable {α σ : Type} [DecidableEq α]

/-- Hoisting is independent of the order of the toplevels when
their names are pairwise distinct — every name resolves to the same interface signature. -/
theorem signature_perm_invariant (init : α) (cs : Nat → Nat → σ) {tops tops' : List (Top α σ)}
    (hp : tops.Perm tops') (hnd : (tops.map (·.name)).Nodup) (k : α) :
    lookupKV k (buildModule init cs tops) = lookupKV k (buildModule init cs tops') :=
  lookup_foldl_insert_perm (fun t : Top α σ => t.name) (buildIface init cs) hp hnd [] k

/-- in any order: a name resolves to the signature of the *last* toplevel declaring it -/
theorem signature_last_wins (init : α) (cs : Nat → Nat → σ) (tops : List (Top α σ)) (k : α) :
    lookupKV k (buildModule init cs tops) =
      (tops.reverse.find? (fun t => t.name = k)).map (buildIface init cs) := by
  rw [buildModule, lookup_foldl_insert]
  cases tops.reverse.find? (fun t => t.name = k) <;> simp [lookupKV]

/-- …and therefore with duplicate names the order *does* matter (exactly the case in which the
checker reports a name collision through `ssa_analysis`). -/
theorem signature_dup_order_counterexample :
    ∃ (a b : Top Nat Nat), a.name = b.name ∧
      (lookupKV a.name (buildModule 0 (fun _ _ => 0) [a, b])).map (·.priv) ≠
      (lookupKV a.name (buildModule 0 (fun _ _ => 0) [b, a])).map (·.priv) :=
  ⟨{ name := 1, isClass := true, priv := false, ntparams := 0, nsupers := 0, members := [], tyDef := .none },
   { name := 1, isClass := true, priv := true, ntparams := 0, nsupers := 0, members := [], tyDef := .none },
   rfl, by decide⟩

/-- member loop: the method table is a fold of inserts over the methods -/
theorem methods_eq_fold (c : Bool) (ms : List (MemberD α σ)) (acc : List (α × σ) × List (α × σ)) :
    (ms.foldl (addMember c) acc).2 =
      (ms.filter (·.isMethod)).foldl (fun a m => insertKV m.name m.sig a) acc.2 := by
  induction ms generalizing acc with
  | nil => rfl
  | cons m ms ih =>
    simp only [List.foldl_cons, ih, List.filter_cons, addMember]
    by_cases h : m.isMethod = true <;> by_cases hc : c = true <;> simp [h, hc]

/-- **members may be reordered**: with pairwise distinct member names every method name resolves
to the same signature. -/
theorem methods_perm_invariant (init : α) (cs : Nat → Nat → σ) (t t' : Top α σ)
    (hp : t.members.Perm t'.members) (hnd : (t.members.map (·.name)).Nodup) (k : α) :
    lookupKV k (buildIface init cs t).methods = lookupKV k (buildIface init cs t').methods := by
  simp only [buildIface, methods_eq_fold]
  apply lookup_foldl_insert_perm (·.name) (·.sig) (hp.filter _)
  exact (List.filter_sublist.map _).nodup hnd

end SamVerif.Sig
