import SamVerif.Model.Layout
/-! # C12 — whole-state layout theorem for acyclic type definitions

For definitions without reference cycles (a rank function strictly decreases along every
field-type reference) the layout chosen for a type is a function `spec` of the definitions alone:
whatever the roots and their order, every finished type has layout `spec`. -/
namespace SamVerif.Layout

/-- state-independent layout: the permit bit of a field type is read off the *specified* layout -/
def specPermitWith (sp : Nat → Option DLayout) : Ty → Bool
  | .int => false
  | .id m =>
    match sp m with
    | some (.enumL vs) => vs.all (· == .boxed)
    | some .structL => true
    | none => false

def specBit (sp : Nat → Option DLayout) : List Ty → Bool
  | t :: _ => specPermitWith sp t
  | [] => false

def bitsOf (sp : Nat → Option DLayout) (variants : List (List Ty)) : List (Nat × Bool) :=
  variants.map fun fields => (fields.length, specBit sp fields)

/-- The layout of type `n` computed to recursion depth `k` (first argument): nothing at depth 0; the
permit bits of an enum are read off the layouts of its field types one level further down.  When
every reference lowers the rank, any depth above `rank n` gives the same answer (`spec_stable`). -/
def spec (defs : Defs) : Nat → Nat → Option DLayout
  | 0, _ => none
  | k + 1, n =>
    match lookup defs n with
    | none => none
    | some (.enum variants) => some (.enumL (variantLoop (bitsOf (spec defs k) variants)))
    | some (.struct _) => some .structL

/-- every reference (enum variant field or struct field) goes to a type of strictly smaller rank -/
def Acyclic (defs : Defs) (rank : Nat → Nat) : Prop :=
  (∀ n variants, lookup defs n = some (.enum variants) → ∀ fields, fields ∈ variants → ∀ m,
    Ty.id m ∈ fields → rank m < rank n) ∧
  (∀ n fields, lookup defs n = some (.struct fields) → ∀ m, Ty.id m ∈ fields → rank m < rank n)

theorem bitsOf_congr (sp sp' : Nat → Option DLayout) (variants : List (List Ty))
    (h : ∀ fields, fields ∈ variants → ∀ m, Ty.id m ∈ fields → sp m = sp' m) :
    bitsOf sp variants = bitsOf sp' variants := by
  unfold bitsOf
  apply List.map_congr_left
  intro fields hf
  congr 1
  cases fields with
  | nil => rfl
  | cons t ts =>
    cases t with
    | int => rfl
    | id m => simp [specBit, specPermitWith, h (Ty.id m :: ts) hf m (by simp)]

theorem spec_stable (defs : Defs) (rank : Nat → Nat) (hac : Acyclic defs rank) :
    ∀ k k' n, rank n < k → rank n < k' → spec defs k n = spec defs k' n := by
  intro k
  induction k with
  | zero => intro k' n h; omega
  | succ k ih =>
    intro k' n h h'
    obtain ⟨k', rfl⟩ := Nat.exists_eq_succ_of_ne_zero (Nat.ne_zero_of_lt h')
    simp only [spec]
    cases hl : lookup defs n with
    | none => rfl
    | some d =>
      cases d with
      | struct fields => rfl
      | enum variants =>
        -- the types referred to have smaller rank: both depths suffice for them
        dsimp only
        rw [bitsOf_congr _ (spec defs k') variants fun fields hf m hm =>
          have := hac.1 n variants hl fields hf m hm
          ih k' m (by omega) (by omega)]

/-- The specified layout of `m`, a function of the definitions alone: `spec` at a depth that suffices
for `m`. -/
abbrev S (defs : Defs) (rank : Nat → Nat) (m : Nat) : Option DLayout := spec defs (rank m + 1) m

/-- State invariant of `demand`; `P` is the set of types in progress (entered, not yet finished).
`a`: the entered names are those in progress and the finished ones; `b`: a finished type has its
specified layout; `c`: a type in progress is not finished. -/
structure Inv (defs : Defs) (rank : Nat → Nat) (st : St) (P : Nat → Prop) : Prop where
  a : ∀ (m : Nat), st.names.contains m = true ↔ (P m ∨ (lookup st.done m).isSome = true)
  b : ∀ (m : Nat) (l : DLayout), lookup st.done m = some l → S defs rank m = some l
  c : ∀ (m : Nat), P m → lookup st.done m = none

/-- Finished layouts are never revised. -/
def Mono (st st' : St) : Prop := ∀ m l, lookup st.done m = some l → lookup st'.done m = some l

/-- Contract of the recursive call `rec`: demanding `m`, of rank below the fuel and below every
type in progress, keeps the invariant for the same `P` (so `m` is left finished, not in progress),
revises nothing, and finishes `m` (if defined) with its specified layout.  `P` is quantified here because
`demand` calls `rec` with `n` added to the types in progress (`Inv.start`). -/
def RecOk (defs : Defs) (rank : Nat → Nat) (fuel : Nat) (rec : St → Nat → St) : Prop :=
  ∀ (P : Nat → Prop) (s : St) (m : Nat), Inv defs rank s P → (∀ q, P q → rank m < rank q) → rank m < fuel →
    Inv defs rank (rec s m) P ∧ Mono s (rec s m) ∧
      (∀ vs, lookup defs m = some vs → lookup (rec s m).done m = S defs rank m)

theorem lookup_cons_self {β : Type} (l : List (Nat × β)) (n : Nat) (v : β) :
    lookup ((n, v) :: l) n = some v := if_pos rfl

theorem lookup_cons_ne {β : Type} (l : List (Nat × β)) (n m : Nat) (v : β) (h : n ≠ m) :
    lookup ((n, v) :: l) m = lookup l m := if_neg h

theorem S_undefined (defs : Defs) (rank : Nat → Nat) (m : Nat) (h : lookup defs m = none) :
    S defs rank m = none := by
  simp only [S, spec, h]

theorem S_struct (defs : Defs) (rank : Nat → Nat) (m : Nat) (fields : List Ty)
    (h : lookup defs m = some (.struct fields)) : S defs rank m = some .structL := by
  simp only [S, spec, h]

/-- For acyclic definitions `S` solves the recursion of `spec` without the depth index. -/
theorem S_enum (defs : Defs) (rank : Nat → Nat) (hac : Acyclic defs rank) (n : Nat)
    (variants : List (List Ty)) (h : lookup defs n = some (.enum variants)) :
    S defs rank n = some (.enumL (variantLoop (bitsOf (S defs rank) variants))) := by
  simp only [S, spec, h]
  rw [bitsOf_congr _ (S defs rank) variants fun fields hf m hm =>
    spec_stable defs rank hac _ _ m (hac.1 n variants h fields hf m hm) (Nat.lt_succ_self _)]

theorem S_ne_none (defs : Defs) (rank : Nat → Nat) (m : Nat) (d : Def) (h : lookup defs m = some d) :
    S defs rank m ≠ none := by
  cases d <;> simp [S, spec, h]

theorem fields_inv (defs : Defs) (rank : Nat → Nat) (fuel : Nat) (rec : St → Nat → St)
    (hrec : RecOk defs rank fuel rec) (P : Nat → Prop) :
    ∀ (fields : List Ty) (s : St), Inv defs rank s P →
      (∀ m, Ty.id m ∈ fields → (∀ q, P q → rank m < rank q) ∧ rank m < fuel) →
      Inv defs rank (demandFields rec s fields) P ∧ Mono s (demandFields rec s fields) ∧
        (∀ m, Ty.id m ∈ fields → ∀ vs, lookup defs m = some vs →
          lookup (demandFields rec s fields).done m = S defs rank m) := by
  intro fields
  induction fields with
  | nil => intro s hi _; exact ⟨hi, fun _ _ h => h, by simp⟩
  | cons t ts ih =>
    intro s hi hf
    cases t with
    | int =>
      have := ih s hi fun m hm => hf m (List.mem_cons_of_mem _ hm)
      exact ⟨this.1, this.2.1, fun m hm => this.2.2 m ((List.mem_cons.mp hm).resolve_left nofun)⟩
    | id m0 =>
      obtain ⟨hq, hfu⟩ := hf m0 List.mem_cons_self
      obtain ⟨r1, r2, r3⟩ := hrec P s m0 hi hq hfu
      obtain ⟨i1, i2, i3⟩ := ih (rec s m0) r1 fun m hm => hf m (List.mem_cons_of_mem _ hm)
      refine ⟨i1, fun m l h => i2 m l (r2 m l h), fun m hm vs hvs => ?_⟩
      rcases List.mem_cons.mp hm with h | h
      · cases h
        -- demanded first; later demands keep it
        obtain ⟨l, hS⟩ := Option.ne_none_iff_exists'.mp (S_ne_none defs rank m0 vs hvs)
        rw [hS]
        exact i2 m0 l (hS ▸ r3 vs hvs)
      · exact i3 m h vs hvs

theorem permit_spec (defs : Defs) (rank : Nat → Nat) (st : St) (P : Nat → Prop)
    (hi : Inv defs rank st P) (fields : List Ty)
    (hd : ∀ m, Ty.id m ∈ fields → ∀ d, lookup defs m = some d → lookup st.done m = S defs rank m) :
    firstBit defs st fields = specBit (S defs rank) fields := by
  cases fields with
  | nil => rfl
  | cons t ts =>
    cases t with
    | int => rfl
    | id m =>
      simp only [firstBit, permit, specBit, specPermitWith]
      cases hl : lookup defs m with
      | some d =>
        rw [hd m (by simp) d hl]
        cases hS : S defs rank m with
        | none => exact absurd hS (S_ne_none defs rank m d hl)
        | some l => cases l <;> rfl
      | none =>
        have hS := S_undefined defs rank m hl
        cases hdn : lookup st.done m with
        | none => simp [hS, isStruct, hl]
        | some l => have := hi.b m l hdn; rw [hS] at this; cases this

/-- The fold of `demandVariants` (`Model/Layout.lean`), started from any accumulated `bits` so that
the induction over the variants goes through; `demandVariants defs rec st variants` is `bits = []`. -/
theorem variants_inv (defs : Defs) (rank : Nat → Nat) (fuel : Nat) (rec : St → Nat → St)
    (hrec : RecOk defs rank fuel rec) (P : Nat → Prop) :
    ∀ (variants : List (List Ty)) (st : St) (bits : List (Nat × Bool)), Inv defs rank st P →
      (∀ fields, fields ∈ variants → ∀ m, Ty.id m ∈ fields → (∀ q, P q → rank m < rank q) ∧ rank m < fuel) →
      let r := variants.foldl (fun (acc : St × List (Nat × Bool)) fields =>
        let st' := demandFields rec acc.1 fields
        (st', acc.2 ++ [(fields.length, firstBit defs st' fields)])) (st, bits)
      Inv defs rank r.1 P ∧ Mono st r.1 ∧ r.2 = bits ++ bitsOf (S defs rank) variants := by
  intro variants
  induction variants with
  | nil => intro st bits hi _; exact ⟨hi, fun _ _ h => h, by simp [bitsOf]⟩
  | cons fields rest ih =>
    intro st bits hi hf
    have f1 := fields_inv defs rank fuel rec hrec P fields st hi (fun m hm => hf fields (by simp) m hm)
    have hb := permit_spec defs rank _ P f1.1 fields f1.2.2
    have := ih (demandFields rec st fields) (bits ++ [(fields.length, firstBit defs (demandFields rec st fields) fields)])
      f1.1 (fun fs hfs => hf fs (List.mem_cons_of_mem _ hfs))
    simp only [List.foldl_cons]
    refine ⟨this.1, fun m l h => this.2.1 m l (f1.2.1 m l h), ?_⟩
    rw [this.2.2, hb]
    simp [bitsOf]

theorem Inv.start {defs : Defs} {rank : Nat → Nat} {st : St} {P : Nat → Prop} {n : Nat}
    (hi : Inv defs rank st P) (hndone : lookup st.done n = none) :
    Inv defs rank { st with names := n :: st.names } (fun q => P q ∨ q = n) := by
  refine ⟨fun m => ?_, hi.b, fun m hm => hm.elim (hi.c m) fun h => h ▸ hndone⟩
  simp only [List.contains_cons, Bool.or_eq_true, beq_iff_eq]
  rw [hi.a m, or_left_comm, ← or_assoc]

/-- Leaving `n`: its finished definition `lay`, the specified one, is inserted into the state `r`
reached from `st` while `n` was in progress. -/
theorem Inv.finish {defs : Defs} {rank : Nat → Nat} {st r : St} {P : Nat → Prop} {n : Nat}
    {lay : DLayout} (hnP : ¬ P n) (hndone : lookup st.done n = none)
    (hri : Inv defs rank r (fun q => P q ∨ q = n)) (hrm : Mono st r) (hspec : S defs rank n = some lay) :
    Inv defs rank { r with done := (n, lay) :: r.done } P ∧
      Mono st { r with done := (n, lay) :: r.done } ∧
      lookup ({ r with done := (n, lay) :: r.done } : St).done n = S defs rank n := by
  have other : ∀ m, m ≠ n → lookup ((n, lay) :: r.done) m = lookup r.done m :=
    fun m hmn => lookup_cons_ne _ n m _ fun h => hmn h.symm
  refine ⟨⟨fun m => ?_, fun m l h => ?_, fun m hm => ?_⟩, fun m l h => ?_,
    (lookup_cons_self _ _ _).trans hspec.symm⟩
  · rw [hri.a m]
    by_cases hmn : m = n
    · subst hmn
      rw [lookup_cons_self]
      exact ⟨fun _ => .inr rfl, fun _ => .inl (.inr rfl)⟩
    · simp only [other m hmn, hmn, or_false]
  · by_cases hmn : m = n
    · subst hmn
      exact hspec.trans ((lookup_cons_self _ _ _).symm.trans h)
    · exact hri.b m l ((other m hmn).symm.trans h)
  · rw [other m fun h => hnP (h ▸ hm)]
    exact hri.c m (.inl hm)
  · rw [other m fun e => by rw [e, hndone] at h; cases h]
    exact hrm m l h

/-- The central invariant: `demand` finishes `n` with its specified layout and keeps every
finished type as it was. -/
theorem demand_inv (defs : Defs) (rank : Nat → Nat) (hac : Acyclic defs rank) :
    ∀ fuel, RecOk defs rank fuel (demand defs fuel) := by
  intro fuel
  induction fuel with
  | zero => intro P s m _ _ h; omega
  | succ fuel ih =>
    intro P st n hi hP hfuel
    have hnP : ¬ P n := fun h => Nat.lt_irrefl _ (hP n h)
    simp only [demand]
    by_cases hc : st.names.contains n = true
    · -- already finished
      simp only [hc, ↓reduceIte]
      refine ⟨hi, fun _ _ h => h, ?_⟩
      intro vs _
      rcases (hi.a n).mp hc with h | h
      · exact absurd h hnP
      · obtain ⟨l, hl⟩ := Option.isSome_iff_exists.mp h
        rw [hl, hi.b n l hl]
    · simp only [hc, Bool.false_eq_true, ↓reduceIte]
      have hndone : lookup st.done n = none :=
        Option.not_isSome_iff_eq_none.mp fun h => hc ((hi.a n).mpr (.inr h))
      have hi' := hi.start hndone
      -- what `n` refers to lies below `n`, hence below everything in progress and within the fuel
      have below : ∀ m, rank m < rank n →
          (∀ q, P q ∨ q = n → rank m < rank q) ∧ rank m < fuel :=
        fun m hr => ⟨fun q hq => hq.elim (fun h => Nat.lt_trans hr (hP q h)) fun h => h ▸ hr, by omega⟩
      cases hl : lookup defs n with
      | none => exact ⟨hi, fun _ _ h => h, by intro vs h; cases h⟩
      | some d =>
        cases d with
        | enum variants =>
          obtain ⟨hri, hrm, hrb⟩ := variants_inv defs rank fuel (demand defs fuel) ih _ variants
            { st with names := n :: st.names } [] hi'
            fun fields hf m hm => below m (hac.1 n variants hl fields hf m hm)
          have hspec := S_enum defs rank hac n variants hl
          rw [← List.nil_append (bitsOf _ _), ← hrb] at hspec
          obtain ⟨f1, f2, f3⟩ := Inv.finish hnP hndone hri hrm hspec
          exact ⟨f1, f2, fun _ _ => f3⟩
        | struct fields =>
          have hf := fields_inv defs rank fuel (demand defs fuel) ih _ fields
            { st with names := n :: st.names } hi' fun m hm => below m (hac.2 n fields hl m hm)
          obtain ⟨f1, f2, f3⟩ := Inv.finish hnP hndone hf.1 hf.2.1 (S_struct defs rank n fields hl)
          exact ⟨f1, f2, fun _ _ => f3⟩

theorem layoutAll_inv (defs : Defs) (rank : Nat → Nat) (hac : Acyclic defs rank)
    (hrank : ∀ n, rank n ≤ defs.length) (roots : List Nat) (st : St)
    (hi : Inv defs rank st (fun _ => False)) :
    Inv defs rank (roots.foldl (fun st r => demand defs (defs.length + 1) st r) st) (fun _ => False) := by
  induction roots generalizing st with
  | nil => exact hi
  | cons r rs ih =>
    simp only [List.foldl_cons]
    apply ih
    exact (demand_inv defs rank hac (defs.length + 1) _ st r hi (fun _ h => h.elim)
      (by have := hrank r; omega)).1

/-- Whole state: for acyclic type definitions (enums and
structs), whatever roots are demanded in whatever order, every type that gets a layout gets the one
specified by the definitions alone — so two runs (two hash seeds, two root orders) agree on every
type both of them laid out. -/
theorem layout_acyclic_order_independent (defs : Defs) (rank : Nat → Nat) (hac : Acyclic defs rank)
    (hrank : ∀ n, rank n ≤ defs.length) (roots roots' : List Nat) (n : Nat) (l l' : DLayout)
    (h : layoutOf defs roots n = some l) (h' : layoutOf defs roots' n = some l') : l = l' := by
  have hinit : Inv defs rank { names := [], done := [] } (fun _ => False) :=
    ⟨fun m => by simp [lookup], fun m l h => by simp [lookup] at h, fun _ h => h.elim⟩
  exact Option.some.inj
    (((layoutAll_inv defs rank hac hrank roots _ hinit).b n l h).symm.trans
      ((layoutAll_inv defs rank hac hrank roots' _ hinit).b n l' h'))

/-- non-vacuity: `Box(val a: int, val b: int)` (struct), `Opt(None, Some(Box))`, `Wrap(W(Opt))` is
acyclic with rank `Box ↦ 0, Opt ↦ 1, Wrap ↦ 2`; both demand orders give `Some` unboxed over the
struct and `W` boxed over the enum with a data-less variant. -/
def acyclicDefs : Defs := [(0, .struct [.int, .int]), (1, .enum [[], [.id 0]]), (2, .enum [[.id 1]])]
example : layoutOf acyclicDefs [2, 0] 1 = some (.enumL [.int31, .unboxed]) ∧
    layoutOf acyclicDefs [0, 1, 2] 1 = some (.enumL [.int31, .unboxed]) ∧
    layoutOf acyclicDefs [2] 2 = some (.enumL [.boxed]) ∧
    layoutOf acyclicDefs [2] 0 = some .structL := by decide

end SamVerif.Layout
