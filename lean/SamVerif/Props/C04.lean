import SamVerif.Lemmas.Backends
/-!
# C04 — the TypeScript and the WebAssembly back end produce programs with identical behaviour

Operators, i31 boxing and string constants (model: `Model/Backends.lean` over the operator table
`Generated/TsOps.lean` that `/verif/extract/c04_tsops.py` regenerates from `/repo` on every run).
Where the unchanged code falsifies the full-strength statement, the statement is kept as a comment,
its negation is proved from a concrete witness (`…_counterexample`), and a `…_partial` / `…_iff`
theorem states exactly where agreement holds.
-/
namespace SamVerif.Backends

/- Full-strength statement (FALSE on the unchanged code, see `bin_agree_counterexample`):
   theorem bin_agree (op : Op) (a b : Int) (ha : InRange a) (hb : InRange b)
       (hex : ¬ Excluded op a b) : Agree (tsBin op a b) (wasmBin op a b)                         -/

/-- `-7 / 2`: TypeScript `Math.floor(-3.5) = -4`, WebAssembly `i32.div_s = -3` (finding C04-F1). -/
theorem bin_agree_counterexample :
    ¬ ∀ (op : Op) (a b : Int), InRange a → InRange b → ¬ Excluded op a b →
        Agree (tsBin op a b) (wasmBin op a b) := by
  intro h
  exact absurd (h .DIV (-7) 2 (by decide) (by decide) (by decide)) (by decide)

/-- **Exact characterisation for `/`**: outside the excluded runs the two back ends agree on
`a / b` iff the quotient is exact or both operands have the same sign. -/
theorem div_agree_iff (a b : Int) (hex : ¬ Excluded .DIV a b) :
    Agree (tsBin .DIV a b) (wasmBin .DIV a b) ↔
      (a % b = 0 ∨ (0 < a ∧ 0 < b) ∨ (a < 0 ∧ b < 0)) := by
  simp only [Excluded, not_or] at hex
  obtain ⟨hb0, hmin⟩ := hex
  simp only [tsBin, wasmBin, tsForm, wasmOpcode, evalJs, evalWasm, hb0, if_false, hmin]
  by_cases h0 : a % b = 0
  · simp only [h0, if_true, applyWrap, true_or, iff_true]
    rw [agree_int_iff]
    have hd : b ∣ a := Int.dvd_iff_emod_eq_zero.mpr h0
    rw [Int.tdiv_eq_ediv]; simp [hd]
  · simp only [h0, if_false, applyWrap]
    rw [agree_int_iff, fdiv_eq_tdiv_iff a b hb0]
    simp only [h0]

example : Agree (tsBin .DIV 7 2) (wasmBin .DIV 7 2) := by decide
example : Agree (tsBin .DIV (-8) 2) (wasmBin .DIV (-8) 2) := by decide
example : ¬ Agree (tsBin .DIV 7 (-2)) (wasmBin .DIV 7 (-2)) := by decide

/-- `>>>` (never produced from source programs: no source operator lowers to `SHR`): TypeScript
yields the unsigned value, WebAssembly the same bits as a signed `i32`. -/
theorem shr_disagree_witness : ¬ Agree (tsBin .SHR (-1) 0) (wasmBin .SHR (-1) 0) := by decide

/-- Side condition under which every operator agrees. -/
def BinSide (op : Op) (a b : Int) : Prop :=
  (op = .DIV → (a % b = 0 ∨ (0 < a ∧ 0 < b) ∨ (a < 0 ∧ b < 0))) ∧ (op = .SHR → 0 ≤ a)

instance (op : Op) (a b : Int) : Decidable (BinSide op a b) := by unfold BinSide; infer_instance

/-- **All 16 operators, all int32 operands**: outside the excluded runs (overflow, `/0`) the value
the emitted TypeScript computes equals the value the emitted WebAssembly computes — for `/` under
the (exact) condition of `div_agree_iff`, for `>>>` for a non-negative left operand. -/
theorem bin_agree_partial (op : Op) (a b : Int) (ha : InRange a) (_hb : InRange b)
    (hex : ¬ Excluded op a b) (hside : BinSide op a b) :
    Agree (tsBin op a b) (wasmBin op a b) := by
  cases op
  case DIV => exact (div_agree_iff a b hex).mpr (hside.1 rfl)
  case MUL => exact agree_wrap (Decidable.of_not_not hex)
  case PLUS => exact agree_wrap (Decidable.of_not_not hex)
  case MINUS => exact agree_wrap (Decidable.of_not_not hex)
  case MOD =>
    have hb0 : ¬ b = 0 := hex
    simp only [tsBin, wasmBin, tsForm, wasmOpcode, evalJs, evalWasm, applyWrap, if_neg hb0]
    exact agree_int _
  case SHR =>
    -- a non-negative `a` is its own unsigned reading, and shifting right keeps it in range
    have h0 : 0 ≤ a := hside.2 rfl
    have hu : toU32 a = a := Int.emod_eq_of_lt h0 (Int.lt_of_le_of_lt ha.2 (by decide))
    have hp : (0 : Int) < 2 ^ (toU32 b % 32).toNat := Int.pow_pos (by decide)
    have hr : InRange (a / 2 ^ (toU32 b % 32).toNat) :=
      ⟨Int.le_trans (by decide) (Int.ediv_nonneg h0 (Int.le_of_lt hp)),
        Int.le_trans (Int.ediv_le_self _ h0) ha.2⟩
    have h := agree_wrap hr
    rw [← hu] at h
    exact h
  all_goals exact agree_int _

example : BinSide .DIV 9 4 ∧ ¬ Excluded .DIV 9 4 := by decide
example : BinSide .MUL (-46341) 46340 ∧ ¬ Excluded .MUL (-46341) 46340 := by decide

/-- Comparison results are always 0/1 on both sides (no exclusions needed). -/
theorem cmp_agree (op : Op) (hop : op = .LT ∨ op = .LE ∨ op = .GT ∨ op = .GE ∨ op = .EQ ∨ op = .NE)
    (a b : Int) : Agree (tsBin op a b) (wasmBin op a b) := by
  rcases hop with rfl | rfl | rfl | rfl | rfl | rfl <;> exact agree_int _

/- Full-strength statement (FALSE): theorem i31_roundtrip (n) (h : InRange n) : i31wrap n = n -/

/-- `Vec.of(2000000000).get(0)`: WebAssembly returns `-147483648` (finding C04-F5). -/
theorem i31_roundtrip_counterexample : ¬ ∀ n : Int, InRange n → i31wrap n = n := by
  intro h; exact absurd (h 2000000000 (by decide)) (by decide)

/-- exactly the 31-bit values survive the boxing -/
theorem i31_roundtrip_iff (n : Int) : i31wrap n = n ↔ InI31 n := by
  unfold i31wrap InI31; omega

theorem i31_roundtrip_partial (n : Int) (h : InI31 n) : i31wrap n = n := (i31_roundtrip_iff n).mpr h

example : InI31 1073741823 ∧ InI31 (-1073741824) ∧ ¬ InI31 1073741824 := by decide

/- String constants. The full-strength statement `strconst_agree` holds on the fixed code; each of
these literals falsifies it on the code before the named fix: `"a\nb"` (C04-F2: escapes cooked by the
template literal, kept raw in the data segment; fixed 9fd2988), `"é"` (C04-F4, fixed 8056d1e), a back
quote / `${` (C04-F3, fixed 0e855e5), `"\01"` (C03-F4: octal escape, fixed 9fd2988). -/

/-- Unicode scalar value -/
def Scalar (v : Nat) : Prop := v < 1114112 ∧ ¬ (55296 ≤ v ∧ v < 57344)

instance (v : Nat) : Decidable (Scalar v) := by unfold Scalar; infer_instance

/-- the eight escape letters of the language (`t v 0 b f n r \`) -/
def IsEsc (e : Nat) : Prop :=
  e = 116 ∨ e = 118 ∨ e = 48 ∨ e = 98 ∨ e = 102 ∨ e = 110 ∨ e = 114 ∨ e = 92

instance (e : Nat) : Decidable (IsEsc e) := by unfold IsEsc; infer_instance

/-- content in which every backslash starts one of the eight escape sequences -/
def WellEsc : Text → Prop
  | [] => True
  | 92 :: [] => False
  | 92 :: e :: r => IsEsc e ∧ WellEsc r
  | _ :: r => WellEsc r

/-- the same for the literal as written: `\"` is a ninth escape, a bare `"` or line feed cannot occur -/
def WellEscQ : Text → Prop
  | [] => True
  | 92 :: [] => False
  | 92 :: e :: r => (IsEsc e ∨ e = 34) ∧ WellEscQ r
  | c :: r => c ≠ 34 ∧ c ≠ 10 ∧ WellEscQ r

theorem wellEscQ_cons_plain (c : Nat) (r : Text) (h : c ≠ 92) :
    WellEscQ (c :: r) ↔ (c ≠ 34 ∧ c ≠ 10 ∧ WellEscQ r) := by
  rw [WellEscQ]
  · intro e; exact absurd e h
  · intro e r' h1 _; exact absurd h1 h

theorem wellEsc_cons_plain (c : Nat) (r : Text) (h : c ≠ 92) : WellEsc (c :: r) ↔ WellEsc r := by
  rw [WellEsc]
  · intro e; exact absurd e h
  · intro e r' h1 _; exact absurd h1 h

/-- `c ≠ 92` in the form in which the last case of `WellEsc.induct` / `WellEscQ.induct` supplies it -/
theorem ne_backslash {c : Nat} {r : Text} (h1 : c = 92 → r = [] → False)
    (h2 : ∀ e r', c = 92 → r = e :: r' → False) : c ≠ 92 := by
  intro e
  cases r with
  | nil => exact h1 e rfl
  | cons e' r' => exact h2 e' r' e rfl

theorem lexEscapes_isEsc : ∀ e ∈ 92 :: lexEscapes, IsEsc e ∨ e = 34 := by decide

theorem lexAccepts_wellEscQ (raw : Text) (h : lexAccepts raw = true) : WellEscQ raw := by
  obtain ⟨hc, hv⟩ := Bool.and_eq_true_iff.mp h
  clear h
  induction raw using WellEscQ.induct with
  | case1 => trivial
  | case2 => exact absurd hc (by decide)
  | case3 e r ih =>
    rw [closesAtEnd_esc, Bool.and_eq_true] at hc
    rw [validEscapes_esc, Bool.and_eq_true] at hv
    exact ⟨lexEscapes_isEsc e (by simpa using hv.1), ih hc.2 hv.2⟩
  | case4 c r hne1 hne2 ih =>
    have h92 : c ≠ 92 := ne_backslash hne1 hne2
    rw [closesAtEnd_plain c r h92, Bool.and_eq_true, Bool.and_eq_true] at hc
    rw [validEscapes_plain c r h92] at hv
    rw [wellEscQ_cons_plain c r h92]
    exact ⟨by simpa using hc.1.2, by simpa using hc.1.1, ih hc.2 hv⟩

theorem wellEscQ_head (r : Text) (h : WellEscQ r) : r.head? ≠ some 34 := by
  cases r with
  | nil => intro e; cases e
  | cons q r' =>
    intro e; cases e
    rw [wellEscQ_cons_plain 34 r' (by decide)] at h
    exact h.1 rfl

theorem wellEsc_unescapeQuotes (raw : Text) (h : WellEscQ raw) : WellEsc (unescapeQuotes raw) := by
  induction raw using WellEscQ.induct with
  | case1 => trivial
  | case2 => exact absurd h (by simp [WellEscQ])
  | case3 e r ih =>
    rw [WellEscQ] at h
    rcases h with ⟨he | rfl, hr⟩
    · -- the pair `\e` stays: neither `\e` nor (for `e = \`) `e` with the head of `r` is a `\"`
      have h34 : e ≠ 34 := by rintro rfl; revert he; decide
      rw [unescapeQuotes_cons 92 _ (by intro _ hh; exact h34 (Option.some.inj hh)),
        unescapeQuotes_cons e r (fun _ => wellEscQ_head r hr), WellEsc]
      exact ⟨he, ih hr⟩
    · rw [unescapeQuotes, wellEsc_cons_plain 34 _ (by decide)]; exact ih hr
  | case4 c r hne1 hne2 ih =>
    have h92 : c ≠ 92 := ne_backslash hne1 hne2
    rw [unescapeQuotes_cons c r (fun e => absurd e h92), wellEsc_cons_plain c _ h92]
    exact ih ((wellEscQ_cons_plain c r h92).mp h).2.2
/-- `unescape_quotes` turns an accepted literal into well-escaped content (the left-to-right
replacement of `\"` never splits a `\\` pair) and only drops characters -/
theorem content_wellEsc (raw : Text) (h : WellEscQ raw) :
    WellEsc (content raw) ∧ ∀ c ∈ content raw, c ∈ raw :=
  ⟨wellEsc_unescapeQuotes raw h, fun _ hc => (unescapeQuotes_sublist raw).subset hc⟩

theorem utf8_roundtrip (s : Text) (h : ∀ c ∈ s, Scalar c) :
    utf8Decode ((s.flatMap utf8).map byteToU8) = s := by
  induction s with
  | nil => simp [utf8Decode]
  | cons c r ih =>
    simp only [List.flatMap_cons, List.map_append]
    rw [utf8Decode_utf8 c (Nat.lt_trans (h c List.mem_cons_self).1 (by decide)), ih (fun d hd => h d (List.mem_cons_of_mem _ hd))]

theorem tsCook_esc (e ch : Nat) (rest : Text) (he : e ≠ 48) (hesc : IsEsc e) (hch : escChar e = some ch) :
    tsCook (92 :: e :: rest) = (tsCook rest).map (ch :: ·) := by
  -- `0` is excluded; each other letter has its own arm in `tsCook`, and that arm prepends `escChar e`
  rcases hesc with rfl | rfl | h48 | hesc
  · cases hch; exact tsCook_backslash _ rest (by decide) (by decide)
  · cases hch; exact tsCook_backslash _ rest (by decide) (by decide)
  · exact absurd h48 he
  · rcases hesc with rfl | rfl | rfl | rfl | rfl <;> cases hch <;>
      exact tsCook_backslash _ rest (by decide) (by decide)

theorem escChar_isEsc (e : Nat) (h : IsEsc e) : ∃ c, escChar e = some c ∧ c < 128 := by
  rcases h with rfl | rfl | rfl | rfl | rfl | rfl | rfl | rfl <;> exact ⟨_, rfl, by decide⟩

theorem utf16_small (c : Nat) (h : c < 65536) : utf16 c = [c] := by unfold utf16; rw [if_pos h]

/-- **Both printers denote the same characters**: for well-escaped content the cooked template
literal is exactly the UTF-16 form of the characters `string_constant_bytes` stores. -/
theorem cook_wellEsc (s : Text) (hw : WellEsc s) :
    tsCook (tsEscape s) = some ((wasmUnescape s).flatMap utf16) := by
  induction s using WellEsc.induct with
  | case1 => simp [tsEscape_nil, tsCook, wasmUnescape]
  | case2 => exact absurd hw (by simp [WellEsc])
  | case3 e r' ih =>
    rw [WellEsc] at hw
    obtain ⟨hesc, hw'⟩ := hw
    have ihd := ih hw'
    obtain ⟨ch, hch, hsmall⟩ := escChar_isEsc e hesc
    have hun := wasmUnescape_esc e ch r' hch
    by_cases he : e = 48
    · subst he
      have hch0 : ch = 0 := (Option.some.inj hch).symm
      subst hch0
      cases hd : (r'.head?.map isDigit).getD false
      · rw [tsEscape_nul_other r' hd, tsCook_nul, ihd, hun]
        · simp [utf16]
        · -- the character after `\0` is still not a digit
          rcases tsEscape_head r' with e | e <;> rw [e]
          · exact hd
          · rfl
      · rw [tsEscape_nul_digit r' hd, tsCook_hex00, ihd, hun]
        simp [utf16]
    · rw [tsEscape_esc e r' he, tsCook_esc e ch _ he hesc hch, ihd, hun]
      simp [utf16_small ch (by omega)]
  | case4 c r hne1 hne2 ih =>
    have h92 : c ≠ 92 := ne_backslash hne1 hne2
    have ihr := ih ((wellEsc_cons_plain c r h92).mp hw)
    have hun := wasmUnescape_plain c r h92
    by_cases h96 : c = 96
    · subst h96
      rw [tsEscape_backtick, tsCook_escaped 96 _ (Or.inl rfl), ihr, hun]; simp
    · by_cases h13 : c = 13
      · subst h13
        rw [tsEscape_cr, tsCook_r, ihr, hun]; simp [utf16]
      · by_cases h36 : c = 36 ∧ r.head? = some 123
        · obtain ⟨rfl, hr⟩ := h36
          cases r with
          | nil => simp at hr
          | cons q r' =>
            simp at hr; subst hr
            rw [tsEscape_subst, tsCook_escaped 36 _ (Or.inr rfl), ihr, hun]; simp
        · rw [tsEscape_plain c r h92 h96 h13 (fun e hh => h36 ⟨e, hh⟩),
            tsCook_plain_cons c _ h92 h96 h13, ihr, hun]
          · simp
          · intro e hh
            exact h36 ⟨e, (tsEscape_head r).elim (fun e => e ▸ hh) (fun e => by rw [e] at hh; cases hh)⟩

/-- `cook_wellEsc` under the name and with the length bound the property's documents cite; the
bound plays no part. -/
theorem cook_escape (n : Nat) : ∀ s : Text, s.length ≤ n → WellEsc s →
    tsCook (tsEscape s) = some ((wasmUnescape s).flatMap utf16) :=
  fun s _ hw => cook_wellEsc s hw

theorem wasmUnescape_scalar (s : Text) (hw : WellEsc s) (hs : ∀ c ∈ s, Scalar c) :
    ∀ c ∈ wasmUnescape s, Scalar c := by
  induction s using WellEsc.induct with
  | case1 => intro c hc; cases hc
  | case2 => exact absurd hw (by simp [WellEsc])
  | case3 e r ih =>
    rw [WellEsc] at hw
    obtain ⟨ch, hch, hsmall⟩ := escChar_isEsc e hw.1
    rw [wasmUnescape_esc e ch r hch]
    intro x hx
    rcases List.mem_cons.mp hx with rfl | hx
    · unfold Scalar; omega
    · exact ih hw.2 (fun y hy => hs y (by simp [hy])) x hx
  | case4 c r hne1 hne2 ih =>
    have h92 : c ≠ 92 := ne_backslash hne1 hne2
    rw [wasmUnescape_plain c r h92]
    intro x hx
    rcases List.mem_cons.mp hx with rfl | hx
    · exact hs _ List.mem_cons_self
    · exact ih ((wellEsc_cons_plain c r h92).mp hw) (fun y hy => hs y (List.mem_cons_of_mem _ hy)) x hx

theorem strconst_agree_content (s : Text) (hw : WellEsc s) (hs : ∀ c ∈ s, Scalar c) :
    tsDecode s = some (wasmDecode s) := by
  unfold tsDecode wasmDecode
  rw [cook_wellEsc s hw, utf8_roundtrip _ (wasmUnescape_scalar s hw hs)]

/-- **`strconst_agree`, full strength** (true after fixes 0e855e5, 8056d1e, 9fd2988): for EVERY
string literal the lexer accepts — all eight escape sequences, `\"`, back quotes, `${`, raw carriage
returns, `\0` before digits, all of Unicode — the emitted TypeScript and the emitted WebAssembly
(with its loader) hold the same string. -/
theorem strconst_agree (raw : Text) (h : lexAccepts raw = true) (hs : ∀ c ∈ raw, Scalar c) :
    tsDecode (content raw) = some (wasmDecode (content raw)) := by
  obtain ⟨hw, hsub⟩ := content_wellEsc raw (lexAccepts_wellEscQ raw h)
  exact strconst_agree_content _ hw (fun c hc => hs c (hsub c hc))

example : lexAccepts [97, 92, 110, 98, 92, 48, 49, 13, 96, 36, 123, 92, 34, 233] = true := by decide

end SamVerif.Backends
