import SamVerif.Model.CompileGate
import SamVerif.Props.C07
/-!
# C06 (cross-property) — the composed statements that need other properties' models

This is the *only* C06 file that imports another property's model or theorems:

* `Model/CompileGate.lean` (property C03's model of the decision `compile_sources` takes before it
  lowers anything; shared, not duplicated). `Props/C03.lean` proves the iff `compile_gate` over it;
  that file is deliberately *not* imported (it pulls in C04's theorems), the direction C06 needs is
  proved here directly over the same model;
* `Model/Useful.lean` + `Useful.checker_match_decided` (property C07): `incomplete_counterexample`
  always answers, and answers `none` iff the arms cover every value of the matched type.

Their ties are run by the checks of C03 (`gate` stream) and C07 (protocol `patcheck`); C06's
own mutant oracle observes the composed fact on whole programs (mutant kind non-exhaustive-match:
error located in the mutated module and `compile_sources = Err`).
-/
namespace SamVerif.C06x
open SamVerif SamVerif.Gate SamVerif.Useful

/-- **Static error ⇒ no code** (property C06's second half), for every compile input: as soon as
the parser or the checker has reported at least one error, `compile_sources` does not reach the
back end — it returns `Err` (rejected) or `Err("Invalid entry point")`. -/
theorem static_error_never_compiled (i : Input) (h : 0 < i.parseErrors ∨ 0 < i.checkErrors) :
    compileSources i = .rejected ∨ compileSources i = .invalidEntry := by
  unfold compileSources
  split
  · exact Or.inr rfl
  · have hpos : i.parseErrors + i.checkErrors > 0 := by omega
    left
    simp [hpos]

example : compileSources ⟨[1], [1], 0, 1⟩ = .rejected := by decide

/-- What `check_match` adds to the error set for its arms (main_checker.rs:998-1002):
one `NonExhaustiveMatch` error, located at the match expression, iff `incomplete_counterexample`
returns a counterexample. -/
def matchErrors (cx : Cx) (arms : List Pat) : Nat :=
  match incompleteCounterexample cx arms with
  | some (some _) => 1
  | _ => 0

/-- **Non-exhaustive match ⇒ error ⇒ no code.** For well-formed source arms over a matched type
`t`: if some value of type `t` is matched by no arm, the checker reports an error for this match,
and every compile run whose checker errors include it is rejected (no code). -/
theorem nonexhaustive_match_never_compiled (sig : Sig) (cx : Cx) (hcx : CxOk sig cx)
    (hnd : SigNodup sig) (hinh : Inhabited' sig) (srcArms : List SPat) (t : Nat)
    (hwf : ∀ p ∈ srcArms, swf sig true p t = true)
    (hne : ∃ v, hasTy sig v t = true ∧ ∀ p ∈ srcArms, smatch sig p t v = false) :
    matchErrors cx (srcArms.map (fun p => (normalize sig true p (some t)).pat)) = 1 ∧
    ∀ (i : Input),
      matchErrors cx (srcArms.map (fun p => (normalize sig true p (some t)).pat)) ≤ i.checkErrors →
      compileSources i = .rejected ∨ compileSources i = .invalidEntry := by
  obtain ⟨res, hres, hnone, _⟩ := checker_match_decided sig cx hcx hnd hinh srcArms t hwf
  cases res with
  | none =>
    obtain ⟨v, hv, hno⟩ := hne
    obtain ⟨p, hp, hm⟩ := hnone.1 rfl v hv
    rw [hno p hp] at hm; cases hm
  | some d =>
    have h1 : matchErrors cx (srcArms.map (fun p => (normalize sig true p (some t)).pat)) = 1 := by
      simp only [matchErrors]
      rw [hres]
    refine ⟨h1, fun i hi => static_error_never_compiled i (Or.inr ?_)⟩
    omega

/-- …and an exhaustive match contributes no error (the gate does not reject correct matches). -/
theorem exhaustive_match_no_error (sig : Sig) (cx : Cx) (hcx : CxOk sig cx)
    (hnd : SigNodup sig) (hinh : Inhabited' sig) (srcArms : List SPat) (t : Nat)
    (hwf : ∀ p ∈ srcArms, swf sig true p t = true)
    (hex : ∀ v, hasTy sig v t = true → ∃ p ∈ srcArms, smatch sig p t v = true) :
    matchErrors cx (srcArms.map (fun p => (normalize sig true p (some t)).pat)) = 0 := by
  obtain ⟨res, hres, hnone, _⟩ := checker_match_decided sig cx hcx hnd hinh srcArms t hwf
  have : res = none := hnone.2 hex
  subst this
  simp only [matchErrors]
  rw [hres]

end SamVerif.C06x
