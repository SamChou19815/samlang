import SamVerif.Lemmas.Gc
import SamVerif.Props.C17
/-!
# C11 — the language server never reads a string its GC has reclaimed

Logic core of the property: the incremental mark/sweep driver (`gc.rs:274-295`, model
`Model/Gc.lean`) on top of the heap (`Model/Heap.lean`, C17).  Theorems are for **every** history of
edits, every hash-order choice of `pop`, every slice size and sweep unit, every table size.

`Cov` (every handle the server state holds is visited by `mark_module` of some checked module, or
is permanent/inline) is a *hypothesis* here: it is a statement about a 270-line AST walker; it is
evaluated on every real GC round of the correspondence run and, independently, by the query sweep of
`vlib/c11.py`; finding C11-F2 (member parameter names never marked) was a violation of it (fixed
/repo 66137e7).
-/
namespace SamVerif.Gc
open SamVerif.Heap

/-- Coverage hypothesis for one GC round. -/
def Cov (h : Heap) (all : List Module) (roots : List Handle) : Prop :=
  ∀ p ∈ roots, ∀ id, p = .ref id →
    (∃ s : Bytes, h.slots[id]? = some (Slot.perm s)) ∨ ∃ md ∈ all, p ∈ md.marks

/-- **One GC round never reclaims a covered root** — for any slice size, sweep unit, queue order
(`choices`, even inconsistent ones), provided all checked modules are announced as changed (which
`ServerState::recheck` does: it passes all keys of `checked_modules`). -/
theorem gcStep_safe (h : Heap) (hi : Inv h) (all : List Module) (hd : DistinctIds all)
    (changed : List Nat) (hch : ∀ md ∈ all, md.id ∈ changed) (slice work : Nat)
    (choices : List (Option Nat)) (roots : List Handle) (hcov : Cov h all roots)
    (p : Handle) (hp : p ∈ roots) (s : Bytes) (hr : Heap.read h p = some s) :
    Heap.read (gcStep h all changed slice work choices) p = some s := by
  unfold gcStep
  have hi1 := inv_addAll hi changed
  obtain ⟨hi2, hq2, hread, hsafe⟩ :=
    markLoop_props all hd choices slice _ hi1 (queued_addAll all h changed hch)
  have hr2 : Heap.read (markLoop all choices slice (addAll h changed)) p = some s :=
    hread p s (by rw [addAll_read]; exact hr)
  rcases read_stable_or_reclaimed _ hi2 (.sweep work) p s hr2 with h1 | ⟨_, w, id, _, hpe, hsl, hum, _⟩
  · exact h1
  · exfalso
    subst hpe
    rcases hcov _ hp id rfl with ⟨t, hperm⟩ | ⟨md, hmd, hin⟩
    · -- permanent slots stay permanent through adds and marks
      have hs0 : SweepSafe (addAll h changed) (.ref id) := by
        intro j hj u; cases hj; rw [addAll_slots, hperm]; simp
      exact hsafe _ hs0 id rfl s hsl
    · rcases hq2 md hmd with hu | hs
      · rw [hum] at hu; cases hu
      · exact hs _ hin id rfl s hsl

/-- **Gate**: while some module is still queued (e.g. more modules than the slice) the sweep does
nothing at all, so partial marking is never followed by reclamation. -/
theorem gate_sound (h : Heap) (all : List Module) (changed : List Nat) (slice work : Nat)
    (choices : List (Option Nat))
    (hne : (markLoop all choices slice (addAll h changed)).unmarked ≠ []) :
    gcStep h all changed slice work choices = markLoop all choices slice (addAll h changed) := by
  unfold gcStep sweep
  cases hu : (markLoop all choices slice (addAll h changed)).unmarked with
  | nil => exact absurd hu hne
  | cons a b => rfl

/-! ## Histories -/

/-- Heap calls made by parsing / checking: allocations only. -/
def isAlloc : Op → Bool
  | .allocString _ | .allocStatic _ | .allocTemp _ | .allocModuleRef _ => true
  | _ => false

/-- The handle a heap call returns, if it returns one (`alloc_module_reference` returns a module
reference, not a handle). -/
def opResult (h : Heap) : Op → Option Handle
  | .allocString s => some (allocString h s).2
  | .allocStatic s => some (allocStatic h s).2
  | .allocTemp n => some (allocTemp h n).2
  | _ => none

/-- Handles returned by a sequence of heap calls. -/
def results : Heap → List Op → List Handle
  | _, [] => []
  | h, op :: ops => (opResult h op).toList ++ results (step h op) ops

/-- One server operation (update / rename / remove followed by recheck + GC), abstractly. -/
structure Edit where
  allocs : List Op                 -- heap calls of parsing + checking
  all : List Module                -- `checked_modules` afterwards, with what `mark_module` visits
  choices : List (Option Nat)      -- hash order of the GC queue
  roots : List Handle              -- every handle the server state holds afterwards

/-- The server state as far as the GC clause sees it: the heap and the handles the state holds. -/
structure Srv where
  heap : Heap
  roots : List Handle

/-- The edit's heap calls, then one GC round that announces every checked module (`recheck` passes
all keys of `checked_modules`) and runs with the real slice size and sweep unit. -/
def applyEdit (st : Srv) (e : Edit) : Srv :=
  { heap := gcStep (run e.allocs st.heap) e.all (e.all.map (·.id))
              numModuleMarkedPerSlice numSweepUnit e.choices,
    roots := e.roots }

/-- An edit is well-formed in a state: only allocation calls on existing handles; distinct module
keys; every root is an old root or was returned by one of this edit's allocations (the server
holds no handle from anywhere else); and the marker covers the roots. -/
def EditOk (st : Srv) (e : Edit) : Prop :=
  (∀ op ∈ e.allocs, isAlloc op = true) ∧ OpsOk st.heap e.allocs ∧ DistinctIds e.all ∧
  (∀ p ∈ e.roots, p ∈ st.roots ∨ p ∈ results st.heap e.allocs) ∧
  Cov (run e.allocs st.heap) e.all e.roots

def EditsOk : Srv → List Edit → Prop
  | _, [] => True
  | st, e :: es => EditOk st e ∧ EditsOk (applyEdit st e) es

theorem opResult_reads (h : Heap) (hi : Inv h) (op : Op) (p : Handle) (hp : opResult h op = some p) :
    ∃ s, Heap.read (step h op) p = some s := by
  cases op with
  | allocString s => cases hp; exact ⟨s, allocString_reads h hi s⟩
  | allocStatic s => cases hp; exact ⟨s, allocStatic_reads h hi s⟩
  | allocTemp n => cases hp; exact ⟨n, rfl⟩
  | _ => cases hp

theorem isAlloc_not_sweep (ops : List Op) (ha : ∀ op ∈ ops, isAlloc op = true) :
    ∀ op ∈ ops, ∀ w, op ≠ .sweep w := by
  intro op hop w hc; subst hc; cases ha _ hop

theorem results_read (ops : List Op) (h : Heap) (hi : Inv h) (hok : OpsOk h ops)
    (ha : ∀ op ∈ ops, isAlloc op = true) (p : Handle) (hp : p ∈ results h ops) :
    ∃ s, Heap.read (run ops h) p = some s := by
  induction ops generalizing h with
  | nil => cases hp
  | cons op ops ih =>
    simp only [results, List.mem_append, Option.mem_toList] at hp
    have hi' := inv_step hi op hok.1
    have ha' : ∀ o ∈ ops, isAlloc o = true := fun o ho => ha o (List.mem_cons_of_mem _ ho)
    rw [run_cons]
    rcases hp with hp | hp
    · obtain ⟨s, hs⟩ := opResult_reads h hi op p hp
      exact ⟨s, live_without_sweep ops _ hi' hok.2 p s hs (isAlloc_not_sweep ops ha')⟩
    · exact ih _ hi' hok.2 ha' hp

/-- **C11 (GC clause), every history**: starting from a fresh heap, after any sequence of
well-formed edits — each followed by one GC round with the real constants — every handle the
server state holds is readable (never `Deallocated`), for any number of collections. -/
theorem gc_safe (es : List Edit) (st : Srv) (hi : Inv st.heap)
    (hroots : ∀ p ∈ st.roots, ∃ s, Heap.read st.heap p = some s) (hok : EditsOk st es) :
    Inv (es.foldl applyEdit st).heap ∧
    ∀ p ∈ (es.foldl applyEdit st).roots, ∃ s, Heap.read (es.foldl applyEdit st).heap p = some s := by
  induction es generalizing st with
  | nil => exact ⟨hi, hroots⟩
  | cons e es ih =>
    obtain ⟨⟨halloc, hops, hdist, horigin, hcov⟩, hrest⟩ := hok
    simp only [List.foldl_cons]
    have hi1 : Inv (run e.allocs st.heap) := inv_run e.allocs st.heap hi hops
    have hlive1 : ∀ p ∈ e.roots, ∃ s, Heap.read (run e.allocs st.heap) p = some s := by
      intro p hp
      rcases horigin p hp with hold | hnew
      · obtain ⟨s, hs⟩ := hroots p hold
        exact ⟨s, live_without_sweep e.allocs _ hi hops p s hs (isAlloc_not_sweep _ halloc)⟩
      · exact results_read e.allocs st.heap hi hops halloc p hnew
    apply ih (applyEdit st e)
    · simp only [applyEdit]
      exact inv_gcStep hi1 e.all hdist _ (fun md hmd => List.mem_map_of_mem hmd) _ _ _
    · intro p hp
      obtain ⟨s, hs⟩ := hlive1 p hp
      exact ⟨s, gcStep_safe _ hi1 e.all hdist _ (fun md hmd => List.mem_map_of_mem hmd) _ _ _
        e.roots hcov p hp s hs⟩
    · exact hrest

theorem gc_safe_from_init (es : List Edit) (hok : EditsOk ⟨init, []⟩ es) :
    ∀ p ∈ (es.foldl applyEdit ⟨init, []⟩).roots,
      ∃ s, Heap.read (es.foldl applyEdit ⟨init, []⟩).heap p = some s :=
  (gc_safe es ⟨init, []⟩ inv_init (fun _ h => by cases h) hok).2

/-! ## Non-vacuity: two edits; the second drops a name, which is then reclaimed, while the
covered one survives two collections. -/
def nameA : Bytes := List.replicate 20 65
def nameB : Bytes := List.replicate 21 66

def edit1 : Edit :=
  { allocs := [.allocString nameA, .allocString nameB], all := [⟨3, [.ref 0, .ref 1]⟩],
    choices := [some 3, none], roots := [.ref 0, .ref 1] }
def edit2 : Edit :=
  { allocs := [.allocString nameA], all := [⟨3, [.ref 0]⟩], choices := [some 3, none],
    roots := [.ref 0] }

theorem cov_marks (h : Heap) (md : Module) : Cov h [md] md.marks :=
  fun _ hp _ _ => .inr ⟨md, .head _, hp⟩

theorem distinctIds_singleton (md : Module) : DistinctIds [md] := fun a ha b hb _ => by
  rw [List.mem_singleton] at ha hb; rw [ha, hb]

theorem demo_ok : EditsOk ⟨init, []⟩ [edit1, edit2, edit2] :=
  -- per edit, the components of `EditOk`: only allocations; their handles exist (`OpsOk`: a
  -- `trivial` per call and one for the end); one module; the roots are old or returned; they are
  -- what the module marks
  ⟨⟨by decide, ⟨trivial, trivial, trivial⟩, distinctIds_singleton _, by decide, cov_marks _ _⟩,
    ⟨by decide, ⟨trivial, trivial⟩, distinctIds_singleton _, by decide, cov_marks _ _⟩,
    ⟨by decide, ⟨trivial, trivial⟩, distinctIds_singleton _, by decide, cov_marks _ _⟩, trivial⟩

example : Heap.read ([edit1, edit2, edit2].foldl applyEdit ⟨init, []⟩).heap (.ref 0) = some nameA := by
  decide
example : Heap.read ([edit1, edit2, edit2].foldl applyEdit ⟨init, []⟩).heap (.ref 1) = none := by
  decide

end SamVerif.Gc
