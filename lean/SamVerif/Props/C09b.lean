import SamVerif.Props.C08
import SamVerif.Model.CommentQueue
/-!
# C09 (part b) — idempotence on the C08 expression fragment, and how comments reach tokens

Uses C08's model `Model/Fmt.lean` (`printE`, `parseE`) and its round-trip theorem
`roundtrip_expr_partial`; of the queue only the model (`drain`, `peek`, `consume`).
-/
namespace SamVerif.Fmt

/-- **Formatting the formatter's output returns it unchanged, token for token, on the expression
fragment** (partial): under C08's side condition `RT` (the printer leaves operands unparenthesised
only where the parser reads them back as operands; decidable and satisfiable, see
`Model/Fmt.lean`), printing the re-parsed output gives the same tokens again.
Opaque atoms stand for delimited units *together with the comments printed directly in front of
them* (the parser hands the comments preceding a token to the production that consumes it, see
`queue_delivers_with_next_token` below), so comments attached to atoms are covered; comments
attached to operator nodes are not part of the fragment (finding C09-F5, since fixed in /repo by
a0babc7, showed the text-level statement false for them). -/
theorem format_idempotent_fragment_partial (e : Expr) (h : RT e = true) :
    (parseE (printE e)).map printE = some (printE e) := by
  rw [roundtrip_expr_partial e h]; rfl

example : RT (.binary .plus (.atom 1) (.binary .mul (.atom 2) (.atom 3))) = true := by decide

/-- Formatting twice equals formatting once, as a statement about the composed function. -/
theorem format_twice_fragment_partial (e : Expr) (h : RT e = true) :
    ((parseE (printE e)).bind fun e' => (parseE (printE e')).map printE) = some (printE e) := by
  rw [roundtrip_expr_partial e h]
  simp [roundtrip_expr_partial e h]

end SamVerif.Fmt

namespace SamVerif.CommentQueue

/-- The token stream as the productions see it: every real token together with the comments that
precede it (after the previous real token). -/
def decorate : List RawTok → List Comment → List (List Comment × Str)
  | [], _ => []
  | .comment c :: r, acc => decorate r (acc ++ [c])
  | .tok t :: r, acc => (acc, t) :: decorate r []

/-- `drain` takes exactly the head of the decorated stream: the next token with the comments
pending in front of it, or nothing at the end of input. -/
theorem decorate_drain (r : List RawTok) (pend : List Comment) :
    (∀ t r' p, drain r pend = (.tok t, r', p) → decorate r pend = (p, t) :: decorate r' []) ∧
    (∀ r' p, drain r pend = (.eof, r', p) → decorate r pend = []) := by
  induction r generalizing pend with
  | nil => constructor <;> simp [drain, decorate]
  | cons x xs ih =>
    cases x with
    | comment c => simp only [drain, decorate]; exact ih (pend ++ [c])
    | tok t =>
      constructor
      · intro t' r' p h
        simp only [drain, Prod.mk.injEq, PTok.tok.injEq] at h
        obtain ⟨rfl, rfl, rfl⟩ := h
        simp [decorate]
      · intro r' p h
        simp [drain] at h

/-- **Comments travel with the next token**: on a state with nothing peeked, `consume` returns
exactly the comments written between the previous token and the consumed one, and leaves the rest
of the decorated stream untouched. Hence a comment is always delivered to the production that
consumes the token following it (and the printer's `create_opt_preceding_comment_doc` prints it
directly in front of that production's text). -/
theorem queue_delivers_with_next_token (st : State) (h : st.peeked = none)
    (cs : List Comment) (t : Str) (rest : List (List Comment × Str))
    (hd : decorate st.rest st.pending = (cs, t) :: rest) :
    (peek st).2 = .tok t ∧ (consume st).2 = cs ∧
      decorate (consume st).1.rest (consume st).1.pending = rest ∧ (consume st).1.peeked = none := by
  have hdr := decorate_drain st.rest st.pending
  unfold consume peek
  simp only [h]
  rcases hq : drain st.rest st.pending with ⟨pt, r', p⟩
  cases pt with
  | eof =>
    have := hdr.2 r' p hq
    rw [this] at hd; cases hd
  | tok t' =>
    have := hdr.1 t' r' p hq
    rw [this] at hd
    simp only [List.cons.injEq, Prod.mk.injEq] at hd
    obtain ⟨⟨rfl, rfl⟩, rfl⟩ := hd
    simp

example :
    decorate [.comment ⟨.line, ['a']⟩, .tok ['x'], .tok ['+'], .comment ⟨.block, ['b']⟩, .tok ['y']] [] =
      [([⟨.line, ['a']⟩], ['x']), ([], ['+']), ([⟨.block, ['b']⟩], ['y'])] := by decide

end SamVerif.CommentQueue

/-! ## Round trip *with comments* on the fragment (partial: side condition `RT`, comments on atoms)

After /repo commit "attach additional preceding comments to the sub-expression that owns the first
token" the parser puts every comment written in front of an expression on the sub-expression that owns
the following token; in the fragment these are the opaque atoms. A tree in this normal form is a
`Fmt.Expr` whose atom indices point into a table of (comments, atom) pairs. Printing emits the comments
of an atom directly in front of it (`create_opt_preceding_comment_doc`); reading the text back, the
queue delivers them with that atom again (`queue_delivers_with_next_token` says so of
`CommentQueue.decorate`; `decorateG` below is the same recursion on this fragment's tokens). -/
namespace SamVerif.Fmt
open SamVerif.CommentQueue (Comment)

/-- Token stream with comments, as the lexer produces it. -/
inductive CTok where
  | comment (c : Comment)
  | tok (t : Tok)
  deriving DecidableEq, Repr

/-- What the printer writes for a sequence of tokens with their preceding comments. -/
def undecorate : List (List Comment × Tok) → List CTok
  | [] => []
  | (cs, t) :: r => cs.map .comment ++ .tok t :: undecorate r

/-- The parser's view: the recursion of `CommentQueue.decorate`, on the tokens `Tok` of the fragment. -/
def decorateG : List CTok → List Comment → List (List Comment × Tok)
  | [], _ => []
  | .comment c :: r, acc => decorateG r (acc ++ [c])
  | .tok t :: r, acc => (acc, t) :: decorateG r []

theorem decorateG_comments (cs : List Comment) (rest : List CTok) (acc : List Comment) :
    decorateG (cs.map .comment ++ rest) acc = decorateG rest (acc ++ cs) := by
  induction cs generalizing acc with
  | nil => simp
  | cons c cs ih => simp [decorateG, ih, List.append_assoc]

/-- Reading back what was written gives the same tokens with the same comments. -/
theorem decorate_undecorate (ps : List (List Comment × Tok)) : decorateG (undecorate ps) [] = ps := by
  induction ps with
  | nil => rfl
  | cons p r ih =>
    obtain ⟨cs, t⟩ := p
    simp [undecorate, decorateG_comments, decorateG, ih]

/-- Table of the commented atoms of a tree: index `a` stands for atom `(T[a]).2` with the comments
`(T[a]).1` in front of it. -/
abbrev AtomTable := List (List Comment × Nat)

/-- the index of a (comments, atom) pair in the table (its length if absent). -/
def idxOfPair (p : List Comment × Nat) : AtomTable → Nat
  | [] => 0
  | q :: r => if q = p then 0 else idxOfPair p r + 1

theorem idxOfPair_get (T : AtomTable) (h : T.Nodup) (a : Nat) (p : List Comment × Nat)
    (ha : T[a]? = some p) : idxOfPair p T = a := by
  induction T generalizing a with
  | nil => simp at ha
  | cons q r ih =>
    cases a with
    | zero => simp at ha; simp [idxOfPair, ha]
    | succ n =>
      simp only [List.getElem?_cons_succ] at ha
      have hmem : p ∈ r := List.mem_of_getElem? ha
      have hne : q ≠ p := by
        intro he; subst he
        exact (List.nodup_cons.mp h).1 hmem
      simp [idxOfPair, hne, ih (List.nodup_cons.mp h).2 n ha]

/-- The printer's output for one token of a normal-form tree. -/
def decorateTok (T : AtomTable) : Tok → List Comment × Tok
  | .atom a => match T[a]? with
    | some p => (p.1, .atom p.2)
    | none => ([], .atom a)
  | t => ([], t)

/-- The parser's reading of one token with the comments delivered with it. -/
def reindexTok (T : AtomTable) : List Comment × Tok → Tok
  | (cs, .atom n) => .atom (idxOfPair (cs, n) T)
  | (_, t) => t

/-- Every atom of the token sequence is an index into the table. -/
def AtomsIn (T : AtomTable) (ts : List Tok) : Prop := ∀ a, Tok.atom a ∈ ts → a < T.length

theorem reindex_decorate (T : AtomTable) (h : T.Nodup) (ts : List Tok) (ha : AtomsIn T ts) :
    (ts.map (decorateTok T)).map (reindexTok T) = ts := by
  induction ts with
  | nil => rfl
  | cons t r ih =>
    have hr : AtomsIn T r := fun a hm => ha a (List.mem_cons_of_mem _ hm)
    simp only [List.map_cons, ih hr, List.cons.injEq, and_true]
    cases t with
    | atom a =>
      have hlt : a < T.length := ha a (by simp)
      have hg : T[a]? = some T[a] := List.getElem?_eq_getElem hlt
      simp only [decorateTok, hg, reindexTok]
      rw [idxOfPair_get T h a T[a] hg]
    | _ => rfl

/-- `format`: print the tree, every atom preceded by its comments. -/
def formatC (T : AtomTable) (e : Expr) : List CTok := undecorate ((printE e).map (decorateTok T))

/-- `parse` of a text with comments: the queue attaches comments to the following token, atoms are
identified with their comments, then the C08 parser model runs. -/
def parseC (T : AtomTable) (s : List CTok) : Option Expr :=
  parseE ((decorateG s []).map (reindexTok T))

/-- **Round trip with comments** (partial: C08's side condition `RT`; comments on atoms only). -/
theorem roundtrip_with_comments_partial (T : AtomTable) (hT : T.Nodup) (e : Expr) (h : RT e = true)
    (ha : AtomsIn T (printE e)) : parseC T (formatC T e) = some e := by
  unfold parseC formatC
  rw [decorate_undecorate, reindex_decorate T hT _ ha, roundtrip_expr_partial e h]

/-- **Formatting the formatter's output returns it unchanged, comments included** (token level). -/
theorem format_idempotent_with_comments_partial (T : AtomTable) (hT : T.Nodup) (e : Expr)
    (h : RT e = true) (ha : AtomsIn T (printE e)) :
    (parseC T (formatC T e)).map (formatC T) = some (formatC T e) := by
  rw [roundtrip_with_comments_partial T hT e h ha]; rfl

example :
    formatC [([⟨.block, ['c']⟩], 7), ([], 8)] (.binary .plus (.atom 0) (.atom 1)) =
      [.comment ⟨.block, ['c']⟩, .tok (.atom 7), .tok (.op .plus), .tok (.atom 8)] := by decide

end SamVerif.Fmt
