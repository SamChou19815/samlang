import SamVerif.Lemmas.LexerErr
import SamVerif.Lemmas.ParserLoops
import SamVerif.Lemmas.EntryPoint
/-!
# C05 — Any input text yields a result or diagnostics, never a crash or a hang

Property theorems about `Model/Lexer.lean`, `Model/ParserLoops.lean`, `Model/EntryPoint.lean`.
The scanner model is tied to `crates/samlang-parser/src/lexer.rs` on every run by the translator
`extract/c05_keywords.py` (token tables) and the `lex` correspondence protocol
(`harness/src/bin/c05.rs`, hook H6, vs `Driver/C05.lean`).
-/
namespace SamVerif.Lexer

/-! ## scan_progress: the scanner cannot hang -/

/-- **Every scanner step consumes input**: a `next_token` call that returns a token leaves strictly
fewer bytes than it found (for every input and position; no bound). -/
theorem scan_step_progress (input : Bytes) (pos : Pos) (s : Scanned)
    (h : nextRaw input pos = .tok s) : s.rest.length < input.length := by
  obtain ⟨k1, k2, hlt, hle, hr, -⟩ := nextRaw_spec h
  rw [hr, List.length_drop]
  omega

example : ∃ s, nextRaw [32, 120, 32] ⟨0, 0⟩ = .tok s ∧ s.rest = [32] := ⟨_, rfl, rfl⟩

theorem rawLoop_terminates (fuel : Nat) (rest : Bytes) (pos : Pos) (h : rest.length < fuel) :
    (rawLoop fuel rest pos).fin ≠ .fuel ∧ (rawLoop fuel rest pos).toks.length ≤ rest.length := by
  fun_induction rawLoop fuel rest pos with
  | case1 => omega
  | case2 => exact ⟨nofun, Nat.zero_le _⟩
  | case3 => exact ⟨nofun, Nat.zero_le _⟩
  | case4 fuel rest pos s hs r ih =>
    have hp := scan_step_progress _ _ _ hs
    have := ih (by omega)
    exact ⟨this.1, Nat.succ_le_of_lt (Nat.lt_of_le_of_lt this.2 hp)⟩

/-- More fuel than `len + 1` never changes the answer: the fuel argument is not observable. -/
theorem rawLoop_fuel_irrelevant (f1 f2 : Nat) (rest : Bytes) (pos : Pos)
    (h1 : rest.length < f1) (h2 : rest.length < f2) : rawLoop f1 rest pos = rawLoop f2 rest pos := by
  induction f1 generalizing rest pos f2 with
  | zero => omega
  | succ f1 ih =>
    cases f2 with
    | zero => omega
    | succ f2 =>
      unfold rawLoop
      split
      · rfl
      · rfl
      · rename_i s hs
        have hp := scan_step_progress _ _ _ hs
        rw [ih f2 s.rest s.pos (by omega) (by omega)]

theorem produce_length (raw : RawResult) : (produce raw).toks.length ≤ raw.toks.length := by
  have h : _ ≤ 0 + raw.toks.length := foldl_processRaw_all_length raw.toks ⟨none, [], []⟩
  have := (produce_toks_prefix raw).length_le
  omega

/-- **scan_progress** (full strength): for every input, tokenisation terminates — the model's
recursion never runs out of its `len + 1` budget — and yields at most one token per input byte.
Together with `scan_step_progress` this is "no hang" for the scanner. -/
theorem scan_progress (doc : Bytes) :
    (tokenize doc).fin ≠ .fuel ∧ (tokenize doc).toks.length ≤ doc.length := by
  have h := rawLoop_terminates (doc.length + 1) doc ⟨0, 0⟩ (Nat.lt_succ_self _)
  exact ⟨h.1, Nat.le_trans (produce_length _) h.2⟩

example : (tokenize [120, 32, 43, 32, 49]).toks.length = 3 := by decide +kernel

/-! ## scan_total: the scanner cannot panic

Finding C05-F1 (fixed by c949025): on the code before the fix the four bytes `/**/` make
`&chars[3..(chars.len() - 2)]` (lexer.rs:405) the slice `[3..2]`, a panic.  The model follows the fixed
code (`chars.len() > 4 && chars[2] == b'*'`), and on it the statement holds at full strength. -/

theorem rawLoop_safe (fuel : Nat) (rest : Bytes) (pos : Pos) (hf : rest.length < fuel)
    (h : Valid rest) : (rawLoop fuel rest pos).fin = .ok := by
  fun_induction rawLoop fuel rest pos with
  | case1 => omega
  | case2 => rfl
  | case3 _ _ _ hp => exact absurd hp (nextRaw_safe _ _ h).1
  | case4 fuel rest pos s hs r ih =>
    have hp := scan_step_progress _ _ _ hs
    exact ih (by omega) ((nextRaw_safe _ _ h).2 s hs)

/-- **scan_total** (full strength): for every valid-UTF-8 text no scanner step evaluates a partial
slice / `bump` / index / `unwrap` out of range: tokenisation ends normally. No bound on the text. -/
theorem scan_total (doc : Bytes) (h : Valid doc) : (tokenize doc).fin = .ok :=
  rawLoop_safe (doc.length + 1) doc ⟨0, 0⟩ (Nat.lt_succ_self _) h

-- non-vacuity: `/* é */ x` (non-ASCII inside a block comment)
example : (tokenize [47, 42, 32, 195, 169, 32, 42, 47, 32, 120]).fin = .ok :=
  scan_total _ <|
    .one _ _ (by decide) <| .one _ _ (by decide) <| .one _ _ (by decide) <|
    .two 195 169 _ (by decide) (by decide) (by decide) <|     -- `é`
    .one _ _ (by decide) <| .one _ _ (by decide) <| .one _ _ (by decide) <|
    .one _ _ (by decide) <| .one _ _ (by decide) .nil
-- `/**/`, the witness of C05-F1
example : (tokenize [47, 42, 42, 47]).toks.map (·.kind) = [.block] := by decide +kernel

/-! ## syntax_error_reported: error tokens and out-of-range integers always leave a diagnostic

Only this direction is what C05 asks: "a syntax error is always reported".  The integer rule has no
exception besides the `-2147483648` merge (fix d5c9a21), so the statement is full strength. -/

/-- **syntax_error_reported** (full strength): for every text, every `error` token the producer
yields has its "Invalid token." entry, and every integer token it yields whose value is ≥ 2³¹ — i.e.
every out-of-range literal; the merged `-2147483648` is the only in-range token spelled with a minus —
has its "Not a 32-bit integer." entry in the error set. -/
theorem syntax_error_reported (doc : Bytes) :
    (∀ t ∈ (tokenize doc).toks, t.kind = .error →
      (⟨t.start, t.stop, .tok⟩ : Err) ∈ (tokenize doc).errs) ∧
    (∀ t ∈ (tokenize doc).toks, t.kind = .int → t.text.head? ≠ some 45 →
      twoPow31 ≤ digitsVal t.text 0 → (⟨t.start, t.stop, .int⟩ : Err) ∈ (tokenize doc).errs) := by
  have hraw := rawLoop_error_reported (doc.length + 1) doc ⟨0, 0⟩
  obtain ⟨hint, herr⟩ := foldl_processRaw_inv (rawTokens doc).toks ⟨none, [], []⟩
    (fun _ h => nomatch h)
  have hsub := (produce_toks_prefix (rawTokens doc)).subset
  constructor
  · intro t ht hk
    rcases herr t (hsub ht) hk with h | h
    · exact nomatch h
    · exact List.mem_append_left _ (hraw t h hk)
  · intro t ht hk hh hv
    exact List.mem_append_right _ (hint t (hsub ht) hk hh hv)

example : (tokenize [40, 50, 49, 52, 55, 52, 56, 51, 54, 52, 56]).errs.length = 1 := by decide +kernel  -- `(2147483648`
example : (tokenize [45, 50, 49, 52, 55, 52, 56, 51, 54, 52, 56]).errs = [] := by decide +kernel       -- `-2147483648`
example : (tokenize [38, 120]).errs.map (·.code) = [.tok] := by decide +kernel                          -- `&x`

end SamVerif.Lexer

namespace SamVerif.ParserLoops

/-! ## parser_loops_progress: the recovery loops cannot spin

Five loop skeletons (`Model/ParserLoops.lean`); whether each recovery arm consumes its token is read
from the source on every run (`Generated/ParserLoops.lean`). -/

/-- **parser_loops_progress** (full strength, for every token list and every sub-parser that never
un-reads): the top-level recovery loop, the comma-separated-list loop, the block statement loop, the
class-member loop and the match-arm loop each leave within `len + 1` iterations — every iteration
consumes a token or exits, also at EOF. -/
theorem parser_loops_progress (sub : List TK → List TK) (hs : NoUnread sub) (ts : List TK) :
    toplevelLoop sub (ts.length + 1) ts ≠ none ∧ commaLoop sub (ts.length + 1) ts ≠ none ∧
      blockLoop sub (ts.length + 1) ts ≠ none ∧ memberLoop sub (ts.length + 1) ts ≠ none ∧
      matchLoop sub (ts.length + 1) ts ≠ none :=
  ⟨toplevelLoop_progress sub hs _ ts (by omega), commaLoop_progress sub hs _ ts (by omega),
   blockLoop_progress sub hs _ ts (by omega), memberLoop_progress sub hs _ ts (by omega),
   matchLoop_progress sub hs _ ts (by omega)⟩

-- non-vacuity: `{ ) ) }`-like input: an expression parser that consumes nothing still terminates
example : blockLoop id 5 [.other, .other, .rbrace, .cls] = some [.cls] := by decide
example : matchLoop id 4 [.pat, .pat, .rbrace] = some [.rbrace] := by decide

end SamVerif.ParserLoops

namespace SamVerif.EntryPoint

/-! ## entry points: the roots of generics specialisation are closed

`compile_sources` must not panic on an accepted program. Entry points (`Main.main`) are rewritten
with an empty type-replacement map; the selection predicate (`Model/EntryPoint.lean`, tied by the
decision-table correspondence of `vlib/c05.py`) is exactly what makes that safe. -/

/-- **entry_root_closed** (full strength): in a well-scoped program (every type a member mentions uses
only type variables in its scope) an entry point mentions no type variable at all, so rewriting its
types with the EMPTY replacement map - what generics specialisation does to its roots - never hits
the `unwrap()` on a missing replacement. Each conjunct of `isEntryMember` is needed: see the
counterexamples below. -/
theorem entry_root_closed (c : Class) (m : Member) (t : Ty)
    (hentry : isEntryMember m = true) (hscoped : ∀ v ∈ freeVars t, v ∈ scope c m) :
    (substOpt [] t).isSome := by
  simp only [isEntryMember, Bool.and_eq_true, Bool.not_eq_true', beq_iff_eq, List.isEmpty_iff] at hentry
  obtain ⟨⟨⟨_, hstatic⟩, _⟩, hnotp⟩ := hentry
  have hscope : scope c m = [] := by simp [scope, hstatic, hnotp]
  apply substOpt_total
  intro v hv
  have hs := hscoped v hv
  rw [hscope] at hs
  cases hs

/-- dropping `tparams.isEmpty` (seeded fault C05f): a generic `main` that mentions `T` panics -/
theorem entry_needs_no_tparams :
    ∃ (c : Class) (m : Member) (t : Ty), m.isMainName ∧ !m.isMethod ∧ m.nParams = 0 ∧
      (∀ v ∈ freeVars t, v ∈ scope c m) ∧ substOpt [] t = none :=
  ⟨⟨true, [], []⟩, ⟨true, false, 0, [7]⟩, .fn [.generic 7] (.generic 7), by decide⟩

/-- dropping `!isMethod` (finding C05-F8): a method `main` of `class Main<T>` that mentions `T` panics -/
theorem entry_needs_static :
    ∃ (c : Class) (m : Member) (t : Ty), m.isMainName ∧ m.nParams = 0 ∧ m.tparams = [] ∧
      (∀ v ∈ freeVars t, v ∈ scope c m) ∧ substOpt [] t = none :=
  ⟨⟨true, [3], []⟩, ⟨true, true, 0, []⟩, .nominal [.generic 3], by decide⟩

example : isEntryClass ⟨true, [], [⟨true, false, 0, []⟩]⟩ = true := by decide
example : isEntryClass ⟨true, [1], [⟨true, true, 0, []⟩]⟩ = false := by decide

end SamVerif.EntryPoint
