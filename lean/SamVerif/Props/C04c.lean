import SamVerif.Model.BackendsEnum
import SamVerif.Lemmas.ListIndex
/-!
# C04 (continued) — enum values and variant tests on the two back ends
-/
namespace SamVerif.Backends

/-- An unboxed variant excludes every other payload variant. -/
def WFLayout (L : List VRepr) : Prop :=
  ∀ (i : Nat), L[i]? = some VRepr.unboxed → ∀ (j : Nat) (r : VRepr), j ≠ i → L[j]? = some r → r = VRepr.int31

/-- Invariant of the layout loop. While `permit` is on no payload variant has been seen: nothing is
pending and every entry is `int31`. `pending = some i`: entry `i` is the one unboxed variant so far
and every other entry is `int31`. `pending = none`: no entry is unboxed. -/
structure LInv (s : LState) : Prop where
  permitAll : s.permit = true → s.pending = none ∧ ∀ (j : Nat) (r : VRepr), s.acc[j]? = some r → r = .int31
  pendingSome : ∀ (i : Nat), s.pending = some i →
    s.acc[i]? = some .unboxed ∧ ∀ (j : Nat) (r : VRepr), j ≠ i → s.acc[j]? = some r → r = .int31
  pendingNone : s.pending = none → ∀ (j : Nat), s.acc[j]? ≠ some .unboxed

theorem linv_step (s : LState) (hs : LInv s) (types : List Bool) : LInv (layoutStep s types) := by
  fun_cases layoutStep s types
  case case1 =>
    -- a payload-free variant: an Int31 entry is appended, flags as before
    refine ⟨?_, ?_, ?_⟩
    · intro hp
      obtain ⟨h1, h2⟩ := hs.permitAll hp
      refine ⟨h1, fun j r hr => ?_⟩
      rcases getElem?_snoc_eq_some.mp hr with h | ⟨_, h⟩
      · exact h2 j r h
      · exact h.symm
    · intro i hi
      obtain ⟨h1, h2⟩ := hs.pendingSome i hi
      have hlt : i < s.acc.length := (List.getElem?_eq_some_iff.mp h1).1
      refine ⟨by rw [List.getElem?_append_left hlt]; exact h1, fun j r hj hr => ?_⟩
      rcases getElem?_snoc_eq_some.mp hr with h | ⟨_, h⟩
      · exact h2 j r hj h
      · exact h.symm
    · intro hn j hj
      rcases getElem?_snoc_eq_some.mp hj with h | ⟨_, h⟩
      · exact hs.pendingNone hn j h
      · cases h
  case case2 acc1 hc =>
    -- the variant becomes the unboxed one: the optimisation was still permitted, so nothing was
    -- pending and all earlier variants are Int31
    obtain ⟨hpn, hall⟩ := hs.permitAll hc.1
    have e : acc1 = s.acc := by simp only [acc1, hpn]
    refine ⟨nofun, ?_, nofun⟩
    rintro i ⟨⟩
    refine ⟨List.getElem?_concat_length, fun j r hj hr => ?_⟩
    rcases getElem?_snoc_eq_some.mp hr with h | ⟨h, _⟩
    · exact hall j r (e ▸ h)
    · exact absurd h hj
  case case3 acc1 _ =>
    -- any other payload variant is boxed
    refine ⟨nofun, nofun, fun _ j hj => ?_⟩
    rcases getElem?_snoc_eq_some.mp hj with h | ⟨_, h⟩
    · -- after the demotion of a pending unboxed variant nothing is unboxed
      revert h
      cases hp : s.pending with
      | none => simp only [acc1, hp]; exact hs.pendingNone hp j
      | some i =>
        simp only [acc1, hp]
        rw [List.getElem?_set]
        by_cases hij : i = j
        · rw [if_pos hij]; split <;> simp
        · rw [if_neg hij]
          intro h
          cases (hs.pendingSome i hp).2 j _ (fun e => hij e.symm) h
    · cases h

theorem linv_foldl (vs : List (List Bool)) (s : LState) (hs : LInv s) : LInv (vs.foldl layoutStep s) := by
  induction vs generalizing s with
  | nil => exact hs
  | cons v vs ih => exact ih _ (linv_step s hs v)

/-- **The layout rule never mixes an unboxed variant with another payload variant** — for every
enum declaration. (This is what makes `typeof v === 'object'` a sound variant test in TypeScript.) -/
theorem layout_wf (variants : List (List Bool)) : WFLayout (layout variants) := by
  have h0 : LInv ⟨[], true, none⟩ :=
    ⟨fun _ => ⟨rfl, fun j r h => by simp at h⟩, fun i h => (by cases h), fun _ j => (by simp)⟩
  have h := linv_foldl variants _ h0
  intro i hi j r hj hr
  unfold layout at hi hr
  cases hp : (variants.foldl layoutStep ⟨[], true, none⟩).pending with
  | none => exact absurd hi (h.pendingNone hp i)
  | some p =>
    obtain ⟨h1, h2⟩ := h.pendingSome p hp
    by_cases hip : i = p
    · subst hip; exact h2 j r hj hr
    · have := h2 i _ hip hi
      cases this

example : layout [[], [], [true]] = [.int31, .int31, .unboxed] := by decide
example : layout [[], [true], [true]] = [.int31, .boxed 1, .boxed 1] := by decide
example : layout [[false], [false, false]] = [.boxed 1, .boxed 2] := by decide

theorem hasInt31_of (L : List VRepr) (j : Nat) (h : L[j]? = some .int31) : hasInt31 L = true := by
  unfold hasInt31
  rw [List.any_eq_true]
  exact ⟨.int31, List.mem_of_getElem? h, by decide⟩

/-- **Variant tests agree** (full strength, about the extracted `tsRefCmpStrict`): for every
well-formed layout, every value of the enum and every variant `k`, the TypeScript test and the
WebAssembly test both answer "the value was built by variant `k`" — and the WebAssembly test never
reads a field of a non-struct. -/
theorem variant_test_agree (L : List VRepr) (hwf : WFLayout L) (v : EVal) (hv : ValidFor L v)
    (k : Nat) (hk : k < L.length) :
    tsTest L k (tsRep v) = decide (v.variant = k) ∧
      wasmTest L k (wasmRepE v) = some (decide (v.variant = k)) := by
  have hstrict : tsRefCmpStrict = true := rfl
  obtain ⟨r, hLk⟩ : ∃ r, L[k]? = some r := ⟨_, List.getElem?_eq_getElem hk⟩
  have hne : ∀ {j r'}, L[j]? = some r' → r' ≠ r → j ≠ k := by
    rintro j r' hj hr rfl; exact hr (Option.some.inj (hj.symm.trans hLk))
  cases r with
  | int31 =>
    -- `k` has no payload: both sides compare with the number `2k+1`
    cases v with
    | tag j =>
      -- … which the tag `2j+1` equals iff `j = k`
      have e : (2 * (j : Int) + 1 == 2 * (k : Int) + 1) = decide (j = k) := by
        rw [Bool.eq_iff_iff, beq_iff_eq, decide_eq_true_iff]; omega
      simp only [tsTest, wasmTest, hLk, tsRep, wasmRepE, EVal.variant, tsRefEq, hstrict, if_true, strictEq]
      exact ⟨e, congrArg some e⟩
    | box j id fs =>
      -- … which no heap object equals, and `v` is of another variant (`hne`)
      have := hne hv (by nofun)
      simp [tsTest, wasmTest, hLk, tsRep, wasmRepE, EVal.variant, tsRefEq, hstrict, strictEq, this]
    | payload j id es =>
      have := hne hv (by nofun)
      simp [tsTest, wasmTest, hLk, tsRep, wasmRepE, EVal.variant, tsRefEq, hstrict, strictEq, this]
  | unboxed =>
    -- `k` is the unboxed variant: both sides ask whether the value is a heap object (of the payload's type)
    cases v with
    | tag j =>
      have := hne hv (by nofun)
      simp [tsTest, wasmTest, hLk, tsRep, wasmRepE, EVal.variant, tsIsPointer, wasmRefTest, this]
    -- by `hwf` no boxed variant stands beside `k`, and the only unboxed one is `k`
    | box j id fs => cases hwf k hLk j _ (hne hv (by nofun)) hv
    | payload j id es =>
      have hjk : j = k := Decidable.byContradiction fun e => nomatch hwf k hLk j _ e hv
      subst hjk
      simp [tsTest, wasmTest, hLk, tsRep, wasmRepE, EVal.variant, tsIsPointer, wasmRefTest]
  | boxed n =>
    -- `k` is boxed: pointer test (when the layout has an Int31 variant), then the tag in field 0
    cases v with
    | tag j =>
      -- a tag fails the pointer test, which is made because `j` itself is an Int31 variant
      have := hne hv (by nofun)
      simp [tsTest, wasmTest, hLk, tsRep, wasmRepE, EVal.variant, tsIsPointer, wasmRefTest,
        hasInt31_of L j hv, this]
    | box j id fs =>
      -- field 0 holds `2j+1`, the subtype is `j`: both tests come to `j = k`
      simp only [tsTest, wasmTest, hLk, tsRep, wasmRepE, EVal.variant, tsIsPointer, tsIndex0, looseEq,
        wasmRefTest]
      by_cases hjk : j = k
      · subst hjk; simp
      · have h1 : ¬ ((2 * (j : Int) + 1) = 2 * (k : Int) + 1) := by omega
        have h2 : WTy.sub j ≠ WTy.sub k := by intro e; cases e; exact hjk rfl
        cases hasInt31 L <;> simp [hjk, h1, h2]
    -- by `hwf` an unboxed payload cannot occur beside the boxed `k`
    | payload j id es => cases hwf j hv k _ (hne hv (by nofun)).symm hLk
/-- **A whole `match`** (arms tested in any order): both back ends take the same arm, and it is the
arm of the variant the value was built with. -/
theorem match_agree (L : List VRepr) (hwf : WFLayout L) (v : EVal) (hv : ValidFor L v)
    (order : List Nat) (ho : ∀ k ∈ order, k < L.length) :
    firstArm (fun k => tsTest L k (tsRep v)) order =
        firstArm (fun k => (wasmTest L k (wasmRepE v)).getD false) order ∧
      firstArm (fun k => tsTest L k (tsRep v)) order = firstArm (fun k => decide (v.variant = k)) order := by
  induction order with
  | nil => exact ⟨rfl, rfl⟩
  | cons k ks ih =>
    obtain ⟨h1, h2⟩ := variant_test_agree L hwf v hv k (ho k List.mem_cons_self)
    obtain ⟨i1, i2⟩ := ih (fun j hj => ho j (List.mem_cons_of_mem _ hj))
    simp only [firstArm, h1, h2, Option.getD_some]
    exact ⟨by rw [i1], by rw [i2]⟩

/-- Historical (C04-F8): with loose equality the test for a payload-free variant accepted an
unboxed payload whose content coerces to the tag: layout `[int31, unboxed]`, value `Some([1])`. -/
theorem variant_test_loose_counterexample :
    looseEq (tsRep (.payload 1 7 [.num 1])) (.num (2 * 0 + 1)) = true ∧
      wasmTest [.int31, .unboxed] 0 (wasmRepE (.payload 1 7 [.num 1])) = some false := by
  decide

/-- the well-formedness hypothesis is necessary: in a (hypothetical) layout that mixes an unboxed
variant with a boxed one and has no Int31 variant, TypeScript would read field 0 of the foreign
payload object and could take it for a tag, while WebAssembly would trap. -/
theorem wf_needed :
    tsTest [.boxed 1, .unboxed] 0 (tsRep (.payload 1 7 [.num 1])) = true ∧
      wasmTest [.boxed 1, .unboxed] 0 (wasmRepE (.payload 1 7 [.num 1])) = none := by
  decide

end SamVerif.Backends
