import SamVerif.Lemmas.Source
import SamVerif.Lemmas.SourceRename
/-! Theorems about the reference semantics `SamVerif.Source.eval` (SRC): that the outcome does not
depend on the fuel once it suffices, what the specification says of `match` and patterns (§6.11, §8),
of `&&`/`||` and of the evaluation order (§6.15), and alpha-invariance. They speak of the model
alone: no theorem of another property rests on them. -/
namespace SamVerif.Source

/-! ## "the outcome" is well defined: fuel monotonicity -/

/-- More fuel never changes a result that is not "out of fuel". -/
theorem eval_fuel_mono (P : Program) {n m : Nat} (h : n ≤ m) (env : Env) (s : St) (e : Expr)
    (r : Res Val) (hr : eval P n env s e = r) (hn : r ≠ .oof) : eval P m env s e = r := by
  subst hr
  exact Res.eq_of_le (eval_le P h env s e) hn

/-- Two fuel values that both suffice give the same result. -/
theorem eval_outcome_unique (P : Program) (n m : Nat) (env : Env) (s : St) (e : Expr)
    (hn : eval P n env s e ≠ .oof) (hm : eval P m env s e ≠ .oof) :
    eval P n env s e = eval P m env s e := by
  cases Nat.le_total n m with
  | inl h => exact (eval_fuel_mono P h env s e _ rfl hn).symm
  | inr h => exact eval_fuel_mono P h env s e _ rfl hm

/-- The same for whole programs: once `Main.main` terminates within the fuel, the outcome
(printed lines, the way it ends, flags) is the same for every larger fuel. -/
theorem run_fuel_mono (P : Program) (entry : String) {n m : Nat} (h : n ≤ m)
    (hn : (run P entry n).end ≠ .oof) : run P entry m = run P entry n := by
  unfold run at *
  have hle := invoke_mono P (eval_le P h) (entry ++ ".Main") "main" .unit [] {}
  rw [Res.eq_of_le hle fun h0 => hn (by rw [h0]; rfl)]

/-! ## `match`: first matching arm, exactly the pattern's variables -/

theorem evalCases_skip (ev : Ev) (env : Env) (s : St) (v : Val) :
    ∀ (pre : List (Pat × Expr)) (rest : List (Pat × Expr)),
      (∀ q ∈ pre, matchPat q.1 v = none) →
      evalCases ev env s v (pre ++ rest) = evalCases ev env s v rest := by
  intro pre
  induction pre with
  | nil => intro rest _; rfl
  | cons c pre ih =>
    intro rest h
    obtain ⟨q, qb⟩ := c
    have hq : matchPat q v = none := h (q, qb) (List.mem_cons_self)
    simp only [List.cons_append, evalCases, hq]
    exact ih rest (fun q' hq' => h q' (List.mem_cons_of_mem _ hq'))

/-- If the scrutinee evaluates to `v`, no pattern of the arms in `pre`
matches `v` and `p` matches with bindings `b`, then the `match` evaluates the body of that arm —
and nothing else — in the environment extended by exactly `b`, starting from the state the
scrutinee left. Arms after it are irrelevant (`post` is arbitrary). -/
theorem match_first_arm (P : Program) (n : Nat) (env : Env) (s s1 : St) (e body : Expr)
    (pre post : List (Pat × Expr)) (p : Pat) (v : Val) (b : Env)
    (he : eval P n env s e = .ok v s1)
    (hpre : ∀ q ∈ pre, matchPat q.1 v = none)
    (hp : matchPat p v = some b) :
    eval P (n + 1) env s (.match e (pre ++ (p, body) :: post)) = eval P n (b ++ env) s1 body := by
  simp only [eval, step, he, Res.bind]
  rw [evalCases_skip _ _ _ _ pre _ hpre]
  simp only [evalCases, hp]

/-- a `match` none of whose patterns matches is stuck (the checker's exhaustiveness, C07, excludes it) -/
theorem match_no_arm (P : Program) (n : Nat) (env : Env) (s s1 : St) (e : Expr)
    (cases : List (Pat × Expr)) (v : Val)
    (he : eval P n env s e = .ok v s1)
    (hall : ∀ q ∈ cases, matchPat q.1 v = none) :
    eval P (n + 1) env s (.match e cases) = stuck "match" s1 := by
  simp only [eval, step, he, Res.bind]
  rw [← List.append_nil cases, evalCases_skip _ _ _ _ cases [] hall]
  rfl

/-- all alternatives of an or-pattern bind the variable set `xs` -/
def sameBinds (xs : List String) (ps : List Pat) : Prop :=
  ∀ q ∈ ps, ∀ x, x ∈ Pat.binds q ↔ x ∈ xs

mutual
/-- well-formed pattern: object patterns list one index per sub-pattern; the alternatives of an
or-pattern bind the same variables (§8.9, enforced by the checker) -/
def Pat.wf : Pat → Prop
  | .wild => True
  | .var _ => True
  | .tuple ps => Pat.wfList ps
  | .obj idxs ps => Pat.wfList ps ∧ idxs.length = ps.length
  | .variant _ ps => Pat.wfList ps
  | .or ps => Pat.wfList ps ∧ sameBinds (Pat.bindsHead ps) ps
def Pat.wfList : List Pat → Prop
  | [] => True
  | p :: ps => Pat.wf p ∧ Pat.wfList ps
end

theorem mem_append_fst {b1 b2 : Env} {x : String} :
    x ∈ (b1 ++ b2).map Prod.fst ↔ x ∈ b1.map Prod.fst ∨ x ∈ b2.map Prod.fst := by
  rw [List.map_append, List.mem_append]

/-- bindings of a sequence of sub-patterns: later binders come first in the environment -/
theorem binds_append {b1 b2 : Env} {B1 B2 : List String}
    (h1 : ∀ x, x ∈ b1.map Prod.fst ↔ x ∈ B1) (h2 : ∀ x, x ∈ b2.map Prod.fst ↔ x ∈ B2) :
    ∀ x, x ∈ (b2 ++ b1).map Prod.fst ↔ x ∈ B1 ++ B2 := fun x => by
  rw [mem_append_fst, List.mem_append, h1, h2]
  exact Or.comm

mutual
/-- **A successful match binds exactly the pattern's variables.** -/
theorem matchPat_binds : ∀ (p : Pat) (v : Val) (b : Env), Pat.wf p → matchPat p v = some b →
    ∀ x, x ∈ b.map Prod.fst ↔ x ∈ Pat.binds p
  | .wild, v, b, _, h => by cases h; exact fun _ => Iff.rfl
  | .var y, v, b, _, h => by cases h; exact fun _ => Iff.rfl
  | .tuple ps, v, b, hw, h => by
    cases v with
    | obj c t fs => exact matchPats_binds ps fs b hw h
    | _ => cases h
  | .obj idxs ps, v, b, hw, h => by
    cases v with
    | obj c t fs => exact matchFields_binds idxs ps fs b hw.1 hw.2 h
    | _ => cases h
  | .variant tag ps, v, b, hw, h => by
    cases v with
    | obj c t fs =>
      simp only [matchPat] at h
      split at h
      · exact matchPats_binds ps fs b hw h
      · cases h
    | _ => cases h
  | .or ps, v, b, hw, h => matchAlts_binds ps v b (Pat.bindsHead ps) hw.1 hw.2 h
theorem matchPats_binds : ∀ (ps : List Pat) (vs : List Val) (b : Env), Pat.wfList ps →
    matchPats ps vs = some b → ∀ x, x ∈ b.map Prod.fst ↔ x ∈ Pat.bindsList ps
  | [], vs, b, _, h => by cases h; exact fun _ => Iff.rfl
  | p :: ps, [], b, _, h => by cases h
  | p :: ps, v :: vs, b, hw, h => by
    simp only [matchPats] at h
    split at h
    · cases h
    · rename_i b1 h1
      split at h
      · cases h
      · rename_i b2 h2
        cases h
        exact binds_append (matchPat_binds p v b1 hw.1 h1) (matchPats_binds ps vs b2 hw.2 h2)
theorem matchFields_binds : ∀ (idxs : List Nat) (ps : List Pat) (fs : List Val) (b : Env),
    Pat.wfList ps → idxs.length = ps.length → matchFields idxs ps fs = some b →
    ∀ x, x ∈ b.map Prod.fst ↔ x ∈ Pat.bindsList ps
  | [], [], fs, b, _, _, h => by cases h; exact fun _ => Iff.rfl
  | [], _ :: _, fs, b, _, hl, _ => by cases hl
  | _ :: _, [], fs, b, _, hl, _ => by cases hl
  | i :: idxs, p :: ps, fs, b, hw, hl, h => by
    simp only [matchFields] at h
    split at h
    · cases h
    · rename_i v hv
      split at h
      · cases h
      · rename_i b1 h1
        split at h
        · cases h
        · rename_i b2 h2
          cases h
          exact binds_append (matchPat_binds p v b1 hw.1 h1)
            (matchFields_binds idxs ps fs b2 hw.2 (Nat.succ.inj hl) h2)
theorem matchAlts_binds : ∀ (ps : List Pat) (v : Val) (b : Env) (xs : List String),
    Pat.wfList ps → sameBinds xs ps → matchAlts ps v = some b →
    ∀ x, x ∈ b.map Prod.fst ↔ x ∈ xs
  | [], v, b, xs, _, _, h => by cases h
  | p :: ps, v, b, xs, hw, hs, h => by
    simp only [matchAlts] at h
    split at h
    · rename_i b1 h1
      cases h
      exact fun x => (matchPat_binds p v b hw.1 h1 x).trans (hs p List.mem_cons_self x)
    · exact matchAlts_binds ps v b xs hw.2 (fun q hq => hs q (List.mem_cons_of_mem _ hq)) h
end

/-- an or-pattern takes the bindings of its first matching alternative (§8.9) -/
theorem or_first_alternative (pre post : List Pat) (p : Pat) (v : Val) (b : Env)
    (hpre : ∀ q ∈ pre, matchPat q v = none) (hp : matchPat p v = some b) :
    matchPat (.or (pre ++ p :: post)) v = some b := by
  simp only [matchPat]
  induction pre with
  | nil => simp [matchAlts, hp]
  | cons q pre ih =>
    have hq : matchPat q v = none := hpre q List.mem_cons_self
    simp only [List.cons_append, matchAlts, hq]
    exact ih (fun q' hq' => hpre q' (List.mem_cons_of_mem _ hq'))

/-! ## `&&` / `||` short-circuit -/

/-- `false && e2`, and dually `true || e2` below: the result — value *and* state — is fixed by `e1`
alone, for every evaluator used for sub-expressions: `e2` is not evaluated (it may print, panic or
diverge). -/
theorem and_short_circuit_step (P : Program) (ev : Ev) (env : Env) (s s1 : St) (e1 e2 : Expr)
    (h : ev env s e1 = .ok (.bool false) s1) :
    step P ev env s (.binary .and e1 e2) = .ok (.bool false) s1 := by
  simp only [step, h, Res.bind]

theorem or_short_circuit_step (P : Program) (ev : Ev) (env : Env) (s s1 : St) (e1 e2 : Expr)
    (h : ev env s e1 = .ok (.bool true) s1) :
    step P ev env s (.binary .or e1 e2) = .ok (.bool true) s1 := by
  simp only [step, h, Res.bind]

theorem andor_short_circuit (P : Program) (n : Nat) (env : Env) (s s1 : St) (e1 : Expr) :
    (eval P n env s e1 = .ok (.bool false) s1 →
      ∀ e2, eval P (n + 1) env s (.binary .and e1 e2) = .ok (.bool false) s1) ∧
    (eval P n env s e1 = .ok (.bool true) s1 →
      ∀ e2, eval P (n + 1) env s (.binary .or e1 e2) = .ok (.bool true) s1) :=
  ⟨fun h e2 => and_short_circuit_step P (eval P n) env s s1 e1 e2 h,
   fun h e2 => or_short_circuit_step P (eval P n) env s s1 e1 e2 h⟩

/-- the other half: `true && e2` / `false || e2` is `e2`, evaluated in the state `e1` left -/
theorem andor_evaluates_right (P : Program) (n : Nat) (env : Env) (s s1 s2 : St) (e1 e2 : Expr)
    (b : Bool) :
    (eval P n env s e1 = .ok (.bool true) s1 → eval P n env s1 e2 = .ok (.bool b) s2 →
      eval P (n + 1) env s (.binary .and e1 e2) = .ok (.bool b) s2) ∧
    (eval P n env s e1 = .ok (.bool false) s1 → eval P n env s1 e2 = .ok (.bool b) s2 →
      eval P (n + 1) env s (.binary .or e1 e2) = .ok (.bool b) s2) := by
  constructor
  · intro h1 h2
    simp only [eval, step, h1, h2, Res.bind]
  · intro h1 h2
    simp only [eval, step, h1, h2, Res.bind]

/-! ## evaluation order (§6.15) -/

/-- a binary operator evaluates its left operand first: if it panics, the right one is not run -/
theorem binary_left_first (P : Program) (n : Nat) (env : Env) (s s1 : St) (op : BinOp)
    (e1 e2 : Expr) (msg : String) (h : eval P n env s e1 = .panic msg s1) :
    eval P (n + 1) env s (.binary op e1 e2) = .panic msg s1 := by
  simp only [eval, step]
  split <;> rw [h] <;> rfl

/-- arguments are evaluated left to right, each in the state its predecessor left -/
theorem evalList_cons (ev : Ev) (env : Env) (s s1 s2 : St) (e : Expr) (es : List Expr) (v : Val)
    (vs : List Val) (h1 : ev env s e = .ok v s1) (h2 : evalList ev env s1 es = .ok vs s2) :
    evalList ev env s (e :: es) = .ok (v :: vs) s2 := by
  simp only [evalList, h1, h2, Res.bind]

/-! ## alpha-invariance (the behaviour clause of C13 at the level of the reference semantics) -/

/-- Evaluation commutes with consistent renaming: for an injective `ρ` that fixes `this`,
evaluating the renamed expression in the renamed environment / state / program gives the renamed
result (closures inside values carry renamed code; everything observable is untouched). -/
theorem alpha_invariant_eval {ρ : String → String} (hinj : ∀ a b, ρ a = ρ b → a = b)
    (hthis : ρ "this" = "this") (P : Program) (n : Nat) (env : Env) (s : St) (e : Expr) :
    eval (P.ren ρ) n (Val.renEnv ρ env) (s.ren ρ) (Expr.ren ρ e) =
      (eval P n env s e).ren (Val.ren ρ) ρ :=
  eval_ren hinj hthis P n env s e

/-- Renaming the parameters and local variables of a program consistently
by any injective map on names that fixes `this` does not change its outcome: same printed lines,
same way of ending (incl. the panic message), same flags, for every fuel. -/
theorem alpha_invariant {ρ : String → String} (hinj : ∀ a b, ρ a = ρ b → a = b)
    (hthis : ρ "this" = "this") (P : Program) (entry : String) (fuel : Nat) :
    run (P.ren ρ) entry fuel = run P entry fuel := by
  unfold run
  have h := invoke_ren hthis P (eval_ren hinj hthis P fuel) (entry ++ ".Main") "main" .unit [] {}
  have hs : St.ren ρ {} = {} := by simp [St.ren]
  simp only [Val.ren, Val.renList, hs] at h
  rw [h, outcomeOf_ren]

def swapName (x y : String) : String → String :=
  fun z => if z = x then y else if z = y then x else z

theorem swapName_swapName (x y z : String) : swapName x y (swapName x y z) = z := by
  unfold swapName
  by_cases hx : z = x
  · rw [if_pos hx]
    by_cases hyx : y = x
    · rw [if_pos hyx, hyx, hx]
    · rw [if_neg hyx, if_pos rfl, hx]
  · rw [if_neg hx]
    by_cases hy : z = y
    · rw [if_pos hy, if_pos rfl, hy]
    · rw [if_neg hy, if_neg hx, if_neg hy]

theorem swapName_injective (x y : String) : ∀ a b, swapName x y a = swapName x y b → a = b :=
  fun a b h => by rw [← swapName_swapName x y a, h, swapName_swapName]

/-- Renaming one variable name `x` to a name `y` (where `y` does not occur, `swapName x y` replaces
`x` by `y` and changes nothing else) preserves the outcome. -/
theorem alpha_invariant_rename (x y : String) (hx : x ≠ "this") (hy : y ≠ "this")
    (P : Program) (entry : String) (fuel : Nat) :
    run (P.ren (swapName x y)) entry fuel = run P entry fuel := by
  apply alpha_invariant (swapName_injective x y)
  rw [swapName, if_neg hx.symm, if_neg hy.symm]

/-! ## Non-vacuity: the model computes -/

section Examples

/-- Module `M`: `class Opt(No, So(int)) {}`,
`class Main { function get(o, d) = match o { No -> d, So(x) -> x }
function main() = { let r = Main.get(Opt.So(41), 7); Process.println(Str.fromInt(r + 1)) } }` -/
def exProgram : Program where
  classOf := fun c =>
    if c == "M.Opt" then some ⟨"M.Opt", .enum [("No", 0), ("So", 1)], []⟩
    else if c == "M.Main" then some ⟨"M.Main", .none,
      [⟨"get", false, ["o", "d"],
          .match (.var "o") [(.variant 0 [], .var "d"), (.variant 1 [.var "x"], .var "x")]⟩,
       ⟨"main", false, [],
          .block [(.var "r", .call (.method (.cls "M.Main") "get" (.classId "M.Main"))
                      [.call (.method (.cls "M.Opt") "So" (.classId "M.Opt")) [.int 41], .int 7])]
            (some (.call (.method (.cls "Process") "println" (.classId "Process"))
              [.call (.method (.cls "Str") "fromInt" (.classId "Str"))
                 [.binary .add (.var "r") (.int 1)]]))⟩]⟩
    else none

theorem exProgram_run : run exProgram "M" 20 = ⟨["42"], .ok, {}⟩ := by decide +kernel

example : run exProgram "M" 20 = ⟨["42"], .ok, {}⟩ := exProgram_run
example : (run exProgram "M" 3).end = .oof := by decide +kernel
-- hypotheses of `run_fuel_mono` are satisfiable
example : (run exProgram "M" 20).end ≠ .oof := by rw [exProgram_run]; decide

-- `match_first_arm` instantiated: second arm selected, binds exactly `x`
example : matchPat (.variant 0 []) (.obj "M.Opt" 1 [.int 41]) = none := by decide +kernel
example : (matchPat (.variant 1 [.var "x"]) (.obj "M.Opt" 1 [.int 41])).map (·.map Prod.fst) =
    some ["x"] := by decide +kernel
example : Pat.wf (.or [.variant 0 [.var "a", .wild], .variant 1 [.var "a"]]) := by
  simp [Pat.wf, Pat.wfList, sameBinds, Pat.bindsHead, Pat.binds, Pat.bindsList]

-- short circuit: the right operand would panic
example : eval exProgram 5 [] {} (.binary .and (.bool false)
    (.call (.method (.cls "Process") "panic" (.classId "Process")) [.str "boom"])) =
    .ok (.bool false) {} := by rfl
example : (outcomeOf (eval exProgram 9 [] {} (.binary .and (.bool true)
    (.call (.method (.cls "Process") "panic" (.classId "Process")) [.str "boom"])))).end =
    .panic "boom" := by decide +kernel

-- 32-bit arithmetic: overflow wraps and is flagged; division by zero traps
example : (outcomeOf (eval exProgram 3 [] {} (.binary .add (.int 2147483647) (.int 1)))).flags.ovf =
    true := by decide +kernel
example : (outcomeOf (eval exProgram 3 [] {} (.binary .div (.int 1) (.int 0)))).end = .trap "div0" := by
  decide +kernel
example : unescape "a\\n\\\\b" = "a\n\\b" := by decide +kernel

-- alpha_invariant instantiated: `x` of `Main.get` renamed to `z`; the renamed program is a different text
example : run (exProgram.ren (swapName "x" "z")) "M" 20 = ⟨["42"], .ok, {}⟩ := by
  rw [alpha_invariant_rename "x" "z" (by decide) (by decide), exProgram_run]
example : Expr.ren (swapName "x" "z") (.lam ["x"] (.binary .add (.var "x") (.var "d"))) =
    .lam ["z"] (.binary .add (.var "z") (.var "d")) := by
  simp [Expr.ren, swapName]

end Examples

end SamVerif.Source
