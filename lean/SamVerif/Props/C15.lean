import SamVerif.Lemmas.ScopeRename
/-!
# C15 — Navigation and rename agree with the language's scoping rules

The service's lookup *is* the checker's `SsaAnalysisResult` (`variable_definition.rs:25-50`), so
"agrees with the checker" reduces to properties of `Model/Scope.lean` (tied to `ssa_analysis.rs`
by the `ssa` protocol and to `query::definition_location` / `query::all_references` by the `q`
protocol) plus the renamer.  `apply_renaming` (`variable_definition.rs:362`) rewrites the name of
exactly the identifier nodes whose location is the definition or one of its uses; on the event
view of a module that is `renameAt`.

The model is the code after the fixes of C15-F1 (`this` renamable, 69a554a) and C15-F2 (or-patterns
nested in a later alternative invisible to the analysis, a157fc5).
-/
namespace SamVerif.Scope

variable {α : Type} [DecidableEq α]

def keysNodup {κ ν : Type} (m : List (κ × ν)) : Prop := (m.map (·.1)).Nodup

theorem insertKV_keysNodup {κ ν : Type} [DecidableEq κ] (k : κ) (v : ν) (m : List (κ × ν))
    (h : keysNodup m) : keysNodup (insertKV k v m) := by
  simp only [keysNodup, insertKV, List.map_cons, List.nodup_cons]
  refine ⟨?_, (List.filter_sublist.map _).nodup h⟩
  simp only [List.mem_map, List.mem_filter]
  rintro ⟨e, ⟨_, he⟩, rfl⟩
  simp at he

theorem step_useDef_nodup (st : St α) (ev : Ev α) (h : keysNodup st.useDef) :
    keysNodup (step st ev).useDef := by
  cases ev with
  | push => exact h
  | pop k loc =>
    simp only [step]
    split
    · cases k <;> exact h
    · exact h
  | define n l => rw [step, defineId_eq]; exact h
  | use n l ft =>
    simp only [step, useId]
    split
    · exact insertKV_keysNodup _ _ _ h
    · exact h

/-- **`use_define_map` is a function** in every reachable state: an occurrence resolves to at most
one binding (unbounded event sequences). -/
theorem useDef_functional (evs : List (Ev α)) (st : St α) (h : keysNodup st.useDef) :
    keysNodup (run evs st).useDef := by
  induction evs generalizing st with
  | nil => exact h
  | cons ev evs ih => exact ih (step st ev) (step_useDef_nodup st ev h)

theorem lookupKV_map_self {ν : Type} (g : Nat → ν) {l : List Nat} {d : Nat} (h : d ∈ l) :
    lookupKV d (l.map fun x => (x, g x)) = some (g d) := by
  induction l with
  | nil => cases h
  | cons a l ih =>
    by_cases ha : a = d
    · simp [lookupKV, ha]
    · rcases List.mem_cons.mp h with e | h'
      · exact absurd e.symm ha
      · simp [lookupKV, ha, ih h']

/-- In every reachable state, for every definition `d` the reference list
`def_to_use_map[d]` (what `find_all_definition_and_uses` / `all_references` return) is `d` itself
plus *exactly* the occurrences that `use_define_map` resolves to `d`. -/
theorem def_use_partition (evs : List (Ev α)) (d u : Nat)
    (hd : d ∈ (run evs (init : St α)).defLocs) :
    (∃ us, lookupKV d (defToUse (run evs (init : St α))) = some us ∧
      (u ∈ us ↔ u = d ∨ lookupKV u (run evs (init : St α)).useDef = some d)) := by
  have hn : keysNodup (run evs (init : St α)).useDef := useDef_functional evs init (by simp [keysNodup, init])
  generalize run evs (init : St α) = st at hd hn
  refine ⟨d :: (st.useDef.filter (fun e => e.2 = d)).map (·.1), ?_, ?_⟩
  · simp only [defToUse]
    exact lookupKV_map_self _ (List.mem_eraseDups.mpr hd)
  · simp only [List.mem_cons, List.mem_map, List.mem_filter]
    constructor
    · rintro (h | ⟨e, ⟨he, hed⟩, rfl⟩)
      · exact Or.inl h
      · right
        obtain ⟨a, b⟩ := e
        simp only [decide_eq_true_eq] at hed
        subst hed
        exact lookupKV_of_mem hn he
    · rintro (h | h)
      · exact Or.inl h
      · exact Or.inr ⟨(u, d), ⟨mem_of_lookupKV h, by simp⟩, rfl⟩

/-- every use is either resolved (enters `use_define_map`) or reported as unbound — never both,
never neither -/
theorem use_resolved_or_reported (st : St α) (n : α) (loc : Nat) (ft : Bool) :
    (∃ d, lookupKV loc (useId st n loc ft).useDef = some d ∧ (useId st n loc ft).errors = st.errors) ∨
    ((useId st n loc ft).useDef = st.useDef ∧
      (useId st n loc ft).errors = st.errors ++ [Err.cannotResolve loc n]) := by
  simp only [useId]
  split
  · next k l _ => left; exact ⟨l, by simp [insertKV, lookupKV], rfl⟩
  · right; exact ⟨rfl, rfl⟩

/-- Renaming the occurrences `S` (all of which carry the name `old`) to any
name and back restores the original, for every event sequence. -/
theorem rename_involutive (S : List Nat) (old new : α) (evs : List (Ev α))
    (h : ∀ ev ∈ evs, ∀ l, ev.loc = some l → l ∈ S → ev.name? = some old) :
    renameAt S old (renameAt S new evs) = evs := by
  rw [renameAt, renameAt, List.map_map]
  refine (List.map_congr_left fun ev hev => ?_).trans (List.map_id evs)
  simp only [Function.comp, renameEv_eq_relabel, Ev.relabel_relabel]
  refine (Ev.relabel_congr fun n l hn hl => ?_).trans (Ev.relabel_id ev)
  by_cases hS : l ∈ S
  · have : n = old := Option.some.inj (hn.symm.trans (h ev hev l hl hS))
    simp only [rnName, hS, if_true, this]
  · simp only [rnName, hS, if_false]

/-- **The tree renamer is the event renamer**: visiting the module rewritten by `apply_renaming`
(every identifier node at a location of `S` renamed — variables, pattern binders including
struct-shorthand binders, lambda parameters) yields the renamed events.  So the event-level
theorems below speak about the rewritten syntax tree, for every binding form and nesting. -/
theorem rename_tree_commutes (S : List Nat) (new : α) (n : Node α) :
    visit (Node.renameAt S new n) = renameAt S new (visit n) := by
  rw [Node.renameAt_eq_relabel, renameAt, renameEv_eq_relabel, visit_relabel]

/-- …and at member level, parameters included (`mod_def_id` on `AnnotatedId`s,
`variable_definition.rs:400-450`): type parameters, parameter annotations, return type, parameters,
body. -/
theorem rename_member_commutes (S : List Nat) (new : α) (m : Member α) :
    visitMember (Member.renameAt S new m) = renameAt S new (visitMember m) := by
  rw [renameAt, renameEv_eq_relabel, ← visitMember_relabel]
  -- `Member.renameAt` leaves the member's own name, which `visitMember` does not read, to `Toplevel.renameAt`
  simp only [visitMember, Member.renameAt, Member.relabel, TParam.renameAt_eq_relabel, Node.renameAt_eq_relabel]

/-- …and at module level: the whole rewritten module (`apply_renaming`), provided no class
declaration (the binder of `this`) is among the renamed locations (`rewrite::rename` refuses that,
fix 69a554a). -/
theorem rename_module_commutes (S : List Nat) (new this : α) (m : Module α)
    (ht : ∀ t ∈ m.toplevels, t.loc ∉ S) :
    visitModule this (Module.renameAt S new m) = renameAt S new (visitModule this m) := by
  rw [Module.renameAt_eq_relabel, renameAt, renameEv_eq_relabel]
  exact visitModule_relabel _ this _ m fun t h => if_neg (ht t h)

/-- The renamer touches identifier names and nothing else — the
name-erased tree (tags, locations, children: explicit type arguments, annotations, pattern
structure, statement kinds) of the renamed tree is that of the original, for every tree and every
set of renamed locations. Tied generator-independently by the harness: the structural dump of the
re-parsed renamed module equals the dump of the (formatted) original with the new name put back. -/
theorem rename_changes_names_only (S : List Nat) (new : α) (n : Node α) :
    Node.map (fun _ => ()) (Node.renameAt S new n) = Node.map (fun _ => ()) n :=
  renameAt_erase S new n

/-- non-vacuity: a node with explicit type-argument children and a renamed receiver -/
example : Node.map (fun _ => ()) (Node.renameAt [5] 9 (.mk .seq none 0 [.mk .var (some 1) 5 [], .mk .tyUse (some 3) 6 []]))
    = Node.map (fun _ => ()) (Node.mk Tag.seq none 0 [.mk .var (some 1) 5 [], .mk .tyUse (some 3) 6 []]) :=
  rename_changes_names_only [5] 9 _
example : Node.renameAt [5] 9 (.mk .seq none 0 [.mk .var (some 1) 5 [], .mk .tyUse (some 3) 6 []])
    = (.mk .seq none 0 [.mk .var (some 9) 5 [], .mk .tyUse (some 3) 6 []] : Node Nat) := by
  simp [Node.renameAt, Node.renameAtList]

/-- The general statement (no "bound once" condition): let the module be
accepted by scope analysis, `new` fresh, and `S` = the binding `d` plus exactly the occurrences
that resolve to it (`Admissible`, a decidable predicate evaluated along the original run; other
bindings may carry the same old name).  Then the renamed module has the same use→definition map,
the same definition set and reference lists, no new diagnostics, and the same per-scope binding
tables and lambda-capture tables up to the new name (`rnE`: the entry of `d` carries `new`) — no
capture, no escape. -/
theorem rename_preserves_resolution (S : List Nat) (d : Nat) (old new : α) (evs : List (Ev α))
    (h : Admissible S d old new evs init) :
    (run (renameAt S new evs) init).useDef = (run evs (init : St α)).useDef ∧
    (run (renameAt S new evs) init).invalid = (run evs (init : St α)).invalid ∧
    defToUse (run (renameAt S new evs) init) = defToUse (run evs (init : St α)) ∧
    (run (renameAt S new evs) init).errors = (run evs (init : St α)).errors ∧
    (run (renameAt S new evs) init).unbound = (run evs (init : St α)).unbound ∧
    (run (renameAt S new evs) init).scopedDefs =
      (run evs (init : St α)).scopedDefs.map (fun e => (e.1, List.map (rnE d new) e.2)) ∧
    (run (renameAt S new evs) init).lambdaCaps =
      (run evs (init : St α)).lambdaCaps.map (fun e => (e.1, List.map (rnE d new) e.2)) := by
  have hr := run_sim S d old new evs init init (rinv_init d old new) rfl (rel_init d new) h
  exact ⟨hr.useDef, hr.invalid, by simp [defToUse, hr.useDef, hr.defLocs], hr.errors, hr.unbound,
    hr.scopedDefs, hr.lambdaCaps⟩

/-- non-vacuity: two sibling bindings with the same name `1`; renaming the first (location 10, use
11) to `7` is admissible although the name is bound twice. -/
example : Admissible [10, 11] 10 1 7
    [Ev.push, .define 1 10, .use 1 11 false, .pop .scoped 3, .push, .define 1 20, .use 1 21 false,
     .pop .scoped 4] (init : St Nat) := by decide

/-- **whole-module statement**: the analysis (`perform_ssa_analysis_on_module`) of the module
rewritten by the renamer has the same use→definition map, invalid set, reference lists,
diagnostics and unbound names, and the renamed binding / capture tables. -/
theorem rename_module_preserves_resolution (S : List Nat) (d : Nat) (old new this : α) (m : Module α)
    (ht : ∀ t ∈ m.toplevels, t.loc ∉ S)
    (h : Admissible S d old new (visitModule this m) init) :
    (analyze this (Module.renameAt S new m)).useDef = (analyze this m).useDef ∧
    (analyze this (Module.renameAt S new m)).invalid = (analyze this m).invalid ∧
    defToUse (analyze this (Module.renameAt S new m)) = defToUse (analyze this m) ∧
    (analyze this (Module.renameAt S new m)).errors = (analyze this m).errors ∧
    (analyze this (Module.renameAt S new m)).unbound = (analyze this m).unbound ∧
    (analyze this (Module.renameAt S new m)).scopedDefs =
      (analyze this m).scopedDefs.map (fun e => (e.1, List.map (rnE d new) e.2)) ∧
    (analyze this (Module.renameAt S new m)).lambdaCaps =
      (analyze this m).lambdaCaps.map (fun e => (e.1, List.map (rnE d new) e.2)) := by
  simp only [analyze, rename_module_commutes S new this m ht]
  exact rename_preserves_resolution S d old new (visitModule this m) h

def swap (a b : α) (n : α) : α := if n = a then b else if n = b then a else n

theorem swap_swap (a b x : α) : swap a b (swap a b x) = x := by
  by_cases ha : x = a
  · by_cases hba : b = a <;> simp [swap, ha, hba]
  · by_cases hb : x = b
    · simp [swap, ← hb, ha]
    · simp [swap, ha, hb]

theorem swap_injective (a b : α) : Function.Injective (swap a b) :=
  Function.LeftInverse.injective (swap_swap a b)

theorem renameAt_eq_map_swap (S : List Nat) (old new : α) (evs : List (Ev α))
    (hfresh : ∀ ev ∈ evs, ev.name? ≠ some new)
    (hS : ∀ ev ∈ evs, ∀ l, ev.loc = some l → (l ∈ S ↔ ev.name? = some old)) :
    renameAt S new evs = evs.map (Ev.map (swap old new)) := by
  refine List.map_congr_left fun ev hev => ?_
  rw [renameEv_eq_relabel, Ev.map_eq_relabel]
  refine Ev.relabel_congr fun n l hn hl => ?_
  have hf : n ≠ new := fun e => hfresh ev hev (e ▸ hn)
  have hs : l ∈ S ↔ n = old := by rw [hS ev hev l hl, hn, Option.some.injEq]
  by_cases hl' : l ∈ S
  · simp only [rnName, hl', if_true, swap, hs.mp hl']
  · simp only [rnName, hl', if_false, swap, mt hs.mpr hl', hf]

/-- Ill-scoped modules too, which the general theorem does not cover: if the new name is fresh and
the renamed occurrences are *all* occurrences of the old name, everything — including captures and
diagnostics of rejected modules — is preserved up to the renaming. -/
theorem rename_preserves_resolution_partial (S : List Nat) (old new : α) (evs : List (Ev α))
    (hfresh : ∀ ev ∈ evs, ev.name? ≠ some new)
    (hS : ∀ ev ∈ evs, ∀ l, ev.loc = some l → (l ∈ S ↔ ev.name? = some old)) :
    run (renameAt S new evs) init = (run evs (init : St α)).map (swap old new) := by
  rw [renameAt_eq_map_swap S old new evs hfresh hS]
  have := run_map (swap old new) (swap_injective old new) evs init
  rw [init_map] at this
  exact this

/-- The validity test of `rewrite::rename` (`lib.rs:481-486`) is purely lexical (starts with a
lowercase letter, alphanumeric): it does **not** imply freshness.  Witness on the model: renaming
`a` to the already bound `b` in `(a, b) -> a` changes the resolution (capture). -/
theorem fresh_check_unsound_counterexample :
    ∃ (evs : List (Ev Nat)) (S : List Nat) (new : Nat),
      (run (renameAt S new evs) init).useDef ≠ (run evs init).useDef :=
  ⟨[.push, .define 1 10, .define 2 11, .use 1 12 false, .pop .discard 0], [10, 12], 2, by decide⟩

example : renameAt [10, 12] 7 [Ev.push, .define 1 10, .define 2 11, .use 1 12 false]
    = [Ev.push, .define 7 10, .define 2 11, .use 7 12 false] := by decide
/-- struct-shorthand binder `{ f }` (node `pId f`) under an or-pattern: both alternatives renamed -/
example : visit (Node.renameAt [5, 6, 9] 7 (.mk .seq none 0
      [.mk .pOr none 0 [.mk .seq none 0 [.mk .pId (some 1) 5 []], .mk .seq none 0 [.mk .pId (some 1) 6 []]],
       .mk .var (some 1) 9 []]))
    = [Ev.define 7 5, .use 7 6 false, .use 7 9 false] := by decide
example : (run [Ev.push, .define 1 10, .use 1 12 false] init).useDef = [(12, 10)] := by decide

end SamVerif.Scope
