import SamVerif.Lemmas.StdMapOps

import SamVerif.Lemmas.StdSet

import SamVerif.Model.StdList

import SamVerif.Model.StdAux

/-!
# C18 — Standard-library collections behave like finite maps, sets and sequences

The property theorems of C18 and the definitions their statements use.  The models are
`Model/StdMap.lean`, `Model/StdSet.lean`, `Model/StdList.lean`, `Model/StdAux.lean`; the lemmas are in
`Lemmas/StdMap.lean`, `Lemmas/StdMapOps.lean`, `Lemmas/StdSet.lean`.  A property theorem that
lemmas rest on stands in the lemma file, beside them: `map_mapValues_refines`, `get_refines`,
`concat_refines`, `ops_refine` for maps; for sets see the head of that part.  The models are tied to the
std sources by the `stdops` correspondence (generated samlang driver programs compiled by the real
compiler and run as wasm/TS vs `Driver/C18.lean`), which compares complete tree shapes after every
operation.

Findings C18-F1 … F7 are defects of the std code that falsified the statements for `max`, `exists`,
`remove` (Map and Set), `Set.diff`, `Map.merge`, `Map.customizedUnion/union`; they are fixed by `fix:`
commits in /repo and the models follow the fixed code.  F1–F3: `max` ({1,2,3,4}.max() = 3; cf60c34),
`exists` (true on the empty map; a34e262), `minBindingFromNodeUnsafe` (inserts 10,2,5,11,4,7 then
remove 5 = "Bad tree" panic; 296ead9).  F4, F5 (sets): {1,2}.remove(2) = {} (4ba22e3), {1} \\ {} = {}
(198f94b).  The witnesses are regression inputs in corpus/C18.
-/

/-! ## Sequences: every `List` method equals the corresponding operation on a mathematical sequence -/

namespace SamVerif.StdList
variable {T R A : Type}

theorem fold_refines (f : A → T → A) (l : SList T) (a : A) : fold f l a = (toList l).foldl f a := by
  induction l generalizing a with
  | nil => rfl
  | cons v rest ih => simp [fold, toList, ih]

theorem foldRight_refines (f : T → A → A) (l : SList T) (i : A) :
    foldRight f l i = (toList l).foldr f i := by
  induction l with
  | nil => rfl
  | cons v rest ih => simp [foldRight, toList, ih]

theorem length_refines (l : SList T) : length l = ((toList l).length : Int) := by
  have h : ∀ (l : SList T) (a : Int), fold (fun acc _ => acc + 1) l a = a + (toList l).length := by
    intro l
    induction l with
    | nil => intro a; simp [fold, toList]
    | cons v rest ih => intro a; simp [fold, toList, ih]; omega
  simp [length, h]

theorem filter_refines (f : T → Bool) (l : SList T) : toList (filter f l) = (toList l).filter f := by
  induction l with
  | nil => rfl
  | cons v rest ih => simp only [filter, toList, List.filter_cons]; split <;> simp [toList, ih]

theorem map_refines (f : T → R) (l : SList T) : toList (map f l) = (toList l).map f := by
  induction l with
  | nil => rfl
  | cons v rest ih => simp [map, toList, ih]

theorem filterMap_refines (f : T → Option R) (l : SList T) :
    toList (filterMap f l) = (toList l).filterMap f := by
  induction l with
  | nil => rfl
  | cons v rest ih =>
    simp only [filterMap, toList, List.filterMap_cons]
    split <;> simp_all [toList]

theorem append_refines (a b : SList T) : toList (append a b) = toList a ++ toList b := by
  unfold append
  induction a with
  | nil => rfl
  | cons v rest ih => simp [foldRight, toList, ih]

theorem reverseAndAppend_refines (a b : SList T) :
    toList (reverseAndAppend a b) = (toList a).reverse ++ toList b := by
  unfold reverseAndAppend
  induction a generalizing b with
  | nil => rfl
  | cons v rest ih => simp [fold, toList, ih]

theorem reverse_refines (l : SList T) : toList (reverse l) = (toList l).reverse := by
  have h : ∀ (l acc : SList T), toList (reverseWithAccumulator l acc) = (toList l).reverse ++ toList acc := by
    intro l
    induction l with
    | nil => intro acc; rfl
    | cons v rest ih => intro acc; simp [reverseWithAccumulator, toList, ih]
  simp [reverse, h, toList]

theorem contains_refines (x : T) (eq : T → T → Bool) (l : SList T) :
    contains x eq l = (toList l).any (fun v => eq x v) := by
  induction l with
  | nil => rfl
  | cons v rest ih => simp [contains, toList, ih]

theorem forAll_refines (f : T → Bool) (l : SList T) : forAll f l = (toList l).all f := by
  induction l with
  | nil => rfl
  | cons v rest ih => simp [forAll, toList, ih]

theorem exists_refines (f : T → Bool) (l : SList T) : «exists» f l = (toList l).any f := by
  induction l with
  | nil => rfl
  | cons v rest ih => simp [«exists», toList, ih]

theorem find_refines (f : T → Bool) (l : SList T) : find f l = (toList l).find? f := by
  induction l with
  | nil => rfl
  | cons v rest ih => simp only [find, toList, List.find?_cons]; split <;> simp_all

theorem findMap_refines (f : T → Option R) (l : SList T) : findMap f l = (toList l).findSome? f := by
  induction l with
  | nil => rfl
  | cons v rest ih => simp only [findMap, toList, List.findSome?_cons]; split <;> simp_all

theorem bind_refines (f : T → SList R) (l : SList T) :
    toList (bind f l) = (toList l).flatMap (fun x => toList (f x)) := by
  unfold bind
  induction l with
  | nil => rfl
  | cons v rest ih => simp [foldRight, toList, append_refines, ih]

theorem flatten_refines (l : SList (SList T)) :
    toList (flatten l) = ((toList l).map toList).flatten := by
  unfold flatten
  induction l with
  | nil => rfl
  | cons v rest ih => simp [foldRight, toList, append_refines, ih]

theorem first_refines (l : SList T) : first l = (toList l).head? := by cases l <;> rfl

theorem rest_refines (l : SList T) : (rest l).map toList = (toList l).tail? := by cases l <;> rfl

theorem isEmpty_refines (l : SList T) : isEmpty l = (toList l).isEmpty := by cases l <;> rfl

/-- `List.iter` calls the callback front to back -/
theorem iter_refines {T σ : Type} (f : T → σ → σ) (l : SList T) (s : σ) :
    iter f l s = (toList l).foldl (fun s v => f v s) s := by
  induction l generalizing s with
  | nil => rfl
  | cons v rest ih => simp [iter, toList, ih]

end SamVerif.StdList

/-! ## Finite maps -/

namespace SamVerif.StdMap

set_option linter.unusedSectionVars false

variable {K V : Type} [DecidableEq K] [DecidableEq V] [LE K] [LT K] [Std.IsLinearOrder K] [Std.LawfulOrderLT K] [DecidableLT K]

/-- a tree satisfies the representation invariant -/
def Inv (t : Tree K V) : Prop := Bal t ∧ Ordered t

theorem inv_empty : Inv (Tree.empty : Tree K V) := ⟨bal_empty, ord_empty⟩

/-! ### Observers

Each is a list function of the ascending enumeration `abs`.  `max` and `exists` are statements that
C18-F1, F2 falsified. -/

/-- `size` is the number of bindings. -/
theorem map_size_refines (t : Tree K V) : size t = ((abs t).length : Int) := by
  induction t with
  | empty => rfl
  | leaf k v => rfl
  | node h k v l r ihl ihr => simp [size, abs, ihl, ihr]; omega

/-- `entries` / `keys` enumerate the bindings in order (conversion to lists). -/
theorem map_entries_refines (t : Tree K V) : entries t = abs t := by simp [entries, entriesHelper_eq]

theorem map_keys_refines (t : Tree K V) : keys t = (abs t).map Prod.fst := by simp [keys, keysHelper_eq]

/-- the enumeration is strictly ascending in the key order -/
theorem map_entries_sorted (t : Tree K V) (h : Inv t) :
    (entries t).Pairwise (fun a b => a.1 < b.1) := by
  rw [map_entries_refines]; exact h.2

/-- `fold` is a left fold over the ascending enumeration. -/
theorem map_fold_refines {A : Type} (f : A → K → V → A) (t : Tree K V) (a : A) :
    fold f t a = (abs t).foldl (fun acc kv => f acc kv.1 kv.2) a := by
  induction t generalizing a with
  | empty => rfl
  | leaf k v => rfl
  | node h k v l r ihl ihr => simp [fold, abs, ihl, ihr]

theorem map_forAll_refines (f : K → V → Bool) (t : Tree K V) :
    forAll f t = (abs t).all (fun kv => f kv.1 kv.2) := by
  induction t with
  | empty => rfl
  | leaf k v => simp [forAll, abs]
  | node h k v l r ihl ihr =>
    simp [forAll, abs, ihl, ihr, List.all_append]
    cases f k v <;> simp [Bool.and_comm]

/-- `exists` is `any` over the enumeration. -/
theorem map_exists_refines (f : K → V → Bool) (t : Tree K V) :
    «exists» f t = (abs t).any (fun kv => f kv.1 kv.2) := by
  induction t with
  | empty => simp [«exists», abs]
  | leaf k v => simp [«exists», abs]
  | node h' k v l r ihl ihr =>
    simp [«exists», abs, ihl, ihr, List.any_append]
    cases f k v <;> simp [Bool.or_comm]

/-- `min` is the first binding of the enumeration. -/
theorem map_min_refines (t : Tree K V) : min t = (abs t).head? := by
  induction t with
  | empty => rfl
  | leaf k v => rfl
  | node h k v l r ihl ihr =>
    simp only [min, abs]
    cases hl : isEmpty l
    · have := abs_ne_nil_of_not_isEmpty l hl
      cases h' : abs l with
      | nil => exact absurd h' this
      | cons a as =>
        rw [ihl, h']
        simp
    · have : abs l = [] := (isEmpty_iff l).1 hl
      simp [this]

/-- `max` is the last binding of the ascending enumeration. -/
theorem map_max_refines (t : Tree K V) : max t = (abs t).getLast? := by
  induction t with
  | empty => rfl
  | leaf k v => rfl
  | node h k v l r ihl ihr =>
    simp only [max, abs]
    cases hr : isEmpty r
    · have := abs_ne_nil_of_not_isEmpty r hr
      cases h' : abs r with
      | nil => exact absurd h' this
      | cons a as =>
        rw [ihr, h']
        simp [List.getLast?_append, List.getLast?_cons]
    · have : abs r = [] := (isEmpty_iff r).1 hr
      simp [this]

theorem map_minKey_refines (t : Tree K V) : minKey t = ((abs t).head?).map (·.1) := by
  simp [minKey, map_min_refines]

theorem maxKey_refines (t : Tree K V) : maxKey t = ((abs t).getLast?).map (·.1) := by
  simp [maxKey, map_max_refines]

theorem map_maxKey_refines (t : Tree K V) : maxKey t = ((abs t).getLast?).map (·.1) := maxKey_refines t

/-! **ordered traversal**: `iter` calls the callback on the bindings in ascending key order;
`compare` is the lexicographic comparison and `equal` the pointwise equality of the two ascending
enumerations (the traversal through `NodeEnumerationHelper` delivers exactly `abs`). -/

theorem map_iter_refines {σ : Type} (f : K → V → σ → σ) (t : Tree K V) (s : σ) :
    iter f t s = (abs t).foldl (fun s kv => f kv.1 kv.2 s) s := by
  induction t generalizing s with
  | empty => rfl
  | leaf k v => rfl
  | node h k v l r ihl ihr => simp [iter, abs, ihl, ihr]

theorem map_compare_refines (cmp : K → K → Int) (f : V → V → Int) (a b : Tree K V) :
    compare cmp f a b = lexCmp cmp f (abs a) (abs b) := by
  simp [compare, compareHelper_refines, Enum.toList_cons, Enum.toList]

theorem equal_refines (cmp : K → K → Int) (f : V → V → Bool) (a b : Tree K V) :
    equal cmp f a b = eqList cmp f (abs a) (abs b) := by
  simp [equal, equalHelper_refines, Enum.toList_cons, Enum.toList]

theorem map_equal_refines (cmp : K → K → Int) (f : V → V → Bool) (a b : Tree K V) :
    equal cmp f a b = eqList cmp f (abs a) (abs b) := equal_refines cmp f a b

theorem eqList_iff {cmp : K → K → Int} (hc : Lawful cmp) (f : V → V → Bool)
    (hf : ∀ x y, f x y = true ↔ x = y) (xs ys : List (K × V)) : eqList cmp f xs ys = true ↔ xs = ys := by
  induction xs generalizing ys with
  | nil => cases ys <;> simp [eqList]
  | cons x xs ih =>
    cases ys with
    | nil => simp [eqList]
    | cons y ys =>
      obtain ⟨k1, v1⟩ := x; obtain ⟨k2, v2⟩ := y
      simp [eqList, ih, hf, hc.eq k1 k2, and_assoc]

/-- with a lawful compare and a faithful value test, `equal` decides equality of the finite maps -/
theorem map_equal_iff {cmp : K → K → Int} (hc : Lawful cmp) (f : V → V → Bool)
    (hf : ∀ x y, f x y = true ↔ x = y) (a b : Tree K V) : equal cmp f a b = true ↔ abs a = abs b := by
  rw [equal_refines]; exact eqList_iff hc f hf _ _

/-- **`balanced` never reaches `Process.panic("Bad tree")`** on invariant-satisfying arguments whose
heights differ by at most 3, keeps the enumeration, and restores balance. -/
theorem balanced_preserves (l r : Tree K V) (k : K) (v : V) (hl : Bal l) (hr : Bal r)
    (h1 : height l ≤ height r + 3) (h2 : height r ≤ height l + 3) :
    ∃ t, balanced l k v r = some t ∧ Bal t ∧ abs t = abs l ++ (k, v) :: abs r := by
  obtain ⟨t, e, b, a, _⟩ := balanced_spec' l r k v hl hr h1 h2
  exact ⟨t, e, b, a⟩

/-- within the tolerated imbalance (≤ 2) `balanced` does not rotate at all -/
theorem map_balanced_no_rotation (l r : Tree K V) (k : K) (v : V) (h1 : height l ≤ height r + 2)
    (h2 : height r ≤ height l + 2) : balanced l k v r = some (create l k v r) := by
  have c1 : ¬ height l > height r + 2 := by omega
  have c2 : ¬ height r > height l + 2 := by omega
  simp [balanced, c1, c2]

/-- **`join`**: for *any* two balanced trees (no assumption on relative heights) `join` never
panics, returns a balanced tree, and enumerates `l`, then `(k, v)`, then `r`. -/
theorem join_refines (l r : Tree K V) (k : K) (v : V) (hl : Bal l) (hr : Bal r) :
    ∃ t, join l k v r = some t ∧ Bal t ∧ abs t = abs l ++ (k, v) :: abs r := by
  obtain ⟨t, e, b, a, _⟩ := join_spec l r k v hl hr
  exact ⟨t, e, b, a⟩

/-! ### Boundaries of the comparisons inside `join` / `create`

`join` hands `create` only subtrees whose heights differ by at most 2 and `balanced` only subtrees
whose heights differ by at most 3 (that is how `join_spec` discharges the preconditions of
`create_spec` / `balanced_spec'`).  Both bounds are tight: -/

/-- two `Node`s within the tolerated imbalance are joined without any rotation -/
theorem join_no_rotation (lh : Int) (lk : K) (lv : V) (ll lr : Tree K V) (k : K) (v : V)
    (rh : Int) (rk : K) (rv : V) (rl rr : Tree K V) (h1 : lh ≤ rh + 2) (h2 : rh ≤ lh + 2) :
    join (.node lh lk lv ll lr) k v (.node rh rk rv rl rr) =
      some (create (.node lh lk lv ll lr) k v (.node rh rk rv rl rr)) := by
  have c1 : ¬ lh > rh + 2 := by omega
  have c2 : ¬ rh > lh + 2 := by omega
  rw [join]; simp [c1, c2]

/-- `create` must not be given an imbalance of 3: the result would violate the height invariant
(so a `join` whose test were `lh > rh + 3` would be wrong) -/
theorem create_boundary_counterexample :
    ∃ l r : Tree Int Int, Bal l ∧ Bal r ∧ height l = height r + 3 ∧ ¬ Bal (create l 9 0 r) :=
  ⟨.node 3 2 0 (.node 2 1 0 (.leaf 0 0) .empty) (.leaf 3 0), .empty, by simp [Bal], by simp [Bal], rfl,
    by simp [create, Bal]⟩

/-- `balanced` with the test `≥ rh + 2` instead of `> rh + 2` -/
def balancedGe (l : Tree K V) (k : K) (v : V) (r : Tree K V) : Option (Tree K V) :=
  if height l ≥ height r + 2 then
    match l with
    | .node _ lk lv ll lr =>
      if height ll ≥ height lr then some (mkNode ll lk lv (create lr k v r))
      else
        match lr with
        | .node _ lrk lrv lrl lrr => some (mkNode (create ll lk lv lrl) lrk lrv (create lrr k v r))
        | _ => none
    | _ => none
  else balanced l k v r

/-- the same boundary for `balanced`: rotating already at imbalance 2 (`lh ≥ rh + 2`) panics on a
balanced right-leaning two-element left subtree -/
theorem map_balanced_boundary_counterexample :
    ∃ l : Tree Int Int, Bal l ∧ height l = 2 ∧ balancedGe l 9 0 .empty = none ∧
      balanced l 9 0 .empty = some (.node 3 9 0 l .empty) :=
  ⟨.node 2 2 0 .empty (.leaf 3 0), by simp [Bal], rfl, by decide, by decide⟩

/-! ### `insert`, `remove`, `update`, `get`

`remove` is the statement that C18-F3 falsified. -/

/-- **`insert` refines finite-map update**: on every invariant-satisfying tree, for every total
order `cmp`, `insert` does not panic, re-establishes the invariant, and the resulting finite map
is `m[k ↦ v]`. -/
theorem insert_refines {cmp : K → K → Int} (hc : Lawful cmp) (t : Tree K V)
    (k : K) (v : V) (hi : Inv t) :
    ∃ t', insert cmp t k v = some t' ∧ Inv t' ∧
      ∀ p, p ∈ abs t' ↔ (p = (k, v) ∨ (p ∈ abs t ∧ p.1 ≠ k)) := by
  obtain ⟨t', e, b, o, m, _⟩ := update_spec hc (fun _ => some v) t k hi.1 hi.2
  refine ⟨t', by rw [insert_eq_update hc, e], ⟨b, o⟩, fun p => ?_⟩
  -- `update_spec` speaks of the key and the value of `p` apart, the statement of the pair
  have pair : (p.1 = k ∧ some v = some p.2) ↔ p = (k, v) :=
    ⟨fun h => Prod.ext h.1 (Option.some.inj h.2).symm, fun h => h ▸ ⟨rfl, rfl⟩⟩
  rw [m, pair, or_comm]

/-- **`remove` refines finite-map deletion**: never panics on an invariant-satisfying tree,
re-establishes the invariant, and the result is `m \ {k}`. -/
theorem remove_refines {cmp : K → K → Int} (hc : Lawful cmp) (t : Tree K V)
    (k : K) (hi : Inv t) :
    ∃ t', remove cmp t k = some t' ∧ Inv t' ∧ ∀ p, p ∈ abs t' ↔ (p ∈ abs t ∧ p.1 ≠ k) := by
  obtain ⟨t', e, b, o, m, _⟩ := update_spec hc (fun _ => none) t k hi.1 hi.2
  exact ⟨t', by rw [remove_eq_update, e], ⟨b, o⟩, fun p => by simp [m]⟩

/-- **`update`**: never panics, keeps the invariant, and is the finite-map update
`m[k ↦ g (m k)]` (binding removed when `g` answers `None`). -/
theorem update_refines {cmp : K → K → Int} (hc : Lawful cmp)
    (g : Option V → Option V) (t : Tree K V) (k : K) (hi : Inv t) :
    ∃ t', update cmp g t k = some t' ∧ Inv t' ∧
      ∀ q, get cmp t' q = if q = k then g (get cmp t k) else get cmp t q := by
  obtain ⟨t', e, b, o, gg⟩ := get_update hc g t k hi.1 hi.2
  exact ⟨t', e, ⟨b, o⟩, gg⟩

/-- lookup after insert (finite-map law) -/
theorem get_insert {cmp : K → K → Int} (hc : Lawful cmp) (t t' : Tree K V)
    (k : K) (v : V) (hi : Inv t) (e : insert cmp t k v = some t') (q : K) :
    get cmp t' q = if q = k then some v else get cmp t q := by
  obtain ⟨t'', e', _, g⟩ := update_refines hc (fun _ => some v) t k hi
  rw [← insert_eq_update hc, e] at e'; cases e'
  exact g q

/-- a history of inserts -/
def runIns (cmp : K → K → Int) : Tree K V → List (K × V) → Option (Tree K V)
  | t, [] => some t
  | t, (k, v) :: ops =>
    match insert cmp t k v with
    | none => none
    | some t' => runIns cmp t' ops

/-- the same history on a mathematical finite map `K → Option V` -/
def specIns (m : K → Option V) : List (K × V) → K → Option V
  | [], q => m q
  | (k, v) :: ops, q => specIns (fun x => if x = k then some v else m x) ops q

/-- **Histories**: every finite sequence of inserts, of any length, from any invariant-satisfying
tree (in particular `empty`) never panics, keeps the invariant, and every lookup afterwards equals
the lookup in the finite map obtained by the same sequence of updates. -/
theorem insert_history_refines {cmp : K → K → Int} (hc : Lawful cmp)
    (ops : List (K × V)) (t : Tree K V) (hi : Inv t) :
    ∃ t', runIns cmp t ops = some t' ∧ Inv t' ∧ ∀ q, get cmp t' q = specIns (get cmp t) ops q := by
  induction ops generalizing t with
  | nil => exact ⟨t, rfl, hi, fun _ => rfl⟩
  | cons op ops ih =>
    obtain ⟨k, v⟩ := op
    obtain ⟨t1, e, hi1, _⟩ := insert_refines hc t k v hi
    obtain ⟨t2, e2, hi2, g⟩ := ih t1 hi1
    refine ⟨t2, by simp [runIns, e, e2], hi2, ?_⟩
    intro q
    rw [g q]
    simp only [specIns]
    congr 1
    funext x
    exact get_insert hc t t1 k v hi e x

/-- **`split`**: the enumeration is cut at `key` into the strictly smaller bindings, the binding of
`key` (if present) and the strictly larger bindings; both parts are balanced. -/
theorem split_refines {cmp : K → K → Int} (hc : Lawful cmp) (t : Tree K V)
    (key : K) (hi : Inv t) :
    ∃ l pres r, split cmp t key = some (l, pres, r) ∧ Inv l ∧ Inv r ∧
      abs t = abs l ++ midList key pres ++ abs r ∧
      (∀ p ∈ abs l, p.1 < key) ∧ (∀ p ∈ abs r, key < p.1) := by
  obtain ⟨l, pres, r, e, b1, b2, a, g1, g2⟩ := split_spec hc t key hi.1 hi.2
  have ho := hi.2
  rw [Ordered, a] at ho
  obtain ⟨o1, o2⟩ : Ordered l ∧ Ordered r := pairwise_outer ho
  exact ⟨l, pres, r, e, ⟨b1, o1⟩, ⟨b2, o2⟩, a, g1, g2⟩

/-- **`filter`** is `List.filter` on the enumeration (and keeps the invariant). -/
theorem filter_refines (f : K → V → Bool) (t : Tree K V) (hi : Inv t) :
    ∃ t', filter f t = some t' ∧ Inv t' ∧ abs t' = (abs t).filter (fun p => f p.1 p.2) := by
  obtain ⟨t', e, b, a⟩ := filter_spec f t hi.1
  refine ⟨t', e, ⟨b, ?_⟩, a⟩
  simp only [Ordered, a]
  exact hi.2.sublist List.filter_sublist

/-- **`partition`** is the pair of `List.filter`s. -/
theorem partition_refines (f : K → V → Bool) (t : Tree K V) (hi : Inv t) :
    ∃ a b, partition f t = some (a, b) ∧ Inv a ∧ Inv b ∧
      abs a = (abs t).filter (fun p => f p.1 p.2) ∧ abs b = (abs t).filter (fun p => !f p.1 p.2) := by
  obtain ⟨a, b, e, b1, b2, a1, a2⟩ := partition_spec f t hi.1
  refine ⟨a, b, e, ⟨b1, ?_⟩, ⟨b2, ?_⟩, a1, a2⟩
  · simp only [Ordered, a1]; exact hi.2.sublist List.filter_sublist
  · simp only [Ordered, a2]; exact hi.2.sublist List.filter_sublist

/-- **`customizedUnion`, total and fuel-free in effect**: any fuel above the sum of the sizes
suffices (the fuelled model never runs out), no panic, invariant kept, and lookups are the
pointwise `unionWith f`. -/
theorem customizedUnion_refines {cmp : K → K → Int} (hc : Lawful cmp)
    (f : K → V → V → Option V) (fuel : Nat) (a b : Tree K V) (ha : Inv a) (hb : Inv b)
    (hf : (abs a).length + (abs b).length < fuel) :
    ∃ t, customizedUnion cmp f fuel a b = some (some t) ∧ Inv t ∧
      ∀ q, get cmp t q = unionWith f q (get cmp a q) (get cmp b q) := by
  obtain ⟨t, e, b', o, g⟩ := customizedUnion_spec hc f fuel a b ha.1 ha.2 hb.1 hb.2 hf
  exact ⟨t, e, ⟨b', o⟩, g⟩

/-- **`union`** keeps the receiver's value on common keys. -/
theorem union_refines {cmp : K → K → Int} (hc : Lawful cmp) (fuel : Nat)
    (a b : Tree K V) (ha : Inv a) (hb : Inv b) (hf : (abs a).length + (abs b).length < fuel) :
    ∃ t, union cmp fuel a b = some (some t) ∧ Inv t ∧
      ∀ q, get cmp t q = match get cmp a q with
        | some x => some x
        | none => get cmp b q := by
  obtain ⟨t, e, i, g⟩ := customizedUnion_refines hc (fun _ v1 _ => some v1) fuel a b ha hb hf
  refine ⟨t, e, i, fun q => ?_⟩
  rw [g q]
  cases get cmp a q <;> cases get cmp b q <;> rfl

/-- **`merge`, total**: `f` decides every key bound on at least one side. -/
theorem merge_refines {cmp : K → K → Int} (hc : Lawful cmp)
    (f : K → Option V → Option V → Option V) (fuel : Nat) (a b : Tree K V) (ha : Inv a)
    (hb : Inv b) (hf : (abs a).length + (abs b).length < fuel) :
    ∃ t, merge cmp f fuel a b = some (some t) ∧ Inv t ∧
      ∀ q, get cmp t q = mergeWith f q (get cmp a q) (get cmp b q) := by
  obtain ⟨t, e, b', o, g⟩ := merge_spec hc f fuel a b ha.1 ha.2 hb.1 hb.2 hf
  exact ⟨t, e, ⟨b', o⟩, g⟩

/-! ### Fuel-free statements

`customizedUnionF` / `mergeF` compute their own fuel from the operands, so they are ordinary total
functions of the two maps; and the fuelled `customizedUnion` does not depend on its fuel once it is
above the operand sizes (more fuel never changes an answer: `customizedUnion_mono`). -/

/-- **`customizedUnion`, fuel-free**: no fuel hypothesis at all. -/
theorem customizedUnionF_refines {cmp : K → K → Int} (hc : Lawful cmp) (f : K → V → V → Option V)
    (a b : Tree K V) (ha : Inv a) (hb : Inv b) :
    ∃ t, customizedUnionF cmp f a b = some t ∧ Inv t ∧
      ∀ q, get cmp t q = unionWith f q (get cmp a q) (get cmp b q) := by
  obtain ⟨t, e, i, g⟩ := customizedUnion_refines hc f _ a b ha hb (Nat.lt_succ_self _)
  exact ⟨t, by simp [customizedUnionF, e], i, g⟩

/-- the fuelled function agrees with the fuel-free one for EVERY sufficient fuel (so the fuel is
not an observable parameter of the model) -/
theorem customizedUnion_fuel_irrelevant {cmp : K → K → Int} (hc : Lawful cmp)
    (f : K → V → V → Option V) (fuel : Nat) (a b : Tree K V) (ha : Inv a) (hb : Inv b)
    (hf : (abs a).length + (abs b).length < fuel) :
    customizedUnion cmp f fuel a b = some (customizedUnionF cmp f a b) := by
  obtain ⟨t, e, _, _⟩ := customizedUnion_refines hc f _ a b ha hb (Nat.lt_succ_self _)
  have := customizedUnion_mono_le cmp f _ fuel (by omega) a b _ e
  rw [this]; simp [customizedUnionF, e]

/-- **`merge`, fuel-free** -/
theorem mergeF_refines {cmp : K → K → Int} (hc : Lawful cmp) (f : K → Option V → Option V → Option V)
    (a b : Tree K V) (ha : Inv a) (hb : Inv b) :
    ∃ t, mergeF cmp f a b = some t ∧ Inv t ∧
      ∀ q, get cmp t q = mergeWith f q (get cmp a q) (get cmp b q) := by
  obtain ⟨t, e, i, g⟩ := merge_refines hc f _ a b ha hb (Nat.lt_succ_self _)
  exact ⟨t, by simp [mergeF, e], i, g⟩

/-! ### Histories

`ops_refine` itself stands in `Lemmas/StdMapOps.lean`. -/

/-- lookups after any history of map operations from all-empty registers equal the specification's
lookups -/
theorem ops_refine_get {cmp : K → K → Int} (hc : Lawful cmp)
    (ops : List (MOp K V)) :
    ∃ regs', runOps cmp (fun _ => (Tree.empty : Tree K V)) ops = some regs' ∧
      ∀ i q, get cmp (regs' i) q = specOps (fun _ _ => none) ops i q := by
  obtain ⟨regs', e, h⟩ := ops_refine hc ops (fun _ => Tree.empty) (fun _ _ => none) (fun _ => rel_empty)
  refine ⟨regs', e, fun i q => ?_⟩
  apply Option.ext
  intro w
  rw [get_refines hc (regs' i) (h i).ord q w, (h i).graph q w]

/-! ### The boxed `Int` compare: a total order exactly on windows of diameter < 2³¹ -/

/-- keys inside a window of diameter < 2³¹ -/
def Window (lo : Int) := { x : Int // lo ≤ x ∧ x < lo + 2147483648 }

instance (lo : Int) : DecidableEq (Window lo) := fun a b =>
  if h : a.1 = b.1 then isTrue (Subtype.ext h) else isFalse (fun e => h (by rw [e]))

instance (lo : Int) : LE (Window lo) := ⟨fun a b => a.1 ≤ b.1⟩

instance (lo : Int) : LT (Window lo) := ⟨fun a b => a.1 < b.1⟩

instance (lo : Int) : DecidableLT (Window lo) := fun a b => inferInstanceAs (Decidable (a.1 < b.1))

instance (lo : Int) : Std.IsLinearOrder (Window lo) where
  le_refl a := Int.le_refl a.1
  le_trans a b c h1 h2 := Int.le_trans h1 h2
  le_antisymm a b h1 h2 := Subtype.ext (Int.le_antisymm h1 h2)
  le_total a b := Int.le_total a.1 b.1

instance (lo : Int) : Std.LawfulOrderLT (Window lo) where
  lt_iff a b := by show a.1 < b.1 ↔ a.1 ≤ b.1 ∧ ¬ b.1 ≤ a.1; omega

/-- `Int.compare` of std/boxed.sam, `this.value - other.value` in 32 bits, is a lawful total order on
every key set of diameter < 2³¹ … -/
theorem boxedCompare_lawful (lo : Int) :
    Lawful (fun (a b : Window lo) => boxedCompare a.1 b.1) := by
  refine ⟨?_, ?_, ?_⟩ <;> intro a b <;> obtain ⟨a, ha⟩ := a <;> obtain ⟨b, hb⟩ := b
  · show wrap32 (a - b) < 0 ↔ a < b
    simp only [wrap32]; omega
  · simp only [boxedCompare, wrap32]
    constructor
    · intro h; apply Subtype.ext; simp only; omega
    · intro h; have : a = b := congrArg Subtype.val h; omega
  · show wrap32 (a - b) > 0 ↔ b < a
    simp only [wrap32]; omega

/-- … and not beyond: with diameter 2³¹ the compare reports the larger key as smaller. -/
theorem boxedCompare_overflow_counterexample :
    ∃ a b : Int, b < a ∧ a - b = 2147483648 ∧ boxedCompare a b < 0 :=
  ⟨2147483647, -1, by decide, by decide, by decide⟩

/-! ### Every lawful `compare` method qualifies

The theorems are stated for a key type with a linear order `<` that `cmp` realises (`Lawful`).
That is no restriction: a compare that is zero exactly on equal keys, antisymmetric and transitive
*defines* such an order (no embedding into the integers is needed). -/

/-- the laws of a `compare : K → K → Int` method, stated on `cmp` alone -/
structure CmpLaws {K : Type} (cmp : K → K → Int) : Prop where
  eq : ∀ a b, cmp a b = 0 ↔ a = b
  antisymm : ∀ a b, cmp a b > 0 ↔ cmp b a < 0
  trans : ∀ a b c, cmp a b < 0 → cmp b c < 0 → cmp a c < 0

/-- the order a compare defines -/
def leOfCmp {K : Type} (cmp : K → K → Int) : LE K := ⟨fun a b => cmp a b ≤ 0⟩

def ltOfCmp {K : Type} (cmp : K → K → Int) : LT K := ⟨fun a b => cmp a b < 0⟩

theorem CmpLaws.linear {K : Type} {cmp : K → K → Int} (h : CmpLaws cmp) :
    @Std.IsLinearOrder K (leOfCmp cmp) := by
  letI := leOfCmp cmp
  have refl : ∀ a : K, cmp a a = 0 := fun a => (h.eq a a).2 rfl
  refine @Std.IsLinearOrder.mk K _ (@Std.IsPartialOrder.mk K _ (@Std.IsPreorder.mk K _ ?_ ?_) ?_) ?_
  · intro a; show cmp a a ≤ 0; rw [refl a]; exact Int.le_refl 0
  · intro a b c h1 h2
    show cmp a c ≤ 0
    have h1' : cmp a b ≤ 0 := h1
    have h2' : cmp b c ≤ 0 := h2
    by_cases e1 : cmp a b = 0
    · have := (h.eq a b).1 e1; subst this; exact h2'
    · by_cases e2 : cmp b c = 0
      · have := (h.eq b c).1 e2; subst this; exact h1'
      · have := h.trans a b c (by omega) (by omega); omega
  · intro a b h1 h2
    have h1' : cmp a b ≤ 0 := h1
    have h2' : cmp b a ≤ 0 := h2
    apply (h.eq a b).1
    have := h.antisymm b a
    omega
  · intro a b
    show cmp a b ≤ 0 ∨ cmp b a ≤ 0
    have := h.antisymm a b
    omega

theorem CmpLaws.lawfulLT {K : Type} {cmp : K → K → Int} (h : CmpLaws cmp) :
    @Std.LawfulOrderLT K (ltOfCmp cmp) (leOfCmp cmp) := by
  letI := leOfCmp cmp; letI := ltOfCmp cmp
  refine ⟨fun a b => ?_⟩
  show cmp a b < 0 ↔ cmp a b ≤ 0 ∧ ¬ cmp b a ≤ 0
  have h1 := h.antisymm b a
  have h2 := h.antisymm a b
  have h3 := h.eq a b
  have h4 := h.eq b a
  constructor
  · intro hlt; refine ⟨by omega, ?_⟩; omega
  · rintro ⟨_, h6⟩; omega

/-- **Any lawful compare is `Lawful` for the order it defines**, so every theorem of this file
applies to every key type whose `compare` satisfies `CmpLaws` (instantiate the order instances with
`leOfCmp cmp`, `ltOfCmp cmp`, `CmpLaws.linear`, `CmpLaws.lawfulLT`; for sets hand the three fields on to
`StdSet.Lawful`, as `set_boxedCompare_lawful` does). -/
theorem Lawful.ofCmp {K : Type} {cmp : K → K → Int} (h : CmpLaws cmp) :
    @Lawful K (ltOfCmp cmp) cmp := by
  letI := ltOfCmp cmp
  refine ⟨fun a b => Iff.rfl, h.eq, fun a b => ?_⟩
  show cmp a b > 0 ↔ cmp b a < 0
  exact h.antisymm a b

/-- example of the instantiation: `insert` for an arbitrary lawful compare, with the ordering of
the enumeration expressed through `cmp` itself. -/
theorem insert_refines_cmp {K V : Type} [DecidableEq K] [DecidableEq V] {cmp : K → K → Int}
    (h : CmpLaws cmp) (t : Tree K V) (k : K) (v : V) (hb : Bal t)
    (ho : (abs t).Pairwise (fun a b => cmp a.1 b.1 < 0)) :
    ∃ t', insert cmp t k v = some t' ∧ Bal t' ∧ (abs t').Pairwise (fun a b => cmp a.1 b.1 < 0) ∧
      ∀ p, p ∈ abs t' ↔ (p = (k, v) ∨ (p ∈ abs t ∧ p.1 ≠ k)) := by
  letI := leOfCmp cmp; letI := ltOfCmp cmp
  letI := h.linear; letI := h.lawfulLT
  letI : DecidableLT K := fun a b => show Decidable (cmp a b < 0) from inferInstance
  obtain ⟨t', e, i, m⟩ := insert_refines (Lawful.ofCmp h) t k v ⟨hb, ho⟩
  exact ⟨t', e, i.1, i.2, m⟩

/-- the whole-history theorem for an arbitrary lawful compare: from all-empty registers, every
history of map operations never panics and every lookup afterwards equals the lookup in the
specification run, where the specification's `split` uses the order `cmp · · < 0`. -/
theorem ops_refine_cmp {K V : Type} [DecidableEq K] [DecidableEq V] {cmp : K → K → Int}
    (h : CmpLaws cmp) (ops : List (MOp K V)) :
    letI := ltOfCmp cmp
    letI : DecidableLT K := fun a b => show Decidable (cmp a b < 0) from inferInstance
    ∃ regs', runOps cmp (fun _ => (Tree.empty : Tree K V)) ops = some regs' ∧
      ∀ i q, get cmp (regs' i) q = specOps (fun _ _ => none) ops i q := by
  letI := leOfCmp cmp; letI := ltOfCmp cmp
  letI := h.linear; letI := h.lawfulLT
  letI : DecidableLT K := fun a b => show Decidable (cmp a b < 0) from inferInstance
  exact ops_refine_get (Lawful.ofCmp h) ops

/-! ### Non-vacuity: the hypotheses of the theorems above are satisfiable -/

/-- a lawful compare exists (window `[-2³⁰, 2³⁰)`), the empty tree satisfies `Inv`, and a concrete
history from `empty` yields a non-trivial tree with a rotation (height 3, 4 keys). -/
example : Lawful (fun (a b : Window (-1073741824)) => boxedCompare a.1 b.1) :=
  boxedCompare_lawful _

example : Inv (Tree.empty : Tree Int Int) := inv_empty

example : runIns boxedCompare (.empty : Tree Int Int) [(1, 10), (2, 20), (3, 30), (4, 40)] =
    some (.node 3 2 20 (.leaf 1 10) (.node 2 4 40 (.leaf 3 30) .empty)) := by decide

example : Bal (.node 3 2 20 (.leaf 1 10) (.node 2 4 40 (.leaf 3 30) .empty) : Tree Int Int) := by
  simp [Bal]

example : balanced (.node 3 2 0 (.leaf 1 0) (.node 2 3 0 .empty (.leaf 4 0))) 5 0 (.empty : Tree Int Int)
    = some (.node 3 3 0 (.node 2 2 0 (.leaf 1 0) .empty) (.node 2 5 0 (.leaf 4 0) .empty)) := by decide

end SamVerif.StdMap

/-! ## Finite sets

`max`, `exists`, `remove`, `diff` are the statements that C18-F1, F2, F4, F5 falsified.  The property
theorems for `min`, `max`, `insert`, `remove`, `concat`, `split`, `filter`, `partition`, `intersection`,
`diff` and the histories (`set_ops_refine`) stand in `Lemmas/StdSet.lean`, where lemmas rest on them. -/

namespace SamVerif.StdSet

open SamVerif.StdMap (boxedCompare)

variable {E : Type} [DecidableEq E] [LE E] [LT E] [Std.IsLinearOrder E] [Std.LawfulOrderLT E] [DecidableLT E]

theorem set_size_refines (t : STree E) : size t = ((abs t).length : Int) := by
  induction t with
  | empty => rfl
  | leaf v => rfl
  | node h v l r ihl ihr => simp [size, abs, ihl, ihr]; omega

theorem set_elements_refines (t : STree E) : elements t = abs t := by simp [elements, elementsHelper_eq]

theorem set_fold_refines {A : Type} (f : A → E → A) (t : STree E) (a : A) :
    fold f t a = (abs t).foldl f a := by
  induction t generalizing a with
  | empty => rfl
  | leaf v => rfl
  | node h v l r ihl ihr => simp [fold, abs, ihl, ihr]

theorem set_forAll_refines (f : E → Bool) (t : STree E) : forAll f t = (abs t).all f := by
  induction t with
  | empty => rfl
  | leaf v => simp [forAll, abs]
  | node h v l r ihl ihr =>
    simp [forAll, abs, ihl, ihr, List.all_append]
    cases f v <;> simp [Bool.and_comm]

theorem set_exists_refines (f : E → Bool) (t : STree E) : «exists» f t = (abs t).any f := by
  induction t with
  | empty => simp [«exists», abs]
  | leaf v => simp [«exists», abs]
  | node h v l r ihl ihr =>
    simp [«exists», abs, ihl, ihr, List.any_append]
    cases f v <;> simp [Bool.or_comm]

/-- `contains` is membership. -/
theorem set_contains_refines {cmp : E → E → Int} (hc : Lawful cmp) (t : STree E)
    (hi : Inv t) (x : E) : contains cmp t x = true ↔ x ∈ abs t := contains_spec hc t hi.2 x

theorem set_iter_refines {σ : Type} (f : E → σ → σ) (t : STree E) (s : σ) :
    iter f t s = (abs t).foldl (fun s v => f v s) s := by
  induction t generalizing s with
  | empty => rfl
  | leaf v => rfl
  | node h v l r ihl ihr => simp [iter, abs, ihl, ihr]

theorem set_compare_refines (cmp : E → E → Int) (f : E → E → Int) (a b : STree E) :
    compare cmp f a b = lexCmp cmp f (abs a) (abs b) := by
  simp [compare, compareHelper_refines, Enum.toList_cons, Enum.toList]

theorem equal_refines (cmp : E → E → Int) (f : E → E → Bool) (a b : STree E) :
    equal cmp f a b = eqList cmp f (abs a) (abs b) := by
  simp [equal, equalHelper_refines, Enum.toList_cons, Enum.toList]

theorem set_equal_refines (cmp : E → E → Int) (f : E → E → Bool) (a b : STree E) :
    equal cmp f a b = eqList cmp f (abs a) (abs b) := equal_refines cmp f a b

theorem eqList_iff {cmp : E → E → Int} (hc : Lawful cmp) (f : E → E → Bool)
    (hf : ∀ x, f x x = true) (xs ys : List E) : eqList cmp f xs ys = true ↔ xs = ys := by
  induction xs generalizing ys with
  | nil => cases ys <;> simp [eqList]
  | cons x xs ih =>
    cases ys with
    | nil => simp [eqList]
    | cons y ys =>
      simp only [eqList, Bool.and_eq_true, decide_eq_true_eq, ih, List.cons.injEq, hc.eq x y]
      constructor
      · rintro ⟨⟨h1, _⟩, h3⟩; exact ⟨h1, h3⟩
      · rintro ⟨h1, h3⟩; subst h1; exact ⟨⟨rfl, hf x⟩, h3⟩

theorem set_equal_iff {cmp : E → E → Int} (hc : Lawful cmp) (f : E → E → Bool)
    (hf : ∀ x, f x x = true) (a b : STree E) : equal cmp f a b = true ↔ abs a = abs b := by
  rw [equal_refines]; exact eqList_iff hc f hf _ _

/-! ### The balance predicate's boundary (`lh > rh + 2`) -/

/-- within the tolerated imbalance (≤ 2) `balanced` does not rotate at all -/
theorem set_balanced_no_rotation (l r : STree E) (v : E) (h1 : height l ≤ height r + 2)
    (h2 : height r ≤ height l + 2) : balanced l v r = some (unsafeNode l v r) := by
  have c1 : ¬ height l > height r + 2 := by omega
  have c2 : ¬ height r > height l + 2 := by omega
  simp [balanced, c1, c2]

/-! … and it is only ever asked to repair an imbalance of exactly 3 (every caller passes subtrees of
an invariant-satisfying tree one of which changed its height by at most one), where it cannot
panic: this is `balanced_spec`.  Rotating already at imbalance 2 is wrong: -/

/-- `balanced` with the test `lh ≥ rh + 2` instead of `lh > rh + 2` -/
def balancedGe (l : STree E) (v : E) (r : STree E) : Option (STree E) :=
  let lh := height l
  let rh := height r
  if lh ≥ rh + 2 then
    match l with
    | .node _ lv ll lr =>
      if height ll ≥ height lr then some (create ll lv (unsafeNode lr v r))
      else
        match lr with
        | .node _ lrv lrl lrr => some (create (unsafeNode ll lv lrl) lrv (unsafeNode lrr v r))
        | _ => none
    | _ => none
  else balanced l v r

/-- the variant with `lh ≥ rh + 2` reaches `Process.panic("Bad tree")` on a balanced two-element
left subtree that leans right (witness of seeded fault C18f; such a subtree arises after a removal) -/
theorem set_balanced_boundary_counterexample :
    ∃ l : STree Int, Bal l ∧ height l = 2 ∧ balancedGe l 9 .empty = none ∧
      balanced l 9 .empty = some (.node 3 9 l .empty) :=
  ⟨.node 2 2 .empty (.leaf 3), by simp [Bal]; omega, rfl, by decide, by decide⟩

/-- `join` of any two balanced sets: no panic, balanced, enumeration `l ++ v :: r`. -/
theorem set_join_refines (l r : STree E) (v : E) (hl : Bal l) (hr : Bal r) :
    ∃ t, join l v r = some t ∧ Bal t ∧ abs t = abs l ++ v :: abs r := by
  obtain ⟨t, e, b, a, _⟩ := join_spec l r v hl hr
  exact ⟨t, e, b, a⟩

/-- **`union`**, total (fuel above the sum of the sizes always suffices): no panic, invariant kept, and
the result is the set union. -/
theorem set_union_refines {cmp : E → E → Int} (hc : Lawful cmp) (fuel : Nat)
    (a b : STree E) (ha : Inv a) (hb : Inv b) (hf : (abs a).length + (abs b).length < fuel) :
    ∃ t, union cmp fuel a b = some (some t) ∧ Inv t ∧ ∀ p, p ∈ abs t ↔ (p ∈ abs a ∨ p ∈ abs b) :=
  union_spec hc fuel a b ha hb hf

/-! The `…F` statements have no fuel hypothesis: `unionF` and `mapF` compute their own fuel,
`set_subsetF_refines` puts the fuel expression in. -/

theorem set_unionF_refines {cmp : E → E → Int} (hc : Lawful cmp) (a b : STree E) (ha : Inv a) (hb : Inv b) :
    ∃ t, unionF cmp a b = some t ∧ Inv t ∧ ∀ p, p ∈ abs t ↔ (p ∈ abs a ∨ p ∈ abs b) := by
  obtain ⟨t, e, i, m⟩ := union_spec hc _ a b ha hb (Nat.lt_succ_self _)
  exact ⟨t, by simp [unionF, e], i, m⟩

/-- the fuelled `union` agrees with the fuel-free one for every sufficient fuel -/
theorem set_union_fuel_irrelevant {cmp : E → E → Int} (hc : Lawful cmp) (fuel : Nat) (a b : STree E)
    (ha : Inv a) (hb : Inv b) (hf : (abs a).length + (abs b).length < fuel) :
    union cmp fuel a b = some (unionF cmp a b) := by
  obtain ⟨t, e, _⟩ := union_total hc _ a b ha hb (Nat.lt_succ_self _)
  rw [unionF, e _ (Nat.le_refl _), e fuel hf]

/-- **`subset`, total**: inclusion of the element sets (needs only the shape facts and the order,
because `subset` builds unbalanced trees with `unsafeNode` internally). -/
theorem set_subset_refines {cmp : E → E → Int} (hc : Lawful cmp) (fuel : Nat)
    (a b : STree E) (ha : Inv a) (hb : Inv b) (hf : (abs a).length + (abs b).length < fuel) :
    ∃ r, subset cmp fuel a b = some r ∧ (r = true ↔ ∀ x ∈ abs a, x ∈ abs b) :=
  subset_spec hc fuel a b (shape_of_bal a ha.1) ha.2 (shape_of_bal b hb.1) hb.2 hf

/-- **`subset`, fuel-free**: with the fuel computed from the operands the answer is inclusion -/
theorem set_subsetF_refines {cmp : E → E → Int} (hc : Lawful cmp) (a b : STree E) (ha : Inv a) (hb : Inv b) :
    ∃ r, subset cmp ((abs a).length + (abs b).length + 1) a b = some r ∧ (r = true ↔ ∀ x ∈ abs a, x ∈ abs b) :=
  set_subset_refines hc _ a b ha hb (Nat.lt_succ_self _)

/-- **`Set.map`, total**: the image set (through `tryJoin`, i.e. `join` when the mapped pivot still
separates the mapped subtrees, `union ∘ insert` otherwise). -/
theorem set_map_refines {cmp : E → E → Int} (hc : Lawful cmp)
    (refEq : E → E → Bool) (hre : ∀ a b, refEq a b = true → a = b) (f : E → E) (fuel : Nat)
    (t : STree E) (hi : Inv t) (hf : (abs t).length < fuel) :
    ∃ t', map cmp refEq f fuel t = some (some t') ∧ Inv t' ∧ ∀ y, y ∈ abs t' ↔ ∃ x ∈ abs t, f x = y := by
  obtain ⟨t', e, i, m, _⟩ := map_spec hc refEq hre f fuel t hi hf
  exact ⟨t', e, i, m⟩

theorem set_mapF_refines {cmp : E → E → Int} (hc : Lawful cmp) (f : E → E) (t : STree E) (hi : Inv t) :
    ∃ t', mapF cmp f t = some t' ∧ Inv t' ∧ ∀ y, y ∈ abs t' ↔ ∃ x ∈ abs t, f x = y := by
  obtain ⟨t', e, i, m, _⟩ := map_spec hc (fun _ _ => false) (by simp) f _ t hi (Nat.lt_succ_self _)
  exact ⟨t', by simp [mapF, e], i, m⟩

theorem disjoint_refines {cmp : E → E → Int} (hc : Lawful cmp) (a b : STree E)
    (ha : Inv a) (hb : Inv b) :
    ∃ r, disjoint cmp a b = some r ∧ (r = true ↔ ∀ x, ¬ (x ∈ abs a ∧ x ∈ abs b)) := by
  obtain ⟨t, e, i, m⟩ := set_intersection_refines hc a b ha hb
  refine ⟨isEmpty t, by simp [disjoint, e], ?_⟩
  rw [isEmpty_iff]
  constructor
  · intro h x hx; have := (m x).2 hx; rw [h] at this; simp at this
  · intro h
    cases hx : abs t with
    | nil => rfl
    | cons y ys => exact absurd ((m y).1 (by rw [hx]; simp)) (h y)

theorem set_disjoint_refines {cmp : E → E → Int} (hc : Lawful cmp) (a b : STree E)
    (ha : Inv a) (hb : Inv b) :
    ∃ r, disjoint cmp a b = some r ∧ (r = true ↔ ∀ x, ¬ (x ∈ abs a ∧ x ∈ abs b)) :=
  disjoint_refines hc a b ha hb

/-- conversion from lists -/
theorem set_fromList_refines {cmp : E → E → Int} (hc : Lawful cmp) (xs : List E) :
    ∃ t, fromList cmp xs .empty = some t ∧ Inv t ∧ ∀ p, p ∈ abs t ↔ p ∈ xs := by
  obtain ⟨t, e, i, m⟩ := fromList_spec hc xs .empty inv_empty
  exact ⟨t, e, i, fun p => by rw [m]; simp [abs]⟩

/-- **conversions to and from lists**: `fromList (elements s)` enumerates exactly `s` again, and
`elements (fromList xs)` is the strictly ascending duplicate-free list with the members of `xs`. -/
theorem set_fromList_elements {cmp : E → E → Int} (hc : Lawful cmp) (t : STree E)
    (hi : Inv t) :
    ∃ t', fromList cmp (elements t) .empty = some t' ∧ Inv t' ∧ elements t' = elements t := by
  obtain ⟨t', e, i, m⟩ := set_fromList_refines hc (elements t)
  refine ⟨t', e, i, ?_⟩
  rw [set_elements_refines, set_elements_refines]
  apply sorted_ext _ _ i.2 hi.2
  intro x; rw [m, set_elements_refines]

theorem set_elements_fromList {cmp : E → E → Int} (hc : Lawful cmp) (xs : List E) :
    ∃ t, fromList cmp xs .empty = some t ∧ (elements t).Pairwise (fun a b => a < b) ∧
      ∀ p, p ∈ elements t ↔ p ∈ xs := by
  obtain ⟨t, e, i, m⟩ := set_fromList_refines hc xs
  exact ⟨t, e, by rw [set_elements_refines]; exact i.2, fun p => by rw [set_elements_refines]; exact m p⟩

/-- the boxed compare is a lawful order for sets on every window of diameter < 2³¹ -/
theorem set_boxedCompare_lawful (lo : Int) :
    Lawful (fun (a b : SamVerif.StdMap.Window lo) => boxedCompare a.1 b.1) := by
  have h := SamVerif.StdMap.boxedCompare_lawful lo
  exact ⟨h.lt, h.eq, h.gt⟩

example : SRel (STree.empty : STree Int) (fun _ => False) := srel_empty

example : fromList boxedCompare [3, 1, 2, 5, 4] (.empty : STree Int) =
    some (.node 3 3 (.node 2 2 (.leaf 1) .empty) (.node 2 5 (.leaf 4) .empty)) := by decide

end SamVerif.StdSet

/-! ## `Option`, `Result`, tuples, boxed `Bool` (std/option.sam, result.sam, tuples.sam, boxed.sam) -/

namespace SamVerif.StdAux
variable {T R A B E : Type}

namespace SOption
theorem map_refines (f : T → R) (o : SOption T) : (map f o).toOption = o.toOption.map f := by
  cases o <;> rfl
theorem filter_refines (f : T → Bool) (o : SOption T) : (filter f o).toOption = o.toOption.filter f := by
  cases o with
  | none => rfl
  | some v => by_cases c : f v = true <;> simp [filter, toOption, Option.filter, c]
theorem bind_refines (f : T → SOption R) (o : SOption T) :
    (bind f o).toOption = o.toOption.bind (fun x => (f x).toOption) := by cases o <;> rfl
theorem valueMap_refines (d : R) (f : T → R) (o : SOption T) :
    valueMap d f o = (o.toOption.map f).getD d := by cases o <;> rfl
theorem isSome_refines (o : SOption T) : isSome o = o.toOption.isSome := by cases o <;> rfl
theorem isNone_refines (o : SOption T) : isNone o = o.toOption.isNone := by cases o <;> rfl
theorem both_refines (a : SOption A) (b : SOption B) :
    (both a b).toOption = a.toOption.bind (fun x => b.toOption.map (fun y => ⟨x, y⟩)) := by
  cases a <;> cases b <;> rfl
theorem iter_refines {σ : Type} (f : T → σ → σ) (o : SOption T) (s : σ) :
    iter f o s = (o.toOption.map (fun v => f v s)).getD s := by cases o <;> rfl
/-- `unwrap` / `expect` panic exactly on `None` -/
theorem unwrap_refines (o : SOption T) : unwrap o = o.toOption := by cases o <;> rfl
theorem tryUnwrap_refines (o : SOption T) : (tryUnwrap o).toOption = o.toOption := rfl
end SOption

namespace SResult
theorem map_refines (f : T → R) (r : SResult T E) : (map f r).toExcept = r.toExcept.map f := by
  cases r <;> rfl
theorem mapError_refines (f : E → R) (r : SResult T E) :
    (mapError f r).toExcept = r.toExcept.mapError f := by cases r <;> rfl
theorem isOk_refines (r : SResult T E) : isOk r = r.toExcept.isOk := by cases r <;> rfl
theorem isError_refines (r : SResult T E) : isError r = !r.toExcept.isOk := by cases r <;> rfl
theorem ok_refines (r : SResult T E) : (ok? r).toOption = r.toExcept.toOption := by cases r <;> rfl
theorem tryUnwrap_refines (r : SResult T E) : (tryUnwrap r).toOption = r.toExcept.toOption := by
  cases r <;> rfl
theorem ignore_refines (r : SResult T E) : (ignore r).toExcept = r.toExcept.map (fun _ => ()) := by
  cases r <;> rfl
theorem fromOption_refines (o : SOption T) (e : E) :
    (fromOption o e).toExcept = (match o.toOption with
      | Option.some v => Except.ok v
      | Option.none => Except.error e) := by cases o <;> rfl
theorem unwrap_refines (r : SResult T E) : unwrap r = r.toExcept.toOption := by cases r <;> rfl
theorem iter_refines {σ : Type} (f : T → σ → σ) (r : SResult T E) (s : σ) :
    iter f r s = (r.toExcept.toOption.map (fun v => f v s)).getD s := by cases r <;> rfl
theorem iterError_refines {σ : Type} (f : E → σ → σ) (r : SResult T E) (s : σ) :
    iterError f r s = (match r.toExcept with
      | .ok _ => s
      | .error e => f e s) := by cases r <;> rfl
end SResult

/-- tuples: `first` / `second` are the projections -/
theorem pair_first_second (p : SPair A B) : (p.first, p.second) = (p.e0, p.e1) := rfl
theorem triple_first_second {C : Type} (p : STriple A B C) : (p.first, p.second) = (p.e0, p.e1) := rfl

/-- the boxed `Bool` compare is a lawful total order (`false < true`), with no range restriction -/
theorem boolCompare_laws : SamVerif.StdMap.CmpLaws boolCompare := by
  refine ⟨?_, ?_, ?_⟩
  · intro a b; cases a <;> cases b <;> simp [boolCompare, boolIntValue]
  · intro a b; cases a <;> cases b <;> simp [boolCompare, boolIntValue]
  · intro a b c; cases a <;> cases b <;> cases c <;> simp [boolCompare, boolIntValue]

end SamVerif.StdAux
