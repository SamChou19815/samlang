import SamVerif.Model.TempCounter
/-! # C12 — the shared atomic temp counter: names are pairwise distinct in every interleaving and
any two interleavings differ by an injective renaming (which `mir_rename_invariant_full` shows to be
behaviour-preserving).  Then the step machine of the counter (the atomic read-modify-write hands out
distinct numbers in every interleaving, a counter split into `load` and `store` does not), and the
phases of the pipeline (with a sync after every parallel round no number is issued twice, without the
last sync it is). -/
namespace SamVerif.TempCounter

theorem nthOcc_spec (w : Nat) : ∀ (l : List Nat) (c i : Nat), nthOcc w c l = some i →
    l[i]? = some w ∧ (l.take i).count w = c := by
  intro l c i h
  -- the branches of `nthOcc`: empty schedule; head `w` and `c = 0`; head `w` and `c + 1`; head `x ≠ w`
  fun_induction nthOcc w c l generalizing i with
  | case1 => cases h
  | case2 xs => cases h; exact ⟨rfl, rfl⟩
  | case3 xs c ih =>
    obtain ⟨j, hj, rfl⟩ := Option.map_eq_some_iff.mp h
    exact ⟨(ih j hj).1, by rw [List.take_succ_cons, List.count_cons_self, (ih j hj).2]⟩
  | case4 c x xs hx ih =>
    obtain ⟨j, hj, rfl⟩ := Option.map_eq_some_iff.mp h
    exact ⟨(ih j hj).1, by rw [List.take_succ_cons, List.count_cons_of_ne hx, (ih j hj).2]⟩

theorem nthOcc_complete : ∀ (l : List Nat) (i : Nat) (w : Nat), l[i]? = some w →
    nthOcc w ((l.take i).count w) l = some i := by
  intro l
  induction l with
  | nil => intro i w h; simp at h
  | cons x xs ih =>
    intro i w h
    cases i with
    | zero =>
      obtain rfl : x = w := Option.some.inj h
      simp [nthOcc]
    | succ i =>
      simp only [List.getElem?_cons_succ] at h
      have := ih i w h
      simp only [List.take_succ_cons, nthOcc]
      by_cases hx : x = w
      · subst hx
        simp [this]
      · simp [hx, this]

theorem nthOcc_isSome_iff (w : Nat) : ∀ (l : List Nat) (c : Nat),
    (nthOcc w c l).isSome = true ↔ c < l.count w := by
  intro l c
  fun_induction nthOcc w c l with
  | case1 => simp
  | case2 xs => simp
  | case3 xs c ih => simp [ih]
  | case4 c x xs hx ih => simp [hx, ih]

theorem nthOcc_eq_some_iff (w c : Nat) (l : List Nat) (j : Nat) :
    nthOcc w c l = some j ↔ reqAt l j = some (w, c) := by
  constructor
  · intro h
    obtain ⟨h1, h2⟩ := nthOcc_spec w l c j h
    simp only [reqAt, h1, h2]
  · intro h
    simp only [reqAt] at h
    cases hj : l[j]? with
    | none => simp [hj] at h
    | some w' =>
      simp only [hj, Option.some.injEq, Prod.mk.injEq] at h
      obtain ⟨rfl, rfl⟩ := h
      exact nthOcc_complete l j w' hj

theorem tempName_eq_some_iff (start : Nat) (sched : List Nat) (w c n : Nat) :
    tempName start sched w c = some n ↔ start ≤ n ∧ reqAt sched (n - start) = some (w, c) := by
  simp only [tempName, Option.map_eq_some_iff, nthOcc_eq_some_iff]
  constructor
  · rintro ⟨j, hj, rfl⟩; exact ⟨Nat.le_add_right _ _, by rwa [Nat.add_sub_cancel_left]⟩
  · rintro ⟨h1, h2⟩; exact ⟨_, h2, Nat.add_sub_cancel' h1⟩

theorem reqAt_isSome (sched : List Nat) (j : Nat) : (reqAt sched j).isSome ↔ j < sched.length := by
  simp only [reqAt]
  cases h : sched[j]? with
  | none => simpa using List.getElem?_eq_none_iff.mp h
  | some w => simpa using (List.getElem?_eq_some_iff.mp h).1

/-- In every interleaving, two different requests (different worker or
different request number) never receive the same name. -/
theorem temp_names_distinct (start : Nat) (sched : List Nat) (w c w' c' n : Nat)
    (h : tempName start sched w c = some n) (h' : tempName start sched w' c' = some n) :
    w = w' ∧ c = c' := by
  have e := ((tempName_eq_some_iff ..).mp h).2.symm.trans ((tempName_eq_some_iff ..).mp h').2
  exact Prod.mk.inj (Option.some.inj e)

example : tempName 100 [0, 1, 0, 2, 1] 0 1 = some 102 ∧ tempName 100 [0, 1, 0, 2, 1] 1 1 = some 104 := by decide

/-- The names handed out are exactly the block `[start, start + number of requests)`. -/
theorem temp_names_in_block (start : Nat) (sched : List Nat) (w c n : Nat)
    (h : tempName start sched w c = some n) : start ≤ n ∧ n < start + sched.length := by
  obtain ⟨h1, h2⟩ := (tempName_eq_some_iff ..).mp h
  have := (reqAt_isSome sched (n - start)).mp (h2 ▸ rfl)
  omega

/-- Conversely, every number of the block is the name of the request served at that position. -/
theorem temp_names_onto_block (start : Nat) (sched : List Nat) (n : Nat)
    (h1 : start ≤ n) (h2 : n < start + sched.length) :
    ∃ w c, reqAt sched (n - start) = some (w, c) ∧ tempName start sched w c = some n := by
  obtain ⟨⟨w, c⟩, hreq⟩ := Option.isSome_iff_exists.mp ((reqAt_isSome sched (n - start)).mpr (by omega))
  exact ⟨w, c, hreq, (tempName_eq_some_iff ..).mpr ⟨h1, hreq⟩⟩

/-- A request is served iff the worker makes that many requests — independent of the interleaving. -/
theorem temp_names_defined_perm (start : Nat) (sched sched' : List Nat) (hp : sched'.Perm sched)
    (w c : Nat) : (tempName start sched' w c).isSome = (tempName start sched w c).isSome := by
  simp only [tempName, Option.isSome_map]
  rw [Bool.eq_iff_iff, nthOcc_isSome_iff, nthOcc_isSome_iff, hp.count_eq w]

/-- The names of any interleaving `sched'` are the image of the names
of `sched` (e.g. the sequential run) under `renameTo`, request by request. -/
theorem temp_counter_renaming (start : Nat) (sched sched' : List Nat) (hp : sched'.Perm sched)
    (w c n : Nat) (h : tempName start sched w c = some n) :
    tempName start sched' w c = some (renameTo start sched sched' n) := by
  obtain ⟨h1, hreq⟩ := (tempName_eq_some_iff ..).mp h
  have hdef := temp_names_defined_perm start sched sched' hp w c
  rw [h] at hdef
  obtain ⟨n', hn'⟩ := Option.isSome_iff_exists.mp hdef
  simp [renameTo, h1, hreq, hn']

theorem renameTo_inverse (start : Nat) (sched sched' : List Nat) (hp : sched'.Perm sched) (n : Nat) :
    renameTo start sched' sched (renameTo start sched sched' n) = n := by
  by_cases h1 : start ≤ n
  · cases hreq : reqAt sched (n - start) with
    | none =>
      -- outside the block of either schedule: both renamings leave `n` alone
      have hreq' : reqAt sched' (n - start) = none := by
        rw [← Option.not_isSome_iff_eq_none, reqAt_isSome] at hreq ⊢
        rwa [hp.length_eq]
      simp [renameTo, h1, hreq, hreq']
    | some wc =>
      obtain ⟨w, c⟩ := wc
      have hn := (tempName_eq_some_iff ..).mpr ⟨h1, hreq⟩
      obtain ⟨h1', hreq'⟩ :=
        (tempName_eq_some_iff ..).mp (temp_counter_renaming start sched sched' hp w c n hn)
      rw [renameTo, if_pos h1', hreq']
      simp only [hn]
  · simp [renameTo, h1]

/-- That renaming is injective on all names (a permutation of
the handed-out block, the identity elsewhere) — so it is a renaming in the sense of
`mir_rename_invariant_full`. -/
theorem temp_counter_renaming_injective (start : Nat) (sched sched' : List Nat) (hp : sched'.Perm sched)
    (a b : Nat) (h : renameTo start sched sched' a = renameTo start sched sched' b) : a = b := by
  rw [← renameTo_inverse start sched sched' hp a, h, renameTo_inverse start sched sched' hp b]

/-- non-vacuity: two workers, sequential run `[0,0,1,1]` vs the interleaving `[1,0,1,0]`. -/
example : tempName 7 [0, 0, 1, 1] 1 0 = some 9 ∧ tempName 7 [1, 0, 1, 0] 1 0 = some 7 ∧
    renameTo 7 [0, 0, 1, 1] [1, 0, 1, 0] 9 = 7 ∧ renameTo 7 [0, 0, 1, 1] [1, 0, 1, 0] 3 = 3 := by decide

theorem foldl_rmw (sched : List Nat) (s : CState) :
    sched.foldl (fun st w => cstep st (.rmw w)) s =
      { s with ctr := s.ctr + sched.length,
               issued := s.issued ++ List.zip sched (List.range' s.ctr sched.length) } := by
  induction sched generalizing s with
  | nil => simp
  | cons w ws ih =>
    rw [List.foldl_cons, ih]
    simp only [cstep, List.length_cons, List.range'_succ, List.zip_cons_cons, List.append_assoc,
      List.cons_append, List.nil_append, Nat.add_assoc, Nat.add_comm 1]

/-- With the atomic read-modify-write, for EVERY interleaving `sched`
of the workers' requests: the j-th request served receives
`start + j` — so the numbers are exactly the block, pairwise distinct, and each worker's requests are
served in its program order; this is the position-based `tempName` model. -/
theorem atomic_counter_distinct (start : Nat) (sched : List Nat) :
    let s := crun start (sched.map .rmw)
    s.issued = List.zip sched (List.range' start sched.length) ∧
      (s.issued.map (·.2)).Nodup ∧ s.ctr = start + sched.length := by
  simp only [crun, List.foldl_map, foldl_rmw, List.nil_append, true_and, and_true]
  rw [List.map_snd_zip (by rw [List.length_range']; exact Nat.le_refl _)]
  exact List.nodup_range'

example : (crun 7 [.rmw 1, .rmw 0, .rmw 1]).issued = [(1, 7), (0, 8), (1, 9)] := by decide

/-- Class of seeded fault C12g: with `load` and `store` as two steps
there is an interleaving in which two workers receive the same number (and the counter ends too
low) — the full statement "numbers are pairwise distinct for every interleaving of worker steps" is
false for the split counter. -/
theorem split_counter_lost_update :
    ∃ steps : List CStep, ¬ ((crun 7 steps).issued.map (·.2)).Nodup ∧ (crun 7 steps).ctr < 7 + (crun 7 steps).issued.length :=
  ⟨[.load 0, .load 1, .store 0, .store 1], by decide, by decide⟩

/-- The split counter is only safe when every `load` is immediately
followed by the same worker's `store` (no interleaving inside the pair), where it behaves like `rmw`. -/
theorem split_counter_partial (s : CState) (w : Nat) (_h : regOf s.regs w = none) :
    let s' := cstep (cstep s (.load w)) (.store w)
    s'.ctr = (cstep s (.rmw w)).ctr ∧ s'.issued = (cstep s (.rmw w)).issued := by
  simp [cstep, regOf]

theorem issued_append (H : Nat) (ps qs : List Phase) :
    issued H (ps ++ qs) = issued H ps ++ issued (heapAfter H ps) qs := by
  induction ps generalizing H with
  | nil => rfl
  | cons p rest ih => cases p <;> simp only [List.cons_append, issued, heapAfter, ih]

theorem issued_flatten_of_allSynced (ps : List Phase) (H : Nat) (h : allSynced ps = true) :
    (issued H ps).flatten = List.range' H (total ps) ∧ heapAfter H ps = H + total ps := by
  induction ps generalizing H with
  | nil => exact ⟨rfl, rfl⟩
  | cons p rest ih =>
    -- a synced parallel round and a sequential phase act alike: `k` numbers from `H`, heap to `H + k`
    obtain ⟨k, hr, hi, hh, ht⟩ : ∃ k, allSynced rest = true ∧
        issued H (p :: rest) = List.range' H k :: issued (H + k) rest ∧
        heapAfter H (p :: rest) = heapAfter (H + k) rest ∧ total (p :: rest) = k + total rest := by
      cases p with
      | seq k => exact ⟨k, h, rfl, rfl, rfl⟩
      | par k s =>
        obtain ⟨rfl, hr⟩ := (Bool.and_eq_true _ _).mp h
        exact ⟨k, hr, rfl, rfl, rfl⟩
    rw [hi, hh, ht, List.flatten_cons, (ih _ hr).1, (ih _ hr).2, List.range'_append_1, Nat.add_assoc]
    exact ⟨rfl, rfl⟩

/-- When every parallel round is followed by `sync_temp_counter` — every
boundary, including the last one before LIR lowering — no number is issued twice, neither inside a
phase nor by two different phases, and the heap ends above every number issued. -/
theorem phases_disjoint (ps : List Phase) (H : Nat) (h : allSynced ps = true) :
    (issued H ps).flatten.Nodup ∧ ∀ n ∈ (issued H ps).flatten, n < heapAfter H ps := by
  obtain ⟨h1, h2⟩ := issued_flatten_of_allSynced ps H h
  rw [h1, h2]
  refine ⟨List.nodup_range', ?_⟩
  intro n hn
  have := List.mem_range'_1.mp hn
  omega

/-- the pipeline of `optimize_sources` + LIR lowering with the final sync in place -/
theorem pipeline_disjoint (rounds : List (Nat × Nat)) (last lir H : Nat) :
    (issued H (pipeline rounds last lir true)).flatten.Nodup := by
  apply (phases_disjoint _ H _).1
  unfold pipeline
  induction rounds with
  | nil => simp [allSynced]
  | cons r rs ih => simpa [allSynced] using ih

example : issued 100 (pipeline [(2, 1), (0, 3)] 4 6 true) =
    [[100, 101], [102], [], [103, 104, 105], [106, 107, 108, 109], [110, 111, 112, 113, 114, 115]] := by decide

/-- Class of seeded fault C12e: without the sync after the last
parallel round, LIR lowering starts again at the first number of that round — the same number is
issued by two phases (full statement "`issued` is duplicate-free for every sync discipline" is false). -/
theorem dropped_sync_counterexample :
    ∃ (rounds : List (Nat × Nat)) (last lir H : Nat),
      ¬ (issued H (pipeline rounds last lir false)).flatten.Nodup :=
  ⟨[], 2, 1, 7, by decide⟩

/-- The sync may only be dropped when nothing is issued afterwards — and LIR lowering does issue
names. -/
theorem dropped_sync_partial (rounds : List (Nat × Nat)) (last H : Nat) :
    (issued H (pipeline rounds last 0 false)).flatten.Nodup := by
  -- a last phase that issues nothing is the only one to see the heap length the sync would have set
  have e : (issued H (pipeline rounds last 0 false)).flatten =
      (issued H (pipeline rounds last 0 true)).flatten := by
    simp [pipeline, issued_append, issued]
  rw [e]
  exact pipeline_disjoint rounds last 0 H

end SamVerif.TempCounter
