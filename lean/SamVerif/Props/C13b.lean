import SamVerif.Lemmas.C13Paren
/-!
# C13 (part b) — parentheses leave no trace in the syntax tree

Reuses the expression-parser model of C08 (`Model/Fmt.lean`: `parseTop … parseBase` mirror
`parse_expression` … `parse_base_expression` of `source_parser.rs`; tied to the real parser by C08's
`fmt-expr` protocol) and its fuel-free relations (`Lemmas/Fmt.lean`).  `parse_base_expression`
returns the inner expression of `( e )` itself — `expr::E` has no parenthesis node — so wrapping
an expression in parentheses, at the top or in operand position, cannot change what the checker
sees.  This module depends on the *model and lemmas* of C08 only (not on `Props/C08.lean`); it is
audited separately (`Audit/C13b.lean`) and reported as "not checked" when that model is mid-edit.
-/
namespace SamVerif.Fmt

/-- **Operand position**: if `ts` is a complete expression with tree `e`, then `( ts )` followed by
*any* continuation `T` is read by `parse_base_expression` as the tree `e` itself, continuing at `T`
— exactly like a single atom token (`pbase_atom`).  So every enclosing parse is the parse of the
unparenthesised operand tree. -/
theorem paren_operand (ts : List Tok) (e : Expr) (f : Nat) (h : parseTop f ts = some (e, []))
    (T : List Tok) : PBase (f + 1) (paren ts ++ T) e T := by
  rw [paren_append]
  exact pbase_paren (ptop_append_rp h T)

/-- …at every precedence level: `( ts ) T` parses at level `k ≥ 6` to whatever the postfix loop
makes of the tree `e` and `T`. -/
theorem paren_operand_level (ts : List Tok) (e e' : Expr) (f n : Nat) (k : Nat) (hk : 6 ≤ k)
    (h : parseTop f ts = some (e, [])) (T r : List Tok) (hl : PLoop n 6 e T e' r) :
    PLevel (f + 1 + n + 1) k (paren ts ++ T) e' r :=
  (plevel6 hk (paren_operand ts e f h T) hl).mono (by omega)

/-- **Whole expression**: a complete token sequence wrapped in one more pair of parentheses parses
to the same tree (for every sufficiently large recursion budget). -/
theorem paren_insensitive' (ts : List Tok) (e : Expr) (f : Nat) (h : parseTop f ts = some (e, [])) :
    ∃ n, ∀ f', n ≤ f' → parseFuel f' (paren ts) = some e :=
  ⟨f + 16, fun f' hf' => by simp [parseFuel, paren_top h f' hf']⟩

/-- `n` pairs of parentheses around a token sequence -/
def parens : Nat → List Tok → List Tok
  | 0, ts => ts
  | n + 1, ts => paren (parens n ts)

/-- **Any number of redundant parentheses** around a complete expression parses to the same tree. -/
theorem parens_insensitive (n : Nat) (ts : List Tok) (e : Expr) (f : Nat)
    (h : parseFuel f ts = some e) : ∃ m, ∀ f', m ≤ f' → parseFuel f' (parens n ts) = some e := by
  induction n with
  | zero => exact ⟨f, fun f' hf' => by
      have := parseTop_mono (parseFuel_some h) hf'
      simp [parens, parseFuel, this]⟩
  | succ n ih =>
    obtain ⟨m, hm⟩ := ih
    exact paren_insensitive' (parens n ts) e m (parseFuel_some (hm m (Nat.le_refl m)))

example : parseE (parens 2 [.atom 1, .op .plus, .atom 2]) = parseE [.atom 1, .op .plus, .atom 2] := by
  decide
example : parseE ([.atom 0, .op .mul] ++ paren [.atom 1, .op .plus, .atom 2])
    = some (.binary .mul (.atom 0) (.binary .plus (.atom 1) (.atom 2))) := by decide

end SamVerif.Fmt
