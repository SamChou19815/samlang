import SamVerif.Lemmas.Heap
/-!
# C17 — The string-interning heap is injective, stable, and never reclaims a live string

The model is `Model/Heap.lean` (its invariant: `Lemmas/Heap.lean`); it is tied to
`crates/samlang-heap/src/lib.rs` by the `heapops` correspondence protocol
(`harness/src/bin/c17.rs` vs `Driver/C17.lean`).

After the clauses (a)–(e) on handles, slots and histories come three further sections: a sweep slice
touches only its window; `Ord for PStr` answers `Equal` exactly on equal handles and is
antisymmetric; and the count of sweeps in a history, which `Props/C17c.lean` uses.
-/
namespace SamVerif.Heap

/-- Every operation of a history only mentions handles that exist when it is issued. -/
def OpsOk : Heap → List Op → Prop
  | _, [] => True
  | h, op :: ops => OpOk h op ∧ OpsOk (step h op) ops

theorem run_cons (op : Op) (ops : List Op) (h : Heap) : run (op :: ops) h = run ops (step h op) :=
  rfl

/-- **Invariant for every reachable state** (unbounded histories). -/
theorem inv_run (ops : List Op) (h : Heap) (hi : Inv h) (hok : OpsOk h ops) : Inv (run ops h) := by
  induction ops generalizing h with
  | nil => exact hi
  | cons op ops ih =>
    rw [run_cons]
    exact ih (step h op) (inv_step hi op hok.1) hok.2

theorem inv_reachable (ops : List Op) (hok : OpsOk init ops) : Inv (run ops) :=
  inv_run ops init inv_init hok

theorem ref_interned (h : Heap) (hi : Inv h) {i : Nat} {s : Bytes} (hp : Valid h (.ref i))
    (hs : read h (.ref i) = some s) :
    inlineMax < s.length ∧ (lookup h.internStatic s = some i ∨ lookup h.internTemp s = some i) := by
  obtain ⟨sl, hsl, hl⟩ := (read_ref_iff h i s).mp hs
  rcases hl with rfl | ⟨m, rfl⟩
  · exact ⟨hp.2 s hsl, .inl (hi.permComplete i s hsl (hp.2 s hsl))⟩
  · exact ⟨hi.tempLong i s m hsl, .inr (hi.tempComplete i s m hsl)⟩

/-- **C17 (a) handles are equal exactly when their strings are equal** — for any two readable
handles issued by the API (`Valid`), in any state satisfying the invariant, i.e. any reachable one. -/
theorem handles_eq_iff_strings_eq (h : Heap) (hi : Inv h) (p q : Handle) (s t : Bytes)
    (hp : Valid h p) (hq : Valid h q) (hs : read h p = some s) (ht : read h q = some t) :
    p = q ↔ s = t := by
  constructor
  · rintro rfl; rw [hs] at ht; exact Option.some.inj ht
  · rintro rfl
    cases p with
    | inl a =>
      cases hs
      cases q with
      | inl b => cases ht; rfl
      | ref j => exact absurd hp (Nat.not_le_of_lt (ref_interned h hi hq ht).1)
    | ref i =>
      have ⟨hlen, hi'⟩ := ref_interned h hi hp hs
      cases q with
      | inl b => cases ht; exact absurd hq (Nat.not_le_of_lt hlen)
      | ref j =>
        have ⟨_, hj⟩ := ref_interned h hi hq ht
        congr 1
        -- each table is a function, and no string is in both
        rcases hi' with a | a <;> rcases hj with b | b
        · rw [a] at b; exact Option.some.inj b
        · rw [hi.disjoint s i a] at b; cases b
        · rw [hi.disjoint s j b] at a; cases a
        · rw [a] at b; exact Option.some.inj b

/-- How a single slot may change in one step. -/
inductive SlotStep : Slot → Slot → Prop
  | same (sl) : SlotStep sl sl
  | promote (s m) : SlotStep (.temp s m) (.perm s)
  | mark (s m) : SlotStep (.temp s m) (.temp s true)
  | unmark (s) : SlotStep (.temp s true) (.temp s false)
  | reclaim (s) : SlotStep (.temp s false) .dead

/-- **Slot evolution**: in one API step an existing slot keeps its index and changes only along
`SlotStep`; `unmark`/`reclaim` happen only inside an open-gate `sweep` whose window covers it. -/
theorem slot_step (h : Heap) (hi : Inv h) (op : Op) (id : Nat) (sl : Slot)
    (hsl : h.slots[id]? = some sl) :
    ∃ sl', (step h op).slots[id]? = some sl' ∧ SlotStep sl sl' ∧
      ((sl' = .dead ∧ sl ≠ .dead ∨ (∃ s, sl = .temp s true ∧ sl' = .temp s false)) →
        ∃ w, op = .sweep w ∧ h.unmarked = [] ∧
          (sweepWindow h w).1 ≤ id ∧ id < (sweepWindow h w).2.1) := by
  -- a slot that stays as it is has neither died nor lost its mark
  have kept : ¬(sl = .dead ∧ sl ≠ .dead ∨ ∃ s, sl = .temp s true ∧ sl = .temp s false) := by
    rintro (⟨h1, h2⟩ | ⟨s, h1, h2⟩)
    · exact h2 h1
    · rw [h1] at h2; cases h2
  by_cases hs : ∃ w, op = .sweep w
  · obtain ⟨w, rfl⟩ := hs
    refine ⟨_, (sweep_getElem? h w id).trans (congrArg _ hsl), ?_⟩
    cases hw : h.unmarked.isEmpty && decide ((sweepWindow h w).1 ≤ id ∧ id < (sweepWindow h w).2.1)
    · exact ⟨.same _, fun hc => absurd hc kept⟩
    · rw [Bool.and_eq_true, List.isEmpty_iff, decide_eq_true_eq] at hw
      refine ⟨?_, fun _ => ⟨w, rfl, hw.1, hw.2⟩⟩
      -- `sweepSlot true`: permanent and dead slots stay, a mark is cleared, an unmarked slot dies
      rcases sl with _ | ⟨_, _ | _⟩ | _ <;> constructor
  · rcases step_slot hi op (fun w e => hs ⟨w, e⟩) hsl with h1 | ⟨s, m, rfl, h1 | h1⟩
    · exact ⟨sl, h1, .same _, fun hc => absurd hc kept⟩
    · exact ⟨_, h1, .promote _ _, by rintro (⟨h1, _⟩ | ⟨_, _, h1⟩) <;> cases h1⟩
    · exact ⟨_, h1, .mark _ _, by rintro (⟨h1, _⟩ | ⟨_, _, h1⟩) <;> cases h1⟩

theorem SlotStep.live {sl sl' : Slot} {s : Bytes} (st : SlotStep sl sl') (hl : SlotLive sl s) :
    SlotLive sl' s ∨ sl = .temp s false ∧ sl' = .dead := by
  rcases hl with rfl | ⟨m, rfl⟩
  · cases st; exact .inl (.inl rfl)
  · cases st
    · exact .inl (.inr ⟨m, rfl⟩)
    · exact .inl (.inl rfl)
    · exact .inl (.inr ⟨true, rfl⟩)
    · exact .inl (.inr ⟨false, rfl⟩)
    · exact .inr ⟨rfl, rfl⟩

/-- **C17 (b)+(c), one step**: a readable handle keeps reading the same string, or it has just been
reclaimed — and that happens only in a `sweep` with the gate open, whose window covers the slot,
on a *temporary, unmarked* slot.  (So never a permanent string, never a marked one.) -/
theorem read_stable_or_reclaimed (h : Heap) (hi : Inv h) (op : Op) (p : Handle) (s : Bytes)
    (hr : read h p = some s) :
    read (step h op) p = some s ∨
      (read (step h op) p = none ∧ ∃ w id, op = .sweep w ∧ p = .ref id ∧
        h.slots[id]? = some (.temp s false) ∧ h.unmarked = [] ∧
        (sweepWindow h w).1 ≤ id ∧ id < (sweepWindow h w).2.1) := by
  cases p with
  | inl a => exact .inl hr
  | ref id =>
    obtain ⟨sl, hsl, hl⟩ := (read_ref_iff h id s).mp hr
    obtain ⟨sl', hsl', hst, hwin⟩ := slot_step h hi op id sl hsl
    rcases hst.live hl with hl' | ⟨rfl, rfl⟩
    · exact .inl ((read_ref_iff _ id s).mpr ⟨sl', hsl', hl'⟩)
    · obtain ⟨w, hop, hcov⟩ := hwin (.inl ⟨rfl, nofun⟩)
      exact .inr ⟨by simp only [read, hsl'], w, id, hop, rfl, hsl, hcov⟩

theorem perm_step (h : Heap) (hi : Inv h) (op : Op) {id : Nat} {s : Bytes}
    (hp : h.slots[id]? = some (.perm s)) : (step h op).slots[id]? = some (.perm s) := by
  obtain ⟨sl', hsl', hst, _⟩ := slot_step h hi op id _ hp
  cases hst
  exact hsl'

/-- **C17 (c1)** a permanent slot stays permanent over every history. -/
theorem perm_forever (ops : List Op) (h : Heap) (hi : Inv h) (hok : OpsOk h ops) (id : Nat)
    (s : Bytes) (hp : h.slots[id]? = some (.perm s)) : (run ops h).slots[id]? = some (.perm s) := by
  induction ops generalizing h with
  | nil => exact hp
  | cons op ops ih =>
    exact ih (step h op) (inv_step hi op hok.1) hok.2 (perm_step h hi op hp)

/-- **C17 (c2)** a string marked since the sweeper last passed over it survives the next step,
whatever it is (a covering sweep merely clears the mark). -/
theorem marked_survives (h : Heap) (hi : Inv h) (op : Op) (id : Nat) (s : Bytes)
    (hm : h.slots[id]? = some (.temp s true)) : read (step h op) (.ref id) = some s := by
  rcases read_stable_or_reclaimed h hi op (.ref id) s (by simp only [read, hm]) with
    h1 | ⟨_, w, id', _, hp, hsl, _⟩
  · exact h1
  · cases hp; rw [hm] at hsl; cases hsl

/-- … and over every history that contains no sweep, however long. -/
theorem live_without_sweep (ops : List Op) (h : Heap) (hi : Inv h) (hok : OpsOk h ops)
    (p : Handle) (s : Bytes) (hr : read h p = some s)
    (hns : ∀ op ∈ ops, ∀ w, op ≠ .sweep w) : read (run ops h) p = some s := by
  induction ops generalizing h with
  | nil => exact hr
  | cons op ops ih =>
    rcases read_stable_or_reclaimed h hi op p s hr with h1 | ⟨_, w, _, hop, _⟩
    · exact ih (step h op) (inv_step hi op hok.1) hok.2 h1 fun o ho => hns o (.tail _ ho)
    · exact absurd hop (hns op (.head _) w)

/-- **C17 (c3)** every part of a module reference that was readable when the reference was created
is permanent afterwards and stays readable over every later history. -/
theorem modref_parts_never_reclaimed (h : Heap) (hi : Inv h) (ps : List Handle)
    (hps : ∀ p ∈ ps, HandleOk h p) (p : Handle) (hp : p ∈ ps) (s : Bytes)
    (hr : read h p = some s) (ops : List Op) (hok : OpsOk (allocModuleRef h ps).1 ops) :
    read (run ops (allocModuleRef h ps).1) p = some s := by
  have hi' : Inv (allocModuleRef h ps).1 := inv_allocModuleRef hi ps hps
  cases p with
  | inl a => exact hr
  | ref id =>
    obtain ⟨sl, hsl, hl⟩ := (read_ref_iff h id s).mp hr
    -- the part belongs to a registered module reference, hence is not temporary
    have hnt := (hi'.modPerm ps (mem_modRefs_allocModuleRef h ps) id hp).2
    have hperm : (allocModuleRef h ps).1.slots[id]? = some (.perm s) := by
      rcases allocModuleRef_slot ps hsl with h1 | ⟨t, m, rfl, h1⟩
      · rcases hl with rfl | ⟨m, rfl⟩
        · exact h1
        · exact absurd h1 (hnt s m)
      · rcases hl with hc | ⟨_, hc⟩ <;> cases hc; exact h1
    simp only [read, perm_forever ops _ hi' hok id s hperm]

/-- **C17 (d)** `alloc_string` always returns a readable handle for exactly the given string … -/
theorem allocString_reads (h : Heap) (hi : Inv h) (s : Bytes) :
    read (allocString h s).1 (allocString h s).2 = some s := by
  -- the branches of `alloc_string`: inline; interned statically; interned temporarily; fresh slot
  fun_cases allocString h s with
  | case1 => rfl
  | case2 _ id hS => simp only [read, hi.staticSound s id hS]
  | case3 _ _ id hT =>
    obtain ⟨m, hm⟩ := hi.tempSlot hT
    simp only [read, hm]
  | case4 _ _ _ id => simp only [read, id, List.getElem?_concat_length]

/-- … that is `Valid`, … -/
theorem allocString_valid (h : Heap) (hi : Inv h) (s : Bytes) :
    Valid (allocString h s).1 (allocString h s).2 := by
  -- the branches of `alloc_string`: inline; interned statically; interned temporarily; fresh slot
  fun_cases allocString h s with
  | case1 hshort => exact hshort
  | case2 hlong id hS =>
    have hsl := hi.staticSound s id hS
    refine ⟨getElem?_lt hsl, fun t ht => ?_⟩
    rw [hsl] at ht; cases ht; exact Nat.lt_of_not_le hlong
  | case3 _ _ id hT =>
    obtain ⟨m, hm⟩ := hi.tempSlot hT
    exact ⟨getElem?_lt hm, by intro t ht; rw [hm] at ht; cases ht⟩
  | case4 =>
    refine ⟨?_, fun t ht => ?_⟩
    · rw [List.length_append]; exact Nat.lt_add_one _
    · rw [List.getElem?_concat_length] at ht; cases ht

/-- … and **fresh**: it is never a handle whose slot has been reclaimed (re-allocating a reclaimed
string yields a new handle, different from every stale one). -/
theorem allocString_fresh (h : Heap) (hi : Inv h) (s : Bytes) (stale : Nat)
    (hd : h.slots[stale]? = some .dead) : (allocString h s).2 ≠ .ref stale := by
  intro hc
  have hr := allocString_reads h hi s
  rw [hc] at hr
  obtain ⟨sl, hsl, hl⟩ := (read_ref_iff _ stale s).mp hr
  rw [allocString_slot s hd] at hsl; cases hsl
  rcases hl with hc | ⟨m, hc⟩ <;> cases hc

theorem allocStatic_reads (h : Heap) (hi : Inv h) (s : Bytes) :
    read (allocStatic h s).1 (allocStatic h s).2 = some s := by
  rw [allocStatic_eq hi]
  exact makePermanent_reads _ (allocString_reads h hi s)

/-- **C17 (e)** the Rust slice `table[sweep_start..sweep_end]` is always in bounds, for work units
smaller or larger than the table (incl. 0 and the empty table) … -/
theorem sweep_in_bounds (h : Heap) (hi : Inv h) (w : Nat) : sweepOk h w = true := by
  unfold sweepOk
  have := sweepWindow_bounds h w hi.sweepIdx
  generalize sweepWindow h w = win at this ⊢
  obtain ⟨a, b, c⟩ := win
  simp only at this ⊢
  simp [this.1, this.2.1]

/-- … and `make_string_permanent`'s `expect` never fires on a handle that exists. -/
theorem makePermanent_no_panic (h : Heap) (hi : Inv h) (p : Handle) (hp : HandleOk h p) :
    makePermanentOk h p = true := by
  fun_cases makePermanentOk h p with
  | case1 | case3 => rfl
  | case2 id s m hsl => simp [hi.tempComplete id s m hsl]
  -- out of bounds: not a handle that exists
  | case4 id hsl => exact absurd hp (Nat.not_lt_of_le (List.getElem?_eq_none_iff.mp hsl))

/-! ## An incremental sweep slice touches only its own window `[sweepIndex, sweepIndex + work)`,
whatever the work unit (seeded fault C17g iterates `skip(start).take(end)`: later slices run past
their window and clear marks there). -/

theorem sweep_outside_window_unchanged (h : Heap) (work id : Nat)
    (hout : id < h.sweepIndex ∨ h.sweepIndex + work ≤ id) :
    (sweep h work).slots[id]? = h.slots[id]? := by
  rw [sweep_getElem?, sweepWindow_fst, sweepWindow_snd,
    decide_eq_false (by omega), Bool.and_false]
  cases h.slots[id]? <;> rfl

/-- Inside its window a slice treats a slot exactly once: marked → unmarked, unmarked → reclaimed,
everything else unchanged. -/
theorem sweep_inside_window (h : Heap) (work id : Nat) (sl : Slot)
    (hq : h.unmarked.isEmpty = true)
    (hin : h.sweepIndex ≤ id ∧ id < h.sweepIndex + work) (hsl : h.slots[id]? = some sl) :
    (sweep h work).slots[id]? = some (sweepSlot true sl) := by
  have hlt := getElem?_lt hsl
  rw [sweep_getElem?, sweepWindow_fst, sweepWindow_snd, hq, hsl,
    decide_eq_true (by omega)]
  rfl

example : (sweep { init with slots := [.temp [1] true, .temp [2] true, .temp [3] true], sweepIndex := 1 } 1).slots
    = [.temp [1] true, .temp [2] false, .temp [3] true] := by decide   -- only slot 1 is in the window

/-! ## Ordering of handles (`Ord for PStr`): ordered collections (`BTreeSet<PStr>` of string literals,
sorted diagnostics) identify exactly the handles that are equal. -/

/-- The order laws of `bytesLt` are core's: `List.lex` decides `<` on `List UInt8`. -/
theorem bytesLt_eq_lex (s t : Bytes) : bytesLt s t = List.lex s t := by
  induction s generalizing t with
  | nil => cases t <;> rfl
  | cons a as ih =>
    cases t with
    | nil => rfl
    | cons b bs => simp only [bytesLt, List.lex, ih]

theorem bytesLt_iff_lt {s t : Bytes} : bytesLt s t = true ↔ s < t := by
  rw [bytesLt_eq_lex, List.lex_eq_true_iff_lt]

theorem bytesLt_total (s t : Bytes) (h : s ≠ t) : bytesLt s t = true ∨ bytesLt t s = true := by
  rw [bytesLt_iff_lt, bytesLt_iff_lt]
  -- on lists `t ≤ s` is by definition `¬ s < t`
  exact Classical.or_iff_not_imp_left.mpr fun h1 => Classical.not_not.mp fun h2 =>
    h (List.le_antisymm h2 h1)

theorem bytesLt_asymm (s t : Bytes) (h : bytesLt s t = true) : bytesLt t s = false :=
  Bool.eq_false_iff.mpr fun h' => List.lt_asymm (bytesLt_iff_lt.mp h) (bytesLt_iff_lt.mp h')

/-! `cmpHandle` answers by the pattern `if x = y then 0 else if x < y then -1 else 1`. -/
section
variable {e l : Prop} [Decidable e] [Decidable l]

theorem cmp3_eq_zero : (if e then 0 else if l then -1 else 1 : Int) = 0 ↔ e := by
  by_cases he : e <;> by_cases hl : l <;> simp [he, hl]

theorem cmp3_swap {e' l' : Prop} [Decidable e'] [Decidable l'] (he : e' ↔ e)
    (hl : ¬e → (l' ↔ ¬l)) :
    (if e' then 0 else if l' then -1 else 1 : Int) = -(if e then 0 else if l then -1 else 1) := by
  by_cases h : e
  · simp [h, he]
  · by_cases h' : l <;> simp [h, he, h', hl h]

theorem cmp3_eq_neg_one : (if e then 0 else if l then -1 else 1 : Int) = -1 ↔ ¬e ∧ l := by
  by_cases he : e <;> by_cases hl : l <;> simp [he, hl]

theorem cmp3_range : (if e then 0 else if l then -1 else 1 : Int) = -1 ∨
    (if e then 0 else if l then -1 else 1 : Int) = 0 ∨ (if e then 0 else if l then -1 else 1 : Int) = 1 := by
  by_cases he : e <;> by_cases hl : l <;> simp [he, hl]
end

theorem bytesLt_flip (s t : Bytes) (h : s ≠ t) : bytesLt t s = true ↔ ¬(bytesLt s t = true) :=
  ⟨fun h1 h2 => (by rw [bytesLt_asymm t s h1] at h2; cases h2),
   fun h1 => (bytesLt_total s t h).resolve_left h1⟩

/-- `cmp` answers `Equal` exactly for equal handles: an ordered set keyed by handles never
conflates two different strings and never splits one (this is what `Ord` must add to `Eq`). -/
theorem cmpHandle_eq_zero_iff (a b : Handle) : cmpHandle a b = 0 ↔ a = b := by
  cases a <;> cases b <;> simp only [cmpHandle, cmp3_eq_zero, Handle.inl.injEq, Handle.ref.injEq]
  · exact ⟨nofun, nofun⟩
  · exact ⟨nofun, nofun⟩

/-- antisymmetry: swapping the operands negates the answer (a total order, not merely a
comparison function): sorting by handles is deterministic. -/
theorem cmpHandle_antisymm (a b : Handle) : cmpHandle b a = - cmpHandle a b := by
  cases a with
  | inl s => cases b with
    | inl t => exact cmp3_swap eq_comm (bytesLt_flip s t)
    | ref j => rfl
  | ref i => cases b with
    | inl t => rfl
    | ref j => simp only [cmpHandle]; apply cmp3_swap eq_comm; omega

example : cmpHandle (.inl [97, 98]) (.inl [97, 98, 0]) = -1 := by decide   -- "ab" vs "ab\0": not Equal

/-! ## Counting the sweeps of a history. `Props/C17c.lean` bounds this count to state
`marked_needs_two_sweeps`; here it only serves the last example of the demonstration below. -/

def isSweep : Op → Bool
  | .sweep _ => true
  | _ => false

def sweepCount (ops : List Op) : Nat := (ops.filter isSweep).length

theorem sweepCount_cons (op : Op) (ops : List Op) :
    sweepCount (op :: ops) = (if isSweep op then 1 else 0) + sweepCount ops := by
  unfold sweepCount
  rw [List.filter_cons]
  split
  · rw [List.length_cons, Nat.add_comm]
  · rw [Nat.zero_add]

/-! ## Non-vacuity: a concrete history meets every hypothesis and exercises promote / mark /
two-pass reclamation / re-allocation. -/

def longA : Bytes := List.replicate 16 97
def longB : Bytes := List.replicate 17 98

def demoOps : List Op :=
  [.allocString longA, .allocString longB, .mark (.ref 0), .allocModuleRef [.ref 1],
   .sweep 10, .sweep 10, .allocString longA]

theorem demoOps_ok : OpsOk init demoOps :=
  ⟨trivial,                                                      -- allocString longA
   trivial,                                                      -- allocString longB
   (by decide : 0 < _),                                          -- mark (.ref 0)
   fun _ hp => List.mem_singleton.mp hp ▸ (by decide : 1 < _),   -- allocModuleRef [.ref 1]
   trivial,                                                      -- sweep 10
   trivial,                                                      -- sweep 10
   trivial,                                                      -- allocString longA
   trivial⟩                                                      -- the empty rest
example : read (run (demoOps.take 5)) (.ref 0) = some longA := by decide   -- marked: survived
example : read (run (demoOps.take 6)) (.ref 0) = none := by decide         -- second pass: reclaimed
example : read (run (demoOps.take 6)) (.ref 1) = some longB := by decide   -- module part: permanent
example : (allocString (run (demoOps.take 6)) longA).2 = .ref 2 := by decide -- fresh handle
example : Inv (run demoOps) := inv_reachable demoOps demoOps_ok
example : sweepCount (demoOps.take 5) ≤ 1 := by decide   -- the 5-op prefix meets the bound of `marked_needs_two_sweeps` (`Props/C17c.lean`)

end SamVerif.Heap
