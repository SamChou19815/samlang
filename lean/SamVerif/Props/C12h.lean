import SamVerif.Props.C12
import SamVerif.Model.ModuleOrder
/-! # C12 — the parse order of the modules: by printed name it is a function of the set of module
names; by `PStr` parts it depends on the allocation ids of name parts longer than 15 bytes.
Then the lowering order: the printed-name comparator never ties on distinct names, a stable sort by a
strict total order of pairwise distinct keys gives the same sequence for every input order, and the
pairwise `zip` comparator ties, and only ties, on prefix-related paths. -/
namespace SamVerif.ErrorSet

/-- The parse order computed from the printed names depends only
on the *set of module names* — not on the order in which the caller enumerated / allocated the
modules, not on the iteration order of the source map, and (there is no `ids` in it) not on any
allocation id. -/
theorem parse_order_by_name_invariant (content : Nat → List Nat) (mods mods' : List (List Atom))
    (h : ∀ n, n ∈ mods.map (printedName content) ↔ n ∈ mods'.map (printedName content)) :
    orderByName content mods = orderByName content mods' := by
  unfold orderByName
  exact ofList_congr lexLt_strictTotal h

theorem parse_order_by_name_perm_invariant (content : Nat → List Nat) (mods mods' : List (List Atom))
    (hp : mods'.Perm mods) : orderByName content mods' = orderByName content mods :=
  parse_order_by_name_invariant content mods' mods (fun _ => (hp.map _).mem_iff)

def longA : List Nat := [77, 111, 100, 117, 108, 101, 87, 105, 116, 104, 76, 111, 110, 103, 78, 97, 109, 101, 65]
def longB : List Nat := [77, 111, 100, 117, 108, 101, 87, 105, 116, 104, 76, 111, 110, 103, 78, 97, 109, 101, 66]
def contentAB (h : Nat) : List Nat := if h = 0 then longA else longB

example : orderByName contentAB [[.heap 1], [.heap 0]] = [longA, longB] := by decide

theorem ltParts_strictTotal (ids : Nat → Nat) (hi : Inj ids) : StrictTotal (ltParts ids) :=
  lexLt_strictTotal.comap (atomsKey ids) (atomsKey_inj ids hi)

/- Full-strength statement for a sort keyed by the parts, **false**:
   `∀ ids ids', Inj ids → Inj ids' → orderByParts ids mods = orderByParts ids' mods`. -/

/-- The class of seeded fault C12c: two modules whose
names are single parts longer than 15 bytes; allocating them in the other order reverses the
"sorted" parse order. -/
theorem parse_order_by_parts_counterexample :
    ∃ (ids ids' : Nat → Nat) (mods : List (List Atom)), Inj ids ∧ Inj ids' ∧
      orderByParts ids mods ≠ orderByParts ids' mods :=
  ⟨id, fun n => if n = 0 then 1 else if n = 1 then 0 else n, [[.heap 0], [.heap 1]],
   fun _ _ h => h, inj_swap 0 1, by decide⟩

def heapFree : List Atom → Bool
  | [] => true
  | .heap _ :: _ => false
  | _ :: rest => heapFree rest

theorem atomsKey_heapFree (ids ids' : Nat → Nat) (ps : List Atom) (h : heapFree ps = true) :
    atomsKey ids ps = atomsKey ids' ps := by
  induction ps with
  | nil => rfl
  | cons p ps ih =>
    cases p with
    | heap k => simp [heapFree] at h
    | num n => simp only [heapFree] at h; simp [atomsKey, atomKey, ih h]
    | inl bs => simp only [heapFree] at h; simp [atomsKey, atomKey, ih h]

/-- When every name part is at most 15 bytes (inline), the order
by parts does not depend on allocation ids either — which is why no test with short module names
can tell the two sort keys apart. -/
theorem parse_order_by_parts_partial (ids ids' : Nat → Nat) (hi : Inj ids) (hi' : Inj ids')
    (mods : List (List Atom)) (hshort : ∀ m ∈ mods, heapFree m = true) :
    orderByParts ids mods = orderByParts ids' mods := by
  unfold orderByParts
  refine ofList_order_agree (ltParts_strictTotal ids hi) (ltParts_strictTotal ids' hi') _
    fun a ha b hb hab => ?_
  rwa [ltParts, ← atomsKey_heapFree ids ids' a (hshort a ha), ← atomsKey_heapFree ids ids' b (hshort b hb)]

example : orderByParts id [[.inl [66]], [.inl [65], .inl [67]]] =
    orderByParts (fun n => n + 3) [[.inl [66]], [.inl [65], .inl [67]]] := by decide

/-- Under the printed-name comparator no two modules with distinct names
tie — exactly one of them comes first. -/
theorem lowering_order_total (a b : List Nat) (h : a ≠ b) :
    (lexLt a b = true ∧ lexLt b a = false) ∨ (lexLt b a = true ∧ lexLt a b = false) := by
  cases hab : lexLt a b <;> cases hba : lexLt b a
  · exact absurd (lexLt_total a b hab hba) h
  · exact .inr ⟨rfl, rfl⟩
  · exact .inl ⟨rfl, rfl⟩
  · exact (lexLt_strictTotal.asymm hab hba).elim

theorem sIns_eq_ins {α : Type} {lt : α → α → Bool} (h : StrictTotal lt) (x : α) (l : List α)
    (hx : x ∉ l) : sIns lt x l = ins lt x l := by
  induction l with
  | nil => rfl
  | cons y ys ih =>
    have hxy := not_or.mp (mt List.mem_cons.mpr hx)
    simp only [sIns, ins]
    split
    · rfl
    · rename_i h1
      have h2 : lt y x = true := Decidable.by_contra fun h3 =>
        hxy.1 (h.total x y (Bool.eq_false_iff.mpr h1) (Bool.eq_false_iff.mpr h3))
      rw [if_pos h2, ih hxy.2]

theorem sSort_eq_ofList {α : Type} {lt : α → α → Bool} (h : StrictTotal lt) (l : List α)
    (hn : l.Nodup) : sSort lt l = ofList lt l := by
  suffices ∀ acc : List α, (∀ x ∈ l, x ∉ acc) →
      l.foldl (fun acc x => sIns lt x acc) acc = l.foldl (fun acc x => ins lt x acc) acc from
    this [] fun _ _ => List.not_mem_nil
  induction l with
  | nil => exact fun _ _ => rfl
  | cons x xs ih =>
    intro acc hd
    have hn' := List.nodup_cons.mp hn
    rw [List.foldl_cons, List.foldl_cons, sIns_eq_ins h x acc (hd x List.mem_cons_self)]
    refine ih hn'.2 _ fun y hy hmem => ?_
    rcases (mem_ins h x y acc).mp hmem with rfl | hm
    · exact hn'.1 hy
    · exact hd y (List.mem_cons_of_mem _ hy) hm

/-- A stable sort by a strict total order of pairwise distinct keys
gives the same sequence for every input (hash) order. -/
theorem stable_sort_perm_invariant {α : Type} {lt : α → α → Bool} (h : StrictTotal lt)
    (l l' : List α) (hn : l.Nodup) (hp : l'.Perm l) : sSort lt l' = sSort lt l := by
  rw [sSort_eq_ofList h l hn, sSort_eq_ofList h l' (hp.nodup_iff.mpr hn)]
  exact sorted_enumeration_perm_invariant h l l' hp

/-- the lowering order of the code: printed names, pairwise distinct, in any hash order -/
theorem lowering_order_perm_invariant (names names' : List (List Nat)) (hn : names.Nodup)
    (hp : names'.Perm names) : sSort lexLt names' = sSort lexLt names :=
  stable_sort_perm_invariant lexLt_strictTotal names names' hn hp

example : sSort lexLt [[65, 46, 66], [65]] = sSort lexLt [[65], [65, 46, 66]] := by decide

/- Full-strength statement for the pairwise (`zip`, no length comparison) comparator, **false**:
   `∀ a b, a ≠ b → zipLt a b = true ∨ zipLt b a = true`. -/

/-- Class of seeded fault C12f: the module `App` (parts `[App]`)
and the module `App.Tools` (parts `[App, Tools]`) are distinct and tie; a stable sort therefore keeps
them in input (hash) order, and the two input orders give different lowering orders. -/
theorem zip_order_tie_counterexample :
    ∃ a b : List (List Nat), a ≠ b ∧ zipLt a b = false ∧ zipLt b a = false ∧
      sSort zipLt [a, b] ≠ sSort zipLt [b, a] :=
  ⟨[[65]], [[65], [66]], by decide, by decide, by decide, by decide⟩

/-- The pairwise comparator only ties on prefix-related paths. -/
theorem zip_order_partial (a b : List (List Nat)) (h1 : ¬ a <+: b) (h2 : ¬ b <+: a) :
    zipLt a b = true ∨ zipLt b a = true := by
  induction a generalizing b with
  | nil => exact absurd List.nil_prefix h1
  | cons p ps ih =>
    cases b with
    | nil => exact absurd List.nil_prefix h2
    | cons q qs =>
      simp only [zipLt]
      by_cases e : p = q
      · -- equal heads are skipped; the tails are not prefix-related either
        subst e
        simp only [lexLt_irrefl, Bool.false_eq_true, if_false]
        exact ih qs (fun h => h1 (List.cons_prefix_cons.mpr ⟨rfl, h⟩))
          fun h => h2 (List.cons_prefix_cons.mpr ⟨rfl, h⟩)
      · rcases lowering_order_total p q e with ⟨h, _⟩ | ⟨h, _⟩
        · exact .inl (if_pos h)
        · exact .inr (if_pos h)

end SamVerif.ErrorSet
