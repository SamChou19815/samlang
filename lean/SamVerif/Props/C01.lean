import SamVerif.Lemmas.EnumSpec
import SamVerif.Lemmas.TailStmt
import SamVerif.Lemmas.CpeOne
import SamVerif.Model.VecRt
import SamVerif.Model.DataSeg
import SamVerif.Model.Launcher
/-!
# C01 — compiled code behaves as the source semantics prescribe: property theorems

One part per kernel, each over its model of the code named:
* K1, enum variant representation: `mir_generics_specialization.rs` (rewrite_id_type, the enum branch,
  type_permit_enum_boxed_optimization, EnumInit encoding, ConditionalDestructure tests). The model follows
  the code after fix e715c2f (`enumsStarted`; finding C01-F1, witness corpus/C01/f1-nat.json).
* K3, tail recursion → loop over expression trees: `mir_tail_recursion_rewrite.rs`, the loop update of
  `wasm_lowering.rs:437-441` (snapshot of fix c57720b, finding C01-F2) and what LIR lowering emits for it
  (fix c8954cc, finding C01-F4). K3b, the same rewrite over full MIR statement lists (`Model/TailStmt.lean`).
* K4, constant-parameter elimination, `mir_constant_param_elimination.rs`: the decision kernel; K4b, its
  effect on one self-recursive function (`Model/CpeSem.lean`); K4c, on a program of mutually calling
  functions (`Model/CpeProg.lean`), for one parameter and for a sweep over several.
* K5, the Vec runtime: `libsam.wat` `$__Vec$*`. K6, the string data segment as WAT text:
  `samlang-ast/src/wasm.rs` `print_byte_vec`. K7, the launchers of a multi-entry project:
  `samlang-compiler/src/lib.rs` `compile_sources` (`Model/Launcher.lean`).

Examples next to the theorems show that their hypotheses can be met; for the shapes `ElimShape` /
`AllUnusedShape` of the two sweep theorems no example does.
-/

/-! ## K1 — enum variant representation -/
namespace SamVerif.C01
open SamVerif.EnumLayout

/-- A source-level enum value `(tag, fields)` fits the declaration, and — the side condition that
the unboxing decision is supposed to guarantee — the payload of an unboxed variant really is a
heap object of the payload type. -/
structure FitsVal (variants : List (List Ty)) (rs : List VRepr) (tag : Nat) (fs : List RtVal) : Prop where
  arity : ∃ ts, variants[tag]? = some ts ∧ fs.length = ts.length
  payload : ∀ (t : Nat) (w : RtVal), rs[tag]? = some (.unboxed t) → fs = [w] → isPointerOf t w = true

theorem isPointerOf_obj {t : Nat} {v : RtVal} (h : isPointerOf t v = true) : ∃ ty fl, v = .obj ty fl := by
  cases v with
  | obj ty fl => exact ⟨ty, fl, rfl⟩
  | i32 k => cases h
  | i31 k => cases h

/-- Decoding inverts encoding, test by test: on an encoded value the test sequence of the lowered
match succeeds for exactly the variant it was built from, and binds exactly its fields. -/
theorem testVariant_exact_of_inv (P : Nat → Prop) (variants : List (List Ty)) (l : LState)
    (inv : LInv P variants l) (n : Nat)
    (tag tag' : Nat) (fs : List RtVal) (v : RtVal)
    (h : FitsVal variants l.out tag fs)
    (e : encode n l.out tag fs = some v) (ht : tag' < variants.length) :
    testVariant n l.out tag' v = if tag' = tag then some fs else none := by
  obtain ⟨⟨ts, hv, ha⟩, hp⟩ := h
  obtain ⟨r', hr'⟩ : ∃ r', l.out[tag']? = some r' :=
    ⟨_, List.getElem?_eq_getElem (inv.len ▸ ht)⟩
  unfold encode at e
  unfold testVariant
  rw [hr']
  -- Outer cases: the representation `r` of the value's own variant; inner: `tag' = tag` or not, and then the
  -- representation `r'` of the tested variant. The mixed cases are decided by `inv.unb` (an unboxed slot
  -- forces every other slot to be `int31`) and, boxed against boxed, by the pointer guard or the tag slot.
  cases hr : l.out[tag]? with
  | none => rw [hr] at e; cases e
  | some r =>
    rw [hr] at e
    have own : tag' = tag → r' = r := fun hq => Option.some.inj (hr' ▸ hq ▸ hr)
    cases r with
    | int31 =>
      cases e
      have hfs : fs = [] := by
        rw [inv.i31 tag hr] at hv
        cases hv
        exact List.eq_nil_of_length_eq_zero ha
      by_cases hq : tag' = tag
      · cases own hq
        subst hq hfs
        simp only [if_true]
      · rw [if_neg hq]
        cases r' with
        | int31 => exact if_neg fun hk => hq (Int.ofNat_inj.mp hk).symm
        | unboxed u => rfl
        | boxed bs => simp only []; split <;> rfl
    | unboxed u =>
      have hu := inv.unb tag u hr
      have hf : fs = [v] := by
        rw [hu.1] at hv
        cases hv
        match fs, ha, e with
        | [_], _, e => cases e; rfl
      have hptr := hp u v hr hf
      by_cases hq : tag' = tag
      · cases own hq
        subst hq
        simp only [hptr, hf, if_true]
      · rw [hu.2.2.2 tag' hq ht] at hr'
        cases hr'
        obtain ⟨ty, fl, rfl⟩ := isPointerOf_obj hptr
        rw [if_neg hq]
    | boxed bs =>
      cases e
      by_cases hq : tag' = tag
      · cases own hq
        subst hq
        simp [isVariantObj]
      · rw [if_neg hq]
        cases r' with
        | int31 => rfl
        | unboxed u' =>
          rw [(inv.unb tag' u' hr').2.2.2 tag (Ne.symm hq) (inv.len ▸ (List.getElem?_eq_some_iff.mp hr).1)] at hr
          cases hr
        | boxed bs' =>
          simp only []
          split
          · rfl
          · exact if_neg fun hk => hq (by omega)

/-- `encode` has a left inverse on fitting values, so it is injective on them. -/
theorem encode_injective_of_inv (P : Nat → Prop) (variants : List (List Ty)) (l : LState)
    (inv : LInv P variants l) (n : Nat)
    (t1 t2 : Nat) (fs1 fs2 : List RtVal) (v : RtVal)
    (h1 : FitsVal variants l.out t1 fs1)
    (h2 : FitsVal variants l.out t2 fs2)
    (e1 : encode n l.out t1 fs1 = some v)
    (e2 : encode n l.out t2 fs2 = some v) :
    t1 = t2 ∧ fs1 = fs2 := by
  obtain ⟨ts, hv, _⟩ := h1.arity
  have lt := (List.getElem?_eq_some_iff.mp hv).1
  have a := testVariant_exact_of_inv P variants l inv n t1 t1 fs1 v h1 e1 lt
  rw [testVariant_exact_of_inv P variants l inv n t2 t1 fs2 v h2 e2 lt, if_pos rfl] at a
  split at a
  · exact ⟨‹t1 = t2›, (Option.some.inj a).symm⟩
  · cases a

/-- Values of the closed type `n` under the finished definitions `defs`. -/
inductive HasTy (defs : List (Nat × MDef)) : Nat → RtVal → Prop where
  | struct (n k : Nat) (fs : List RtVal) :
      lookupDef defs n = some (.struct k) → HasTy defs n (.obj (.struct n) fs)
  | int31 (n : Nat) (rs : List VRepr) (tag : Nat) :
      lookupDef defs n = some (.enum rs) → rs[tag]? = some .int31 → HasTy defs n (.i31 tag)
  | boxed (n : Nat) (rs : List VRepr) (tag : Nat) (ts : List Ty) (fs : List RtVal) :
      lookupDef defs n = some (.enum rs) → rs[tag]? = some (.boxed ts) →
      HasTy defs n (.obj (.variant n tag) (.i32 (2 * tag + 1) :: fs))
  | unboxed (n : Nat) (rs : List VRepr) (tag t : Nat) (w : RtVal) :
      lookupDef defs n = some (.enum rs) → rs[tag]? = some (.unboxed t) → HasTy defs t w →
      HasTy defs n w


/-- Field values of a source-level enum value `(tag, fields)` have the declared types. -/
structure WellTyped (defs : List (Nat × MDef)) (vs : List (List Ty)) (tag : Nat) (fs : List RtVal) : Prop where
  arity : ∃ ts, vs[tag]? = some ts ∧ fs.length = ts.length
  fields : ∀ (ts : List Ty) (i t : Nat) (w : RtVal), vs[tag]? = some ts → ts[i]? = some (.ref t) →
    fs[i]? = some w → HasTy defs t w

/-- Every value of a type the specialiser classified as "always a pointer" is a heap object. -/
theorem ptr_of_hasTy {env : Env} {st : St} (g : GInv env st) {t : Nat} {w : RtVal}
    (h : Ptr env st.defs t) (hv : HasTy st.defs t w) : isPointerOf t w = true := by
  -- an `Int31` value or the payload of an unboxed variant belongs to an enum that is not all boxed
  have notPtr : ∀ (rs : List VRepr) (tag : Nat) (r : VRepr), lookupDef st.defs t = some (.enum rs) →
      rs[tag]? = some r → r.isBoxed = false → False := by
    intro rs tag r hl hr hb
    obtain ⟨vs, l, hb', _⟩ := g.enums t rs hl
    rcases h with ⟨fs, h⟩ | ⟨sg, h⟩ | ⟨rs', h1, h2⟩
    · rw [hb'] at h; cases h
    · rw [hb'] at h; cases h
    · rw [hl] at h1; cases h1
      have := (List.all_eq_true.mp h2) _ (List.mem_of_getElem? hr)
      rw [hb] at this; cases this
  match hv with
  | .struct _ k fs hl => simp [isPointerOf]
  | .boxed _ rs tag ts fs hl hr => simp [isPointerOf]
  | .int31 _ rs tag hl hr => exact (notPtr rs tag _ hl hr rfl).elim
  | .unboxed _ rs tag t' w' hl hr hw => exact (notPtr rs tag _ hl hr rfl).elim

theorem fits_of_wellTyped {env : Env} {st : St} (g : GInv env st) {vs : List (List Ty)} {l : LState}
    (li : LInv (Ptr env st.defs) vs l) {tag : Nat} {fs : List RtVal}
    (h : WellTyped st.defs vs tag fs) : FitsVal vs l.out tag fs := by
  refine ⟨h.arity, ?_⟩
  intro t w hr hf
  obtain ⟨hv, hp, _, _⟩ := li.unb tag t hr
  subst hf
  exact ptr_of_hasTy g hp (h.fields [.ref t] 0 t w hv rfl rfl)

/-- In every state the demand-driven specialisation reaches,
for every enum definition it produced: two well-typed source values `(tag, fields)` with the same
run-time encoding are the same value. (Before fix e715c2f this was false: `class Nat(Z, S(Nat))`
was laid out `[Int31, Unboxed Nat]` because the in-progress `Nat` was taken for a pointer type, so
`S(Z)` and `Z` were both `i31 0`.) -/
theorem layout_injective (env : Env) (fuel : Nat) (roots : List Ty) (st : St)
    (h : demandAll env fuel roots = some st) (n : Nat) (rs : List VRepr)
    (hd : lookupDef st.defs n = some (.enum rs)) :
    ∃ vs, bodyOf env n = some (.enum vs) ∧
      ∀ (t1 t2 : Nat) (fs1 fs2 : List RtVal) (v : RtVal),
        WellTyped st.defs vs t1 fs1 → WellTyped st.defs vs t2 fs2 →
        encode n rs t1 fs1 = some v → encode n rs t2 fs2 = some v → t1 = t2 ∧ fs1 = fs2 := by
  have g := demandAll_inv env fuel roots st h
  obtain ⟨vs, l, hb, li, ho⟩ := g.enums n rs hd
  refine ⟨vs, hb, ?_⟩
  intro t1 t2 fs1 fs2 v w1 w2 e1 e2
  subst ho
  exact encode_injective_of_inv _ vs l li n t1 t2 fs1 fs2 v (fits_of_wellTyped g li w1)
    (fits_of_wellTyped g li w2) e1 e2

/-- **Decoding inverts encoding (full strength)**, test by test: in every reachable state, on the encoding
of a well-typed value the lowered match's test for variant `tag'` succeeds iff `tag' = tag`, and
binds exactly the fields. -/
theorem lowered_tests_exact (env : Env) (fuel : Nat) (roots : List Ty) (st : St)
    (h : demandAll env fuel roots = some st) (n : Nat) (rs : List VRepr)
    (hd : lookupDef st.defs n = some (.enum rs)) :
    ∃ vs, bodyOf env n = some (.enum vs) ∧
      ∀ (tag tag' : Nat) (fs : List RtVal) (v : RtVal), WellTyped st.defs vs tag fs →
        encode n rs tag fs = some v → tag' < vs.length →
        testVariant n rs tag' v = if tag' = tag then some fs else none := by
  have g := demandAll_inv env fuel roots st h
  obtain ⟨vs, l, hb, li, ho⟩ := g.enums n rs hd
  refine ⟨vs, hb, ?_⟩
  intro tag tag' fs v w e ht
  subst ho
  exact testVariant_exact_of_inv _ vs l li n tag tag' fs v (fits_of_wellTyped g li w) e ht

/-- **The unboxing rule for a finished payload enum, stated**: `type_permit_enum_boxed_optimization`
allows a single-payload variant to be unboxed over a finished enum iff that enum has neither an
`Int31` nor an `Unboxed` variant, i.e. all its variants are `Boxed` (seeded faults C01d / C03g each
drop one half of this). The theorem states the rule on its own; no other proof uses it
(`typePermit_ptr` of Lemmas/EnumSpec.lean, on which `layout_injective` / `lowered_tests_exact` rest,
unfolds `typePermit` itself). -/
theorem typePermit_finished_enum_iff (st : St) (n : Nat) (rs : List VRepr)
    (h : lookupDef st.defs n = some (.enum rs)) :
    typePermit st (.ref n) = true ↔ (.int31 ∉ rs ∧ ∀ t, .unboxed t ∉ rs) := by
  simp only [typePermit, h, List.all_eq_true]
  constructor
  · intro hall
    exact ⟨fun hm => by simpa [VRepr.isBoxed] using hall _ hm,
      fun t hm => by simpa [VRepr.isBoxed] using hall _ hm⟩
  · rintro ⟨h1, h2⟩ r hr
    cases r with
    | int31 => exact absurd hr h1
    | unboxed t => exact absurd hr (h2 t)
    | boxed ts => rfl

/-- Necessity, `Int31` half: unboxing `Some(_)` over a payload enum with a constant variant
(`Opt<Opt<P>>` with inner `[Int31, Unboxed P]`) makes `Some(None)` and `None` the same value. -/
theorem unboxed_over_int31_payload_counterexample :
    encode 2 [.int31, .unboxed 1] 0 [] = encode 2 [.int31, .unboxed 1] 1 [.i31 0] ∧
    HasTy [(1, .enum [.int31, .unboxed 0]), (0, .struct 1)] 1 (.i31 0) :=
  ⟨rfl, HasTy.int31 1 [.int31, .unboxed 0] 0 (by decide) (by decide)⟩

/-- Necessity, `Unboxed` half (the shape of C01d / C03g): `class Tagged(Only(Point))` is laid out
`[Unboxed Point]`; unboxing `Some(Tagged)` in `Option<Tagged>` gives `Some(Only(pt)) = pt`, a
`Point` object, on which the lowered test `ref.test Tagged` of the `Some` arm fails: the match no
longer recognises the value it was built from. -/
theorem unboxed_over_unboxed_payload_counterexample :
    encode 2 [.int31, .unboxed 1] 1 [.obj (.struct 0) [.i32 3]] = some (.obj (.struct 0) [.i32 3]) ∧
    HasTy [(1, .enum [.unboxed 0]), (0, .struct 1)] 1 (.obj (.struct 0) [.i32 3]) ∧
    testVariant 2 [.int31, .unboxed 1] 1 (.obj (.struct 0) [.i32 3]) = none := by
  refine ⟨rfl, ?_, rfl⟩
  exact HasTy.unboxed 1 [.unboxed 0] 0 0 _ (by decide) (by decide) (HasTy.struct 0 1 _ (by decide))

-- `class Nat(Z, S(Nat))` (type 0) and `class P(val n: Nat)` (type 1), `Opt<P>` (type 2), `Opt<Opt<P>>` (3)
def demoEnv : EnumLayout.Env :=
  [ { targs := [], body := .enum [[], [.ref 0]] },
    { targs := [], body := .struct [.ref 0] },
    { targs := [.ref 1], body := .enum [[], [.ref 1]] },
    { targs := [.ref 2], body := .enum [[], [.ref 2]] } ]
-- the specialiser terminates on it and produces: Nat boxed (in progress when decided),
-- Opt<P> unboxed (P finished struct), Opt<Opt<P>> boxed (payload has an Int31 variant)
example : (demandAll demoEnv 20 [.ref 3]).map (fun st => st.defs) =
    some [(3, .enum [.int31, .boxed [.int, .ref 2]]), (2, .enum [.int31, .unboxed 1]), (1, .struct 1),
          (0, .enum [.int31, .boxed [.int, .ref 0]])] := by decide
example : typePermit { names := [1, 0], defs := [(1, .struct 1)] } (.ref 1) = true := by decide
-- an enum whose layout is in progress is not taken for a pointer type (fix e715c2f)
example : typePermit { names := [0], enumsStarted := [0] } (.ref 0) = false := by decide
example : WellTyped [(1, .struct 1)] [[], [.ref 1]] 1 [.obj (.struct 1) [.i32 5]] :=
  ⟨⟨[.ref 1], rfl, rfl⟩, by
    intro ts i t w h1 h2 h3
    simp at h1; subst h1
    cases i with
    | zero => simp at h2 h3; subst h2; subst h3; exact HasTy.struct 1 1 _ rfl
    | succ k => simp at h2⟩

end SamVerif.C01

/-! ## K3 — tail recursion to loop, over expression trees -/
namespace SamVerif.C01
open SamVerif.TailRec
open SamVerif.Opt (Op evalTarget)

/-- Sequential loop-variable update equals the parallel one when no loop value reads a parameter
already overwritten (the reason the snapshot of fix c57720b is only needed for permuting calls). -/
theorem seqAssign_eq_par_partial (params : List Name) (args : List Expr) (env : Env)
    (hnd : params.Nodup) (hl : args.length = params.length) (hs : noBackwardRef params args = true) :
    params.map (seqAssign env (params.zip args)) = args.map (Expr.eval env) :=
  seqAssign_eq_par params args env hnd hl hs

/-- … and differs without it: `a, b := b, a`. -/
theorem seqAssign_eq_par_counterexample :
    ∃ (params : List Name) (args : List Expr) (env : Env), params.Nodup ∧ args.length = params.length ∧
      params.map (seqAssign env (params.zip args)) ≠ args.map (Expr.eval env) :=
  ⟨[0, 1], [.var 1, .var 0], fun x => if x = 0 then 1 else 2, by decide, by decide, by decide⟩

theorem walk_next_arity (ev : Op → Int → Int → Option Int) (k : Nat) (l : LBody) :
    ∀ (env env' : Env) (args : List Expr), arityOk k l = true →
      walkLoop ev env l = some (.next env' args) → args.length = k := by
  induction l with
  | done a =>
    intro env env' args hs hw
    simp [walkLoop] at hw
    simp [arityOk] at hs
    obtain ⟨_, rfl⟩ := hw
    exact hs
  | bin x op e1 e2 b ih =>
    intro env env' args hs hw
    simp only [walkLoop] at hw
    split at hw
    · simp at hw
    · exact ih _ _ _ (by simpa [arityOk] using hs) hw
  | sif c inv v b ih =>
    intro env env' args hs hw
    simp only [walkLoop] at hw
    split at hw
    · split at hw <;> simp at hw
    · exact ih _ _ _ (by simpa [arityOk] using hs) hw
  | merge c t e _ _ =>
    intro env env' args hs hw
    simp only [walkLoop] at hw
    split at hw <;> simp at hw

/-- The rewritten loop computes what the recursion computes, as soon as the values the loop gives
its variables after an iteration are the values of the tail call's arguments. -/
theorem tailrec_equiv_of_update (ev : Op → Int → Int → Option Int) (seq : Bool) (params : List Name)
    (b : Body) (l : LBody) (h : rw b = some l)
    (hupd : ∀ (env env' : Env) (args : List Expr), walkLoop ev env l = some (.next env' args) →
      (seq && !readsOther params args) = true →
      params.map (seqAssign env' (params.zip args)) = args.map (Expr.eval env')) :
    ∀ (fuel : Nat) (vals : List Int), runRec ev params b fuel vals = runLoop ev seq params l fuel vals := by
  intro fuel
  induction fuel with
  | zero => intro vals; rfl
  | succ n ih =>
    intro vals
    simp only [runRec, runLoop]
    have r := walk_rel ev b l (bindParams params vals) h
    have hu := hupd (bindParams params vals)
    revert r hu
    generalize walkRec ev (bindParams params vals) b = a
    generalize walkLoop ev (bindParams params vals) l = c
    intro r hu
    cases r with
    | trap => rfl
    | value v => rfl
    | vals vs => exact ih vs
    | exprs env' args =>
      show runRec ev params b n _ = if _ then _ else _
      split
      · rw [hu env' args rfl ‹_›]
        exact ih _
      · exact ih _

/-- With all loop values read before any loop variable is written, the rewritten loop computes
what the recursion computes — for every operator semantics, tree, all arguments and every fuel. -/
theorem tailrec_equiv_par (ev : Op → Int → Int → Option Int) (params : List Name) (b : Body) (l : LBody)
    (h : rw b = some l) :
    ∀ (fuel : Nat) (vals : List Int), runRec ev params b fuel vals = runLoop ev false params l fuel vals :=
  tailrec_equiv_of_update ev false params b l h fun _ _ _ _ => nofun

/-- Full strength: the rewritten function *as the backends run it* (loop variables assigned one
after the other, `wasm_lowering.rs:437-441`) returns what the recursive function returns — for
every operator semantics, every tree the rewrite accepts, all arguments, all fuel. Hypotheses are
the MIR's own well-formedness: distinct parameter names and tail calls with one argument per
parameter. (Before fix c57720b this was false: `swap(b, a, n - 1)` became `a = b; b = a` and
`swap(1, 2, 1)` returned 22.) -/
theorem tailrec_equiv_seq (ev : Op → Int → Int → Option Int) (params : List Name) (b : Body)
    (l : LBody) (h : rw b = some l) (hnd : params.Nodup) (har : arityOk params.length l = true) :
    ∀ (fuel : Nat) (vals : List Int), runRec ev params b fuel vals = runLoop ev true params l fuel vals :=
  tailrec_equiv_of_update ev true params b l h fun env env' args hw hs =>
    seqAssign_eq_par_of_not_readsOther params args env' hnd
      (walk_next_arity ev params.length l env env' args har hw) (by simpa using hs)

/-- **Lowered loop update = parallel update.** What LIR lowering emits for the loop variables of a
`While` (the optional snapshot casts, then the assignments in order) gives every loop variable the
value its loop value had at the end of the iteration — whatever the loop values are. Hypotheses:
distinct loop variables, one loop value per variable, and fresh temporaries (distinct, not loop
variables, not read by the loop values). -/
theorem lowered_update_parallel (names : List Name) (args : List Expr) (temps : List Name) (env : Env)
    (hnd : names.Nodup) (hlen : args.length = names.length) (htl : temps.length = names.length)
    (htn : temps.Nodup) (hdisj : ∀ t ∈ temps, t ∉ names) (hfresh : ∀ a ∈ args, ∀ t ∈ temps, a ≠ .var t) :
    names.map (seqAssign (seqAssign env (lowerLoopUpdate names args temps).1)
        (names.zip (lowerLoopUpdate names args temps).2)) = args.map (Expr.eval env) := by
  unfold lowerLoopUpdate
  by_cases hro : readsOther names args = true
  · simp only [hro, if_true]
    -- the casts: every temporary receives the value of its loop value
    have hA := seqAssign_eq_par temps args env htn (by omega) (noBackwardRef_of_disjoint temps args hfresh)
    -- the assignments: every loop variable receives its temporary
    have hB := seqAssign_eq_par names (temps.map Expr.var) (seqAssign env (temps.zip args)) hnd
      (by simp [htl]) (noBackwardRef_of_disjoint names (temps.map Expr.var) (by
        intro a ha p hp hap
        obtain ⟨t, ht, rfl⟩ := List.mem_map.mp ha
        cases hap
        exact hdisj p ht hp))
    rw [hB, List.map_map]
    have : (Expr.eval (seqAssign env (temps.zip args)) ∘ Expr.var) = seqAssign env (temps.zip args) := by
      funext t; rfl
    rw [this]
    exact hA
  · have hro' : readsOther names args = false := by simpa using hro
    simp only [hro', Bool.false_eq_true, if_false, seqAssign]
    exact seqAssign_eq_par_of_not_readsOther names args env hnd hlen hro'


/-- `swap(a, b, n) = if n == 0 { a * 10 + b } else { swap(b, a, n - 1) }` -/
def swapBody : Body :=
  .bin 10 .eq (.var 2) (.lit 0)
    (.ite (.var 10)
      (.bin 11 .mul (.var 0) (.lit 10) (.bin 12 .add (.var 11) (.var 1) (.ret (.var 12))))
      (.bin 13 .sub (.var 2) (.lit 1) (.tail [.var 1, .var 0, .var 13])))

def swapLoop : LBody :=
  .bin 10 .eq (.var 2) (.lit 0)
    (.sif (.var 10) false
      (.bin 11 .mul (.var 0) (.lit 10) (.bin 12 .add (.var 11) (.var 1) (.ret (.var 12))))
      (.bin 13 .sub (.var 2) (.lit 1) (.done [.var 1, .var 0, .var 13])))

theorem swap_rw : rw swapBody = some swapLoop := by rfl

/-- Regression witness of finding C01-F2: recursion and loop both give 21. -/
theorem swap_regression :
    runRec evalTarget [0, 1, 2] swapBody 5 [1, 2, 1] = some 21 ∧
    runLoop evalTarget true [0, 1, 2] swapLoop 5 [1, 2, 1] = some 21 := by
  constructor <;> decide

-- the swap satisfies the hypotheses of `tailrec_equiv_seq`; its loop values read other parameters, those of
-- an accumulating call (`[.var 0, .var 12, .var 13]`) would not
example : arityOk 3 swapLoop = true := by decide
example : readsOther [0, 1, 2] [.var 1, .var 0, .var 13] = true := by decide
example : readsOther [0, 1, 2] [.var 0, .var 12, .var 13] = false := by decide
example : [0, 1, 2].Nodup := by decide
example : runRec evalTarget [0, 1, 2] swapBody 5 [1, 2, 2] = some 12 := by decide

end SamVerif.C01

/-! ## K3b — tail recursion to loop, over statement lists -/
namespace SamVerif.C01
open SamVerif.TailStmt
open SamVerif.TailRec (Name Expr Env upd bindParams seqAssign readsOther)
open SamVerif.Opt (Op evalTarget)

theorem runRec_lit (ev : Op → Int → Int → Option Int) (f : Fn) (m : Int) (hr : f.ret = .lit m) :
    ∀ (fuel : Nat) (vals : List Int) (v : Int), runRec ev f fuel vals = some v → v = m := by
  intro fuel vals v h
  cases fuel with
  | zero => simp [runRec] at h
  | succ k =>
    simp only [runRec] at h
    split at h
    · simp [hr, Expr.eval] at h; exact h.symm
    · cases h

/-- **tailrec_equiv over full statement lists.** For every operator semantics in which `0 + 0`
does not trap (the rewrite turns a final self call `r = f(…)` into `r = 0 + 0`, `tryRw`) and every
function `f` of the MIR fragment (Binary, Cast, self calls anywhere, IfElse with final
assignments) that the tail-recursion rewrite accepts: the rewritten `While` form
— as the backends run it — returns exactly what the recursive function returns, for all arguments
and all fuel. Hypotheses: distinct parameter names and the front-end shape `good` (final
assignments have distinct names, tail calls are well-typed and their collector is not among their
own arguments, a branch whose value is a literal does not end in a result-dropping self call). -/
theorem tailrec_stmt_equiv (ev : Op → Int → Int → Option Int) (hadd : (ev .add 0 0).isSome = true)
    (f : Fn) (lf : LoopFn) (h : rewriteFn f = some lf) (hp : plain f.body = true)
    (hg : good f.params.length f.body (asVar f.ret) = true) (hnd : f.params.Nodup) :
    ∀ (fuel : Nat) (vals : List Int), runRec ev f fuel vals = runLoop ev lf fuel vals := by
  unfold rewriteFn at h
  cases hrw : tryRw f.params.length f.body (asVar f.ret) 0 with
  | none => simp [hrw] at h
  | some res =>
    obtain ⟨stmts, args, n⟩ := res
    simp only [hrw, Option.some.injEq] at h
    subst h
    have hlen : args.length = f.params.length :=
      tryRw_args_length f.params.length f.body (asVar f.ret) 0 (stmts, args, n) hrw hg
    -- Induction on fuel. By the hypothesis the callee of both sides is `runRec ev f k`; `core` then
    -- relates the activation (`r`) to the iteration of the loop body (`l`), and the cases of `l` are
    -- read off `RelL`: a trap, a `Break` with the result, or the loop values, on which the callee
    -- (= the next iterations, by the hypothesis again) gives the result.
    intro fuel
    induction fuel with
    | zero => intro vals; rfl
    | succ k ih =>
      intro vals
      have hc : runLoop ev ⟨f.params, stmts, args, readsOther f.params args, n, asVar f.ret, f.ret⟩ k =
          runRec ev f k := funext (fun v => (ih v).symm)
      simp only [runRec, runLoop]
      rw [hc]
      have hcore := core ev (runRec ev f k) f.params.length hadd
        (Rw.of_tryRw _ _ _ _ _ hrw) hp hg (bindParams f.params vals)
      simp only at hcore
      revert hcore
      generalize execBlk ev (runRec ev f k) (bindParams f.params vals) f.body = r
      generalize execBlk ev (runRec ev f k) (bindParams f.params vals) stmts = l
      intro hcore
      cases l with
      | none =>
        have : r = none := hcore
        subst this; rfl
      | some fl =>
        cases fl with
        | broke v =>
          obtain ⟨env', rfl, hv⟩ : ∃ env', r = some (.next env') ∧ ∀ x, asVar f.ret = some x → env' x = v := hcore
          cases hr : f.ret with
          | lit m => simp [Expr.eval]
          | var x => simp [Expr.eval, hv x (by simp [hr, asVar])]
        | next e2 =>
          -- the loop values, assigned sequentially or through the snapshot, are the argument values
          have hnext : (if readsOther f.params args = true then
                runRec ev f k (args.map (Expr.eval e2))
              else runRec ev f k (f.params.map (seqAssign e2 (f.params.zip args)))) =
              runRec ev f k (args.map (Expr.eval e2)) := by
            split
            · rfl
            · rename_i hro
              rw [TailRec.seqAssign_eq_par_of_not_readsOther f.params args e2 hnd hlen (by simpa using hro)]
          simp only [hnext]
          cases hcal : runRec ev f k (args.map (Expr.eval e2)) with
          | none =>
            have : r = none := by simpa [RelL, outcome, hcal] using hcore
            subst this; rfl
          | some rv =>
            obtain ⟨env', rfl, hv⟩ : ∃ env', r = some (.next env') ∧ ∀ x, asVar f.ret = some x → env' x = rv := by
              simpa [RelL, outcome, hcal] using hcore
            cases hr : f.ret with
            | lit m =>
              have := runRec_lit ev f m hr k _ rv hcal
              simp [Expr.eval, this]
            | var x => simp [Expr.eval, hv x (by simp [hr, asVar])]


/-- swap(a, b, n) with its full plumbing: `c = (n == 0); if c { t = a * 10; r1 = t + b } else { m = n - 1;
r2 = swap(b, a, m) } finals res = r1 | r2; return res` -/
def swapFn : TailStmt.Fn :=
  { params := [0, 1, 2],
    body := .bin 10 .eq (.var 2) (.lit 0)
      (.ifElse (.var 10)
        (.bin 11 .mul (.var 0) (.lit 10) (.bin 12 .add (.var 11) (.var 1) .done))
        (.bin 13 .sub (.var 2) (.lit 1) (.call [.var 1, .var 0, .var 13] (some 14) .done))
        [(15, .var 12, .var 14)] .done),
    ret := .var 15 }
example : (rewriteFn swapFn).isSome = true := by decide
example : plain swapFn.body = true ∧ good 3 swapFn.body (asVar swapFn.ret) = true := by decide
example : (rewriteFn swapFn).map (·.snapshot) = some true := by decide

end SamVerif.C01

/-! ## K4 — constant-parameter elimination: the decision kernel, one self-recursive function -/
namespace SamVerif.C01
open SamVerif.TailRec
open SamVerif.Opt (Op evalTarget)

/-! `meet_param_state` as a semilattice: `unused` absorbs, `referenced` is neutral, and the states in
between are flat over `unopt`. -/

theorem meet_unused_left (b : PState) : meet .unused b = .unused := rfl
theorem meet_unused_right (a : PState) : meet a .unused = .unused := by cases a <;> rfl
theorem meet_referenced_left (b : PState) : meet .referenced b = b := by cases b <;> rfl
theorem meet_referenced_right (a : PState) : meet a .referenced = a := by cases a <;> rfl

def Mid (a : PState) : Prop := a ≠ .unused ∧ a ≠ .referenced

theorem mid_or (a : PState) : a = .unused ∨ a = .referenced ∨ Mid a := by
  cases a <;> simp [Mid]

theorem meet_flat {a b : PState} (ha : Mid a) (hb : Mid b) :
    meet a b = if a = b then a else .unopt := by
  cases a with
  | unused => exact absurd rfl ha.1
  | referenced => exact absurd rfl ha.2
  | _ =>
    cases b with
    | unused => exact absurd rfl hb.1
    | referenced => exact absurd rfl hb.2
    | _ => rfl

theorem mid_flat {a b : PState} (ha : Mid a) : Mid (if a = b then a else .unopt) := by
  split
  · exact ha
  · exact ⟨nofun, nofun⟩

theorem flat_unopt_right (a : PState) : (if a = .unopt then a else .unopt) = .unopt := by
  split
  · assumption
  · rfl

theorem meet_comm (a b : PState) : meet a b = meet b a := by
  rcases mid_or a with rfl | rfl | ha
  · rw [meet_unused_left, meet_unused_right]
  · rw [meet_referenced_left, meet_referenced_right]
  rcases mid_or b with rfl | rfl | hb
  · rw [meet_unused_left, meet_unused_right]
  · rw [meet_referenced_left, meet_referenced_right]
  rw [meet_flat ha hb, meet_flat hb ha]
  by_cases h : a = b
  · subst h; rfl
  · rw [if_neg h, if_neg (Ne.symm h)]

theorem meet_idem (a : PState) : meet a a = a := by
  cases a <;> simp [meet]

theorem meet_assoc (a b c : PState) : meet (meet a b) c = meet a (meet b c) := by
  rcases mid_or a with rfl | rfl | ha
  · rfl
  · simp only [meet_referenced_left]
  rcases mid_or b with rfl | rfl | hb
  · simp only [meet_unused_left, meet_unused_right]
  · simp only [meet_referenced_left, meet_referenced_right]
  rcases mid_or c with rfl | rfl | hc
  · simp only [meet_unused_right]
  · simp only [meet_referenced_right]
  rw [meet_flat ha hb, meet_flat hb hc, meet_flat (mid_flat ha) hc, meet_flat ha (mid_flat hb)]
  by_cases hab : a = b
  · subst hab
    by_cases hbc : a = c
    · subst hbc; simp only [if_true]
    · simp only [if_true, if_neg hbc, flat_unopt_right]
  · rw [if_neg hab, ite_self]
    by_cases hbc : b = c
    · subst hbc; rw [if_pos rfl, if_neg hab]
    · rw [if_neg hbc, flat_unopt_right]

theorem mid_argState (a : Arg) : Mid (argState a) := by
  cases a <;> exact ⟨nofun, nofun⟩

theorem meet_mid_ne_referenced {s m : PState} (hm : Mid m) : meet s m ≠ .referenced := by
  rcases mid_or s with rfl | rfl | hs
  · nofun
  · rw [meet_referenced_left]; exact hm.2
  · rw [meet_flat hs hm]; exact (mid_flat hs).2

theorem meet_mid_unused {s m : PState} (hm : Mid m) (h : meet s m = .unused) : s = .unused := by
  rcases mid_or s with rfl | rfl | hs
  · rfl
  · rw [meet_referenced_left] at h; exact absurd h hm.1
  · rw [meet_flat hs hm] at h; exact absurd h (mid_flat hs).1

theorem meet_mid_c32 {s m : PState} {n : Int} (hm : Mid m) (h : meet s m = .c32 n) :
    (s = .c32 n ∨ s = .referenced) ∧ m = .c32 n := by
  rcases mid_or s with rfl | rfl | hs
  · cases h
  · exact ⟨Or.inr rfl, (meet_referenced_left m).symm.trans h⟩
  · rw [meet_flat hs hm] at h
    split at h
    · rename_i e; exact ⟨Or.inl h, e ▸ h⟩
    · cases h

/-- If the fold of `paramState` over the call sites ends in `unused`, the local state it started from
already was. -/
theorem fold_unused (i : Nat) (sites : List (List Arg)) : ∀ (s : PState),
    sites.foldl (fun s args => match args[i]? with | some a => meet s (argState a) | none => s) s = .unused →
    s = .unused := by
  induction sites with
  | nil => exact fun s h => h
  | cons args rest ih =>
    intro s h
    have := ih _ h
    cases ha : args[i]? with
    | none => simpa only [ha] using this
    | some a => simp only [ha] at this; exact meet_mid_unused (mid_argState a) this

/-- If it ends in `c32 n`, it started from `c32 n` or `referenced`, and every site passed the literal `n`. -/
theorem fold_c32 (i : Nat) (n : Int) (sites : List (List Arg)) : ∀ (s : PState),
    sites.foldl (fun s args => match args[i]? with | some a => meet s (argState a) | none => s) s = .c32 n →
    (s = .c32 n ∨ s = .referenced) ∧ ∀ args ∈ sites, ∀ a, args[i]? = some a → a = .i32 n := by
  induction sites with
  | nil => exact fun s h => ⟨Or.inl h, nofun⟩
  | cons args rest ih =>
    intro s h
    obtain ⟨h1, h2⟩ := ih _ h
    cases ha : args[i]? with
    | none =>
      simp only [ha] at h1
      refine ⟨h1, fun args' hm a' ha' => ?_⟩
      rcases List.mem_cons.mp hm with rfl | hm
      · rw [ha] at ha'; cases ha'
      · exact h2 _ hm _ ha'
    | some a =>
      simp only [ha] at h1
      have hk := meet_mid_c32 (mid_argState a)
        (h1.resolve_right (meet_mid_ne_referenced (mid_argState a)))
      refine ⟨hk.1, fun args' hm a' ha' => ?_⟩
      rcases List.mem_cons.mp hm with rfl | hm
      · rw [ha] at ha'
        cases ha'
        cases a <;> cases hk.2
        rfl
      · exact h2 _ hm _ ha'

/-- **Constant decision is sound**: a parameter is replaced by the constant `n` only if the body
reads it and *every* direct call site of the function passes the literal `n` in that position. -/
theorem paramState_c32_sound (prog : List Fn) (f : Fn) (i : Nat) (p : Name) (n : Int)
    (h : paramState prog f i p = .c32 n) :
    localState f p = .referenced ∧
      ∀ args ∈ callSites prog f.name, ∀ a, args[i]? = some a → a = .i32 n := by
  have := fold_c32 i n (callSites prog f.name) (localState f p) h
  refine ⟨?_, this.2⟩
  cases this.1 with
  | inl h1 => unfold localState at h1; split at h1 <;> simp at h1
  | inr h1 => exact h1

/-- **Unused decision is sound**: a parameter is dropped as unused only if nothing in the body
reads it except self calls that copy it to its own position. -/
theorem paramState_unused_sound (prog : List Fn) (f : Fn) (i : Nat) (p : Name)
    (h : paramState prog f i p = .unused) : p ∉ localReads f := by
  have := fold_unused i (callSites prog f.name) (localState f p) h
  unfold localState at this
  split at this
  · simp at this
  · simpa using ‹¬ (localReads f).contains p = true›

/-- The self-call exemption (l.94-104), stated independently: a name counts as read by a self call
iff it is passed in some position that is not its own. -/
theorem mem_selfCallReads (params : List Name) (args : List Arg) (x : Name) :
    x ∈ selfCallReads params args ↔ ∃ j : Nat, args[j]? = some (Arg.var x) ∧ params[j]? ≠ some x :=
  mem_selfCallReads_iff params args x

-- rotation f(n, a, b) -> f(n - 1, b, a): both parameters are read (seeded fault C01: they must be kept)
example : selfCallReads [0, 1, 2] [.var 9, .var 2, .var 1] = [9, 2, 1] := by decide
example : selfCallReads [0, 1, 2] [.var 9, .var 1, .var 2] = [9] := by decide
example : meet .referenced (.c32 5) = .c32 5 := by decide

section
open SamVerif.CpeSem

/-- The function as the decision kernel sees it. -/
def fnOf (self : Nat) (params : List Name) (body : CBody) : Fn :=
  { name := self, params := params, atoms := atomsOf self body }

/-- **Eliminating a parameter classified `Unused` preserves behaviour.** For every operator
semantics, every self-recursive function of the fragment (self calls in any position, prints,
if-else), every program around it: if the decision kernel ends with `Unused` for parameter `i`, the
function with that parameter removed from its signature and from every self call prints the same
lines and returns the same value — for all arguments and all fuel. (Hypotheses besides the
decision: MIR well-formedness — distinct parameter names, parameters never assigned, self calls
with one argument per parameter; and `self ≠ 999`, an artefact of the model: `atomsOf` summarises
`print` as a call of function 999, which must not be taken for a self call.) -/
theorem cpe_unused_preserves (ev : Op → Int → Int → Option Int) (prog : List Fn) (self : Nat)
    (hself : self ≠ 999) (params : List Name) (body : CBody) (i : Nat) (p : Name)
    (hp : params[i]? = some p) (hnd : params.Nodup)
    (hdec : paramState prog (fnOf self params body) i p = .unused)
    (hass : assigns p body = false) (har : callsArity params.length body = true) :
    ∀ (fuel : Nat) (vals : List Int),
      run ev params body fuel vals =
        run ev (params.eraseIdx i) (dropArg i body) fuel (vals.eraseIdx i) := by
  intro fuel vals
  have hr : p ∉ readsOf self params body := by
    have := paramState_unused_sound prog (fnOf self params body) i p hdec
    simpa [fnOf, localReads_eq] using this
  have hok := okUnused_of_reads self hself params p i hp hnd body hr hass har
  exact exec_drop ev params body p i hp hnd hok fuel body _ _ [] (bindParams_erase p params vals i hp) hok

/-- **Eliminating a parameter classified `Int32Constant(n)` preserves behaviour.** If the decision
kernel ends with the constant `n` for parameter `i` of a function that is part of the program, then
— whenever the function is entered with `n` in that position, which is what every call site does
(`paramState_c32_sound`) — the function with the parameter replaced by the literal and removed from
its signature and from every self call behaves the same, for all other arguments and all fuel.
(`self ≠ 999` is the hypothesis of `cpe_unused_preserves`; here nothing depends on it.) -/
theorem cpe_const_preserves (ev : Op → Int → Int → Option Int) (prog : List Fn) (self : Nat)
    (hself : self ≠ 999) (params : List Name) (body : CBody) (i : Nat) (p : Name) (n : Int)
    (hp : params[i]? = some p) (hnd : params.Nodup)
    (hmem : fnOf self params body ∈ prog)
    (hdec : paramState prog (fnOf self params body) i p = .c32 n)
    (hass : assigns p body = false) (har : callsArity params.length body = true) :
    ∀ (fuel : Nat) (vals : List Int), vals[i]? = some n →
      run ev params body fuel vals =
        run ev (params.eraseIdx i) (dropArg i (substVar p n body)) fuel (vals.eraseIdx i) := by
  intro fuel vals hv
  have hsites := (paramState_c32_sound prog (fnOf self params body) i p n hdec).2
  have hi : i < params.length := (List.getElem?_eq_some_iff.mp hp).1
  have hok : okConst p i n params.length body := by
    apply okConst_of_calls p i n params.length hi body _ hass har
    intro args hargs a ha
    apply hsites (args.map exprArg) _ a ha
    simp only [callSites, List.mem_flatMap, List.mem_filterMap]
    refine ⟨fnOf self params body, hmem, .call self (args.map exprArg), ?_, by simp [fnOf]⟩
    rw [← callsOf_toP self] at hargs
    show _ ∈ atomsOf self body
    rw [← atomsOf_toP]
    exact CpeProg.callsOf_atoms self _ args hargs
  exact exec_subst ev params body p i n hp hnd hok fuel body _ _ [] (bindParams_erase p params vals i hp)
    (bindParams_get p params vals i n hp hnd hv) hok

-- g(n, c, dead) = if n <= 0 { 0 } else { let r = g(n - 1, 5, dead); print(n, c); c * n + r }, called as g(3, 5, 78)
def gBody : CBody :=
  .bin 10 .le (.var 0) (.lit 0)
    (.ite (.var 10) (.ret (.lit 0))
      (.bin 11 .sub (.var 0) (.lit 1)
        (.call 12 [.var 11, .lit 5, .var 2]
          (.print [.var 0, .var 1]
            (.bin 13 .mul (.var 1) (.var 0) (.bin 14 .add (.var 13) (.var 12) (.ret (.var 14))))))))
def gProg : List Fn :=
  [{ name := 0, params := [], atoms := [.call 1 [.i32 3, .i32 5, .i32 78]] }, fnOf 1 [0, 1, 2] gBody]
-- the hypotheses of both theorems are satisfiable: `dead` is Unused, `c` is the constant 5
example : paramState gProg (fnOf 1 [0, 1, 2] gBody) 2 2 = .unused := by decide
example : paramState gProg (fnOf 1 [0, 1, 2] gBody) 1 1 = .c32 5 := by decide
example : paramState gProg (fnOf 1 [0, 1, 2] gBody) 0 0 = .unopt := by decide
example : assigns 2 gBody = false ∧ assigns 1 gBody = false ∧ callsArity 3 gBody = true := by decide
example : fnOf 1 [0, 1, 2] gBody ∈ gProg := by simp [gProg]

/-- The variant of the self-call exemption that seeded faults C01 / C03f put in place of
`selfCallReads`: an argument is skipped as soon as it is *some* parameter, in any slot. -/
def selfCallReadsAnySlot (params : List Name) (args : List Arg) : List Name :=
  args.filterMap fun a => match a with
    | .var x => if params.contains x then none else some x
    | _ => none

/-- `rot(n, a, b) = if n <= 0 { a } else { rot(n - 1, b, a) }`: `b` is only ever passed on, into `a`'s slot. -/
def rotBody : CBody :=
  .bin 10 .le (.var 0) (.lit 0)
    (.ite (.var 10) (.ret (.var 1))
      (.bin 11 .sub (.var 0) (.lit 1) (.call 12 [.var 11, .var 2, .var 1] (.ret (.var 12)))))

/-- **The own-slot clause is necessary.** With the any-slot variant `b` is read by nothing (so it
would be classified `Unused`), the real rule classifies it `Referenced`, and removing it changes
the result: `rot(1, 5, 7)` is 7, the function without `b` returns 0. -/
theorem cpe_anyslot_counterexample :
    selfCallReadsAnySlot [0, 1, 2] [.var 11, .var 2, .var 1] = [11] ∧
    localState (fnOf 1 [0, 1, 2] rotBody) 2 = .referenced ∧
    run evalTarget [0, 1, 2] rotBody 3 [1, 5, 7] = some ([], 7) ∧
    run evalTarget ([0, 1, 2].eraseIdx 2) (dropArg 2 rotBody) 3 ([1, 5, 7].eraseIdx 2) = some ([], 0) := by
  refine ⟨by decide, by decide, ?_, ?_⟩
  -- `exec` is defined by well-founded recursion on (fuel, body), which `decide` / `rfl` do not
  -- unfold: the two runs are evaluated with its equations
  · simp [run, rotBody, exec, bindParams, upd, Expr.eval, evalTarget, Opt.b2i, Opt.wrap32]
  · simp [run, rotBody, dropArg, exec, bindParams, upd, Expr.eval, evalTarget, Opt.b2i, Opt.wrap32]

end

end SamVerif.C01

/-! ## K4c — constant-parameter elimination over a program of functions -/
namespace SamVerif.C01
open SamVerif.TailRec SamVerif.CpeProg
open SamVerif.Opt (Op)

/-- Well-formedness of the program with respect to the eliminated parameter: function names are
unique, the parameter is never assigned inside `g`, and every call of `g` anywhere passes one
argument per parameter. -/
structure ProgWf (prog : Prog) (g kg : Nat) (p : Name) : Prop where
  unique : (prog.map (·.name)).Nodup
  arity : ∀ fn ∈ prog, callsArityG g kg fn.body = true
  noAssign : ∀ fn ∈ prog, fn.name = g → assignsP p fn.body = false

/-- **Eliminating an `Unused` parameter from a program of mutually calling functions preserves the
behaviour of every function.** If the decision kernel, run on the summary of the whole program,
ends with `Unused` for parameter `i` of `g`, then after removing it from `g`'s signature and from
every call of `g` in every function, each function of the program prints the same lines and
returns the same value (a caller of `g` itself drops the argument), for all arguments and fuel.
(`g ≠ 999` is an artefact of the model: `atomsOf` summarises `print` as a call of function 999, which
must not be taken for a call of `g` by itself.) -/
theorem cpe_prog_unused_preserves (ev : Op → Int → Int → Option Int) (prog : Prog) (g i : Nat)
    (hg9 : g ≠ 999) (gfn : PFn) (p : Name)
    (hg : lookup prog g = some gfn) (hp : gfn.params[i]? = some p) (hnd : gfn.params.Nodup)
    (hdec : paramState (prog.map CpeProg.fnOf) (CpeProg.fnOf gfn) i p = .unused)
    (hwf : ProgWf prog g gfn.params.length p) :
    ∀ (h : Nat) (fuel : Nat) (vals : List Int),
      run ev prog h fuel vals =
        run ev (dropParam g i prog) h fuel (if h = g then vals.eraseIdx i else vals) := by
  have hgm := lookup_mem hg
  have hr : p ∉ readsOf gfn.name gfn.params gfn.body := by
    have := paramState_unused_sound (prog.map CpeProg.fnOf) (CpeProg.fnOf gfn) i p hdec
    simpa [localReads_fnOf] using this
  have hsame : ∀ fn ∈ prog, fn.name = g → fn = gfn := by
    intro fn hfn hn
    have := lookup_of_mem prog hwf.unique fn hfn
    rw [hn, hg] at this
    exact (Option.some.inj this).symm
  have hall : ∀ fn ∈ prog, okU g i gfn.params.length (hideOf g p fn) fn.body := by
    intro fn hfn
    by_cases hn : fn.name = g
    · have := hsame fn hfn hn
      subst this
      rw [hideOf_self hn]
      exact okU_of_reads g hg9 fn.params p i hp hnd fn.body (by simpa [hgm.2] using hr)
        (hwf.noAssign fn hfn hn) (hwf.arity fn hfn)
    · rw [hideOf_other hn]
      exact okU_none g i gfn.params.length fn.body (hwf.arity fn hfn)
  exact run_dropParam ev prog g i gfn p hg hp hnd hall

/-- **Eliminating a parameter classified `Int32Constant(n)` from a program preserves the behaviour of
every function**, provided `g` is entered from outside with `n` in that position (every call site
inside the program passes the literal, by `paramState_c32_sound`). (`g ≠ 999` is the hypothesis of
`cpe_prog_unused_preserves`; here nothing depends on it.) -/
theorem cpe_prog_const_preserves (ev : Op → Int → Int → Option Int) (prog : Prog) (g i : Nat)
    (hg9 : g ≠ 999) (gfn : PFn) (p : Name) (n : Int)
    (hg : lookup prog g = some gfn) (hp : gfn.params[i]? = some p) (hnd : gfn.params.Nodup)
    (hdec : paramState (prog.map CpeProg.fnOf) (CpeProg.fnOf gfn) i p = .c32 n)
    (hwf : ProgWf prog g gfn.params.length p) :
    ∀ (h : Nat) (fuel : Nat) (vals : List Int), (h = g → vals[i]? = some n) →
      run ev prog h fuel vals =
        run ev (substParam g i p n prog) h fuel (if h = g then vals.eraseIdx i else vals) := by
  have hgm := lookup_mem hg
  have hi : i < gfn.params.length := (List.getElem?_eq_some_iff.mp hp).1
  have hsites := (paramState_c32_sound (prog.map CpeProg.fnOf) (CpeProg.fnOf gfn) i p n hdec).2
  have hall : ∀ fn ∈ prog, okC g i gfn.params.length n (hideOf g p fn) fn.body := by
    intro fn hfn
    apply okC_of_calls g i gfn.params.length n _ hi fn.body
    · intro args hargs a ha
      apply hsites (args.map CpeSem.exprArg) _ a ha
      simp only [callSites, List.mem_flatMap, List.mem_filterMap, List.mem_map]
      refine ⟨CpeProg.fnOf fn, ⟨fn, hfn, rfl⟩, .call g (args.map CpeSem.exprArg), ?_, by simp [CpeProg.fnOf, hgm.2]⟩
      exact callsOf_atoms g fn.body args hargs
    · intro q hq
      by_cases hn : fn.name = g
      · cases (hideOf_self hn p).symm.trans hq
        exact hwf.noAssign fn hfn hn
      · cases (hideOf_other hn p).symm.trans hq
    · exact hwf.arity fn hfn
  exact run_substParam ev prog g i gfn p n hg hp hnd hall


/-- `h(k, a, b) = if k <= 0 { 0 } else { let r = g(k - 1, b, a, 7); print(k, a); r + 1 }` and
`g(k, a, b, c) = if k <= 0 { c } else { let r = h(k - 1, a, b); r + c }`, entered as `h(3, 1, 2)`:
`c` of `g` is the constant 7. -/
def hgProg : Prog :=
  [ { name := 0, params := [], body := .call 20 1 [.lit 3, .lit 1, .lit 2] (.ret (.var 20)) },
    { name := 1, params := [0, 1, 2],
      body := .bin 10 .le (.var 0) (.lit 0) (.ite (.var 10) (.ret (.lit 0))
        (.bin 11 .sub (.var 0) (.lit 1) (.call 12 2 [.var 11, .var 2, .var 1, .lit 7]
          (.print [.var 0, .var 1] (.bin 13 .add (.var 12) (.lit 1) (.ret (.var 13))))))) },
    { name := 2, params := [0, 1, 2, 3],
      body := .bin 10 .le (.var 0) (.lit 0) (.ite (.var 10) (.ret (.var 3))
        (.bin 11 .sub (.var 0) (.lit 1) (.call 12 1 [.var 11, .var 1, .var 2]
          (.bin 13 .add (.var 12) (.var 3) (.ret (.var 13)))))) } ]
example : paramState (hgProg.map CpeProg.fnOf) (CpeProg.fnOf (hgProg[2]!)) 3 3 = .c32 7 := by decide
example : (hgProg.map (·.name)).Nodup := by decide
example : hgProg.all (fun fn => callsArityG 2 4 fn.body) = true := by decide

/-- The shape the decision establishes for one eliminated parameter, in the whole program. -/
def ElimShape (prog : Prog) (g : Nat) (gfn : PFn) : Elim → Prop
  | .unused i => ∃ p, gfn.params[i]? = some p ∧
      ∀ fn ∈ prog, okU g i gfn.params.length (hideOf g p fn) fn.body
  | .const i n => ∃ p, gfn.params[i]? = some p ∧
      ∀ fn ∈ prog, okC g i gfn.params.length n (hideOf g p fn) fn.body

/-- **Composition: constant and unused parameters mixed in one sweep.** If every parameter in `es`
(highest index first) has, in the *original* program, the shape its classification establishes
(`Unused`: `okU`; `Int32Constant(n)`: `okC`), then the whole sweep — dropping the unused ones,
substituting and dropping the constant ones — keeps the printed lines and the result of every
function, provided `g` is entered from outside with the constants in their positions. -/
theorem cpe_prog_mixed_sweep_preserves (ev : Op → Int → Int → Option Int) (g : Nat) :
    ∀ (es : List Elim) (prog : Prog) (gfn : PFn), lookup prog g = some gfn → gfn.params.Nodup →
      (es.map Elim.idx).Pairwise (· > ·) → (∀ e ∈ es, ElimShape prog g gfn e) →
      ∀ (h : Nat) (fuel : Nat) (vals : List Int),
        (h = g → ∀ i n, Elim.const i n ∈ es → vals[i]? = some n) →
        run ev prog h fuel vals =
          run ev (elimMany g es gfn.params prog) h fuel
            (if h = g then eraseMany (es.map Elim.idx) vals else vals) := by
  intro es
  induction es with
  | nil => intro prog gfn _ _ _ _ h fuel vals _; simp [elimMany, eraseMany]
  | cons e rest ih =>
    intro prog gfn hg hnd hpw hsh h fuel vals hv
    have hgm := lookup_mem hg
    have hpw' := List.pairwise_cons.mp (show List.Pairwise (· > ·) (e.idx :: rest.map Elim.idx) from hpw)
    -- the rest of the sweep, after a first step that maps every function by `T`
    have cont : ∀ (T : PFn → PFn), (∀ fn, (T fn).name = fn.name) →
        (T gfn).params = gfn.params.eraseIdx e.idx → e.idx < gfn.params.length →
        (∀ (fn : PFn) (j : Nat) (hide : Option Name), j < e.idx →
          okU g j gfn.params.length hide fn.body → okU g j (gfn.params.length - 1) hide (T fn).body) →
        (∀ (fn : PFn) (j : Nat) (m : Int) (hide : Option Name), j < e.idx →
          okC g j gfn.params.length m hide fn.body → okC g j (gfn.params.length - 1) m hide (T fn).body) →
        ∀ (vals' : List Int), (h = g → ∀ j n, Elim.const j n ∈ rest → vals'[j]? = some n) →
        run ev (prog.map T) h fuel vals' =
          run ev (elimMany g rest (gfn.params.eraseIdx e.idx) (prog.map T)) h fuel
            (if h = g then eraseMany (rest.map Elim.idx) vals' else vals') := by
      intro T hname hpar hi hTU hTC vals' hv'
      have hg' : lookup (prog.map T) g = some (T gfn) := by
        rw [lookup_map prog T hname g, hg]; rfl
      have hnd' : (T gfn).params.Nodup := by rw [hpar]; exact hnd.sublist (List.eraseIdx_sublist ..)
      have hlen : (T gfn).params.length = gfn.params.length - 1 := by
        rw [hpar, List.length_eraseIdx]; simp [hi]
      have hsh' : ∀ e' ∈ rest, ElimShape (prog.map T) g (T gfn) e' := by
        intro e' he'
        have hji : e'.idx < e.idx := hpw'.1 e'.idx (List.mem_map_of_mem he')
        have hget : ∀ q, gfn.params[e'.idx]? = some q → (T gfn).params[e'.idx]? = some q := by
          intro q hq; rw [hpar, List.getElem?_eraseIdx, if_pos hji, hq]
        have hhide : ∀ q fn, hideOf g q (T fn) = hideOf g q fn := by
          intro q fn; rw [hideOf, hideOf, hname]
        have horig := hsh e' (List.mem_cons_of_mem _ he')
        cases e' with
        | unused j =>
          obtain ⟨q, hq, hallq⟩ := horig
          refine ⟨q, hget q hq, fun fn' hfn' => ?_⟩
          obtain ⟨fn, hfn, rfl⟩ := List.mem_map.mp hfn'
          rw [hlen, hhide]
          exact hTU fn j _ hji (hallq fn hfn)
        | const j m =>
          obtain ⟨q, hq, hallq⟩ := horig
          refine ⟨q, hget q hq, fun fn' hfn' => ?_⟩
          obtain ⟨fn, hfn, rfl⟩ := List.mem_map.mp hfn'
          rw [hlen, hhide]
          exact hTC fn j m _ hji (hallq fn hfn)
      have := ih (prog.map T) (T gfn) hg' hnd' hpw'.2 hsh' h fuel vals' hv'
      rwa [hpar] at this
    have hvrest : h = g → ∀ j n, Elim.const j n ∈ rest →
        (if h = g then vals.eraseIdx e.idx else vals)[j]? = some n := by
      intro hh j n hm
      have hji : j < e.idx := hpw'.1 j (List.mem_map.mpr ⟨Elim.const j n, hm, rfl⟩)
      simp only [hh, if_true]
      rw [List.getElem?_eraseIdx]
      simp [hji, hv hh j n (List.mem_cons_of_mem _ hm)]
    cases e with
    | unused i =>
      obtain ⟨p, hp, hall⟩ := hsh (.unused i) (List.mem_cons_self ..)
      have hi : i < gfn.params.length := (List.getElem?_eq_some_iff.mp hp).1
      rw [run_dropParam ev prog g i gfn p hg hp hnd hall h fuel vals]
      have := cont
        (fun fn => { fn with params := if fn.name = g then fn.params.eraseIdx i else fn.params,
                             body := dropArgs g i fn.body })
        (fun _ => rfl) (by simp [hgm.2, Elim.idx]) hi
        (fun fn j hide hj hq => okU_dropArgs g i j _ hide hj hi fn.body hq)
        (fun fn j m hide hj hq => okC_dropArgs g i j _ m hide hj hi fn.body hq)
        (if h = g then vals.eraseIdx i else vals) hvrest
      simp only [elimMany, elimStep, Elim.idx, dropParam, eraseMany, List.map_cons, List.foldl_cons] at this ⊢
      rw [this]
      by_cases hh : h = g <;> simp [hh]
    | const i n =>
      obtain ⟨p, hp, hall⟩ := hsh (.const i n) (List.mem_cons_self ..)
      have hi : i < gfn.params.length := (List.getElem?_eq_some_iff.mp hp).1
      rw [run_substParam ev prog g i gfn p n hg hp hnd hall h fuel vals
        (fun hh => hv hh i n (List.mem_cons_self ..))]
      have := cont
        (fun fn => { fn with params := if fn.name = g then fn.params.eraseIdx i else fn.params,
                             body := dropArgs g i (if fn.name = g then substVar p n fn.body else fn.body) })
        (fun _ => rfl) (by simp [hgm.2, Elim.idx]) hi
        (fun fn j hide hj hq => okU_dropArgs g i j _ hide hj hi _
          (by
            split
            · exact okU_substVar g j _ hide p n fn.body hq
            · exact hq))
        (fun fn j m hide hj hq => okC_dropArgs g i j _ m hide hj hi _
          (by
            split
            · exact okC_substVar g j _ m hide p n fn.body hq
            · exact hq))
        (if h = g then vals.eraseIdx i else vals) hvrest
      simp only [elimMany, elimStep, Elim.idx, substParam, eraseMany, List.map_cons, List.foldl_cons, hp,
        Option.getD_some] at this ⊢
      rw [this]
      by_cases hh : h = g <;> simp [hh]


theorem elimMany_unused (g : Nat) : ∀ (is : List Nat) (params : List Name) (prog : Prog),
    elimMany g (is.map .unused) params prog = dropMany g is prog := by
  intro is
  induction is with
  | nil => intro _ _; rfl
  | cons i rest ih => intro params prog; exact ih _ _

/-- Every index of `is` names a parameter of `gfn` for which the whole program has the
"cannot be observed" shape (what the decision `Unused` establishes: `okU_of_reads`, `okU_none`). -/
def AllUnusedShape (prog : Prog) (g : Nat) (gfn : PFn) (is : List Nat) : Prop :=
  ∀ i ∈ is, ∃ p, gfn.params[i]? = some p ∧
    ∀ fn ∈ prog, okU g i gfn.params.length (hideOf g p fn) fn.body

/-- **Composition: eliminating several unused parameters.** If the parameters `is` of `g` (listed
from the highest index down, as `rewrite_sources` removes them in one sweep) all have the
unused shape *in the original program* — the decision is taken once, before any rewriting — then
removing all of them keeps the printed lines and the result of every function of the program.
This is the mixed sweep without constant parameters: there the parameters are removed one at a time
and the shape of the remaining ones survives each removal (`okU_dropArgs`), i.e. eliminating in
sequence is justified by the one-shot decision. -/
theorem cpe_prog_unused_many_preserves (ev : Op → Int → Int → Option Int) (g : Nat) :
    ∀ (is : List Nat) (prog : Prog) (gfn : PFn), lookup prog g = some gfn → gfn.params.Nodup →
      is.Pairwise (· > ·) → AllUnusedShape prog g gfn is →
      ∀ (h : Nat) (fuel : Nat) (vals : List Int),
        run ev prog h fuel vals =
          run ev (dropMany g is prog) h fuel (if h = g then eraseMany is vals else vals) := by
  intro is prog gfn hg hnd hpw hsh h fuel vals
  have hidx : (is.map Elim.unused).map Elim.idx = is := by
    rw [List.map_map]; exact List.map_id _
  have := cpe_prog_mixed_sweep_preserves ev g (is.map .unused) prog gfn hg hnd (hidx.symm ▸ hpw)
    (fun e he => by
      -- `AllUnusedShape` is `ElimShape … (.unused i)` for every `i ∈ is`, by definition
      obtain ⟨i, hi, rfl⟩ := List.mem_map.mp he; exact hsh i hi) h fuel vals
    (fun _ i n hm => by simp at hm)
  rwa [elimMany_unused, hidx] at this


-- in `hgProg` nothing is unused; the empty list meets `AllUnusedShape` trivially and says nothing
-- about whether the hypothesis can be met by a non-empty one
example : AllUnusedShape hgProg 2 (hgProg[2]!) [] := fun _ h => by cases h

-- for `hgProg`, where parameter 3 of function 2 (`c`) is the constant 7, the sweep is `[Elim.const 3 7]`:
-- its index list is decreasing (that `c` has the shape `ElimShape` is not shown here)
example : (Elim.const 3 7).idx = 3 := rfl
example : ([Elim.const 3 7].map Elim.idx).Pairwise (· > ·) := by decide

end SamVerif.C01

/-! ## K5 — the Vec runtime (libsam.wat) -/
namespace SamVerif.C01
open SamVerif.VecRt

-- the three ways to make a Vec give well-formed ones (`Wf` can be met)
theorem wf_empty : Wf empty := by simp [Wf, empty]
theorem wf_withCapacity (c : Nat) : Wf (withCapacity c) := by simp [Wf, withCapacity]
theorem wf_ofV (x : Int) : Wf (ofV x) := by
  refine ⟨by simp [ofV], ?_⟩
  intro i hi
  have : i = 0 := by simp [ofV] at hi; omega
  subst this
  exact ⟨x, by simp [ofV]⟩

theorem reserve_len (v : Vec) (m : Nat) : (reserve v m).len = v.len := by
  unfold reserve; split <;> rfl

theorem reserve_cap (v : Vec) (m : Nat) (h : Wf v) : m ≤ (reserve v m).data.length := by
  unfold reserve
  split
  · assumption
  · have := h.1
    simp only [List.length_append, List.length_take, List.length_replicate, Nat.min_eq_left this]
    split <;> split <;> omega

theorem reserve_take (v : Vec) (m : Nat) (h : Wf v) : (reserve v m).data.take v.len = v.data.take v.len := by
  unfold reserve
  split
  · rfl
  · exact List.take_left' (by rw [List.length_take]; exact Nat.min_eq_left h.1)

/-- `push` keeps the representation invariant. -/
theorem wf_push (v : Vec) (x : Int) (h : Wf v) : Wf (push v x) := by
  have hc := reserve_cap v (v.len + 1) h
  refine ⟨by simp [push]; omega, ?_⟩
  intro i hi
  simp only [push] at hi ⊢
  by_cases hq : i = v.len
  · subst hq
    exact ⟨x, by simp [List.getElem?_set]; omega⟩
  · have hlt : i < v.len := by omega
    obtain ⟨y, hy⟩ := h.2 i hlt
    refine ⟨y, ?_⟩
    rw [List.getElem?_set_ne (by omega), ← List.getElem?_take_of_lt hlt, reserve_take v _ h,
      List.getElem?_take_of_lt hlt, hy]

/-- **Growth preserves contents**: after `push` (with or without reallocation) the Vec stands for
the old sequence followed by the new element. -/
theorem push_contents (v : Vec) (x : Int) (h : Wf v) :
    contents (push v x) = contents v ++ [some x] := by
  have hlt : v.len < ((reserve v (v.len + 1)).data.set v.len (some x)).length := by
    rw [List.length_set]
    exact reserve_cap v (v.len + 1) h
  simp only [contents, push]
  rw [List.take_succ_eq_append_getElem hlt, List.take_set_of_le (Nat.le_refl _), reserve_take v _ h,
    List.getElem_set_self]

theorem oob_iff (v : Vec) (i : Int) : oob v i = true ↔ i < 0 ∨ (v.len : Int) ≤ i := by
  simp only [oob, Bool.or_eq_true, decide_eq_true_eq]
  omega

/-- **`get`: in range ⇔ a value, out of range ⇔ the prescribed panic, never an engine trap.** -/
theorem get_spec (v : Vec) (i : Int) (h : Wf v) :
    (0 ≤ i ∧ i < v.len → ∃ x, get v i = .ok x) ∧ (i < 0 ∨ (v.len : Int) ≤ i → get v i = .panicOob) ∧
      get v i ≠ .trap := by
  have ho := oob_iff v i
  have slot : ¬ oob v i = true → ∃ x, get v i = .ok x := fun hc => by
    obtain ⟨x, hx⟩ := h.2 i.toNat (by have := mt ho.mpr hc; omega)
    exact ⟨x, by rw [VecRt.get, if_neg hc, hx]⟩
  refine ⟨fun hr => ?_, fun hh => ?_, ?_⟩
  · -- in range: not out of bounds
    refine slot fun hc => ?_
    have := ho.mp hc
    omega
  · rw [VecRt.get, if_pos (ho.mpr hh)]
  · by_cases hc : oob v i = true
    · rw [VecRt.get, if_pos hc]; nofun
    · obtain ⟨x, hx⟩ := slot hc
      rw [hx]; nofun

/-- **`set`: panics exactly at `i < 0 ∨ i ≥ len` (in particular at `i = len`), stores otherwise,
never an engine trap.** -/
theorem set_spec (v : Vec) (i : Int) (x : Int) (h : Wf v) :
    (set v i x = .panicOob ↔ (i < 0 ∨ (v.len : Int) ≤ i)) ∧ set v i x ≠ .trap ∧
      (0 ≤ i ∧ i < v.len → ∃ v', set v i x = .ok v' ∧ Wf v' ∧ v'.len = v.len ∧ get v' i = .ok x) := by
  have ho := oob_iff v i
  have hcap := h.1
  have store : ¬ oob v i = true →
      set v i x = .ok { v with data := v.data.set i.toNat (some x) } ∧ i.toNat < v.data.length :=
    fun hc => by
      have hd : i.toNat < v.data.length := by have := mt ho.mpr hc; omega
      exact ⟨by rw [VecRt.set, if_neg hc, if_pos hd], hd⟩
  refine ⟨⟨fun hs => ?_, fun hh => by rw [VecRt.set, if_pos (ho.mpr hh)]⟩, ?_, fun hr => ?_⟩
  · -- a panic only out of bounds: in bounds the value is stored
    refine ho.mp (Classical.byContradiction fun hc => ?_)
    rw [(store hc).1] at hs; cases hs
  · -- never a trap
    by_cases hc : oob v i = true
    · rw [VecRt.set, if_pos hc]; nofun
    · rw [(store hc).1]; nofun
  · -- in range: the new Vec is well-formed, as long, and holds `x` at `i`
    have hc : ¬ oob v i = true := fun hc => by have := ho.mp hc; omega
    obtain ⟨hs, hd⟩ := store hc
    refine ⟨_, hs, ⟨by simpa using hcap, fun j hj => ?_⟩, rfl, ?_⟩
    · by_cases hq : j = i.toNat
      · subst hq; exact ⟨x, by simp [hd]⟩
      · obtain ⟨y, hy⟩ := h.2 j hj
        exact ⟨y, by simp only []; rw [List.getElem?_set_ne (fun hh => hq hh.symm), hy]⟩
    · have hc' : ¬ oob { v with data := v.data.set i.toNat (some x) } i = true := hc
      rw [VecRt.get, if_neg hc']
      simp [hd]

/-- `pop` on an empty Vec is the prescribed panic; otherwise it returns the last element, never a trap. -/
theorem pop_spec (v : Vec) (h : Wf v) :
    (v.len = 0 → pop v = .panicPop) ∧ pop v ≠ .trap ∧
      (0 < v.len → ∃ x v', pop v = .ok (x, v') ∧ Wf v' ∧ v'.len = v.len - 1 ∧
        v.data[v.len - 1]? = some (some x)) := by
  unfold pop
  refine ⟨fun h0 => by simp [h0], ?_, ?_⟩
  · by_cases h0 : v.len = 0
    · simp [h0]
    · obtain ⟨x, hx⟩ := h.2 (v.len - 1) (by omega)
      simp [h0, hx]
  · intro hpos
    have h0 : v.len ≠ 0 := by omega
    obtain ⟨x, hx⟩ := h.2 (v.len - 1) (by omega)
    refine ⟨x, { data := v.data.set (v.len - 1) none, len := v.len - 1 }, ?_, ⟨?_, ?_⟩, rfl, hx⟩
    · simp [h0, hx]
    · -- the capacity is unchanged
      have := h.1
      simp
      omega
    -- the slots below the cleared one are untouched
    intro j hj
    simp only at hj
    obtain ⟨y, hy⟩ := h.2 j (by omega)
    exact ⟨y, by simp only []; rw [List.getElem?_set_ne (by omega), hy]⟩


example : (push (push (push (push (push empty 1) 2) 3) 4) 5).data.length = 8 := by decide
example : VecRt.set (push (push empty 1) 2) 2 9 = .panicOob := by decide
example : VecRt.set (ofV 7) 1 9 = .panicOob := by decide
example : VecRt.get (push (push empty 1) 2) (-1) = .panicOob := by decide

end SamVerif.C01

/-! ## K6 — the string data segment as WAT text (`print_byte_vec`) -/
namespace SamVerif.C01
open SamVerif.DataSeg

theorem toNat_ofNat_ascii (b : Nat) (h : b < 128) : (Char.ofNat b).toNat = b := by
  have hv : b.isValidChar := Or.inl (by omega)
  simp [Char.ofNat, hv, Char.ofNatAux, Char.toNat]

theorem alnum_byte (b : Nat) (ha : isAsciiAlnum b = true) :
    Char.ofNat b ≠ '\\' ∧ utf8 (Char.ofNat b) = [b] := by
  have hb : b < 128 ∧ b ≠ 92 := by
    simp only [isAsciiAlnum, Bool.or_eq_true, Bool.and_eq_true, decide_eq_true_eq] at ha
    omega
  have ht := toNat_ofNat_ascii b hb.1
  refine ⟨fun e => hb.2 ?_, ?_⟩
  · rw [← ht, e]; rfl
  · simp only [utf8, ht, hb.1, if_true]

theorem hex_digit : ∀ d : Fin 16, hexVal (hexDigit d.val) = some d.val := by decide

theorem assemble_printByte (b : Nat) (hb : b < 256) (rest : List Char) :
    assemble (printByte b ++ rest) = (assemble rest).map (b :: ·) := by
  unfold printByte
  by_cases ha : isAsciiAlnum b = true
  · simp only [ha, if_true, List.singleton_append]
    obtain ⟨hne, hu⟩ := alnum_byte b ha
    rw [assemble]
    · simp [hne, hu]
    -- the third equation of `assemble` overlaps the second: it holds when the input does not begin with a
    -- backslash, and this one does not (`hne`)
    · intro a c r h
      exact fun _ => hne h
  · simp only [ha, Bool.false_eq_true, if_false, List.cons_append, List.nil_append]
    have h1 := hex_digit ⟨b / 16, by omega⟩
    have h2 := hex_digit ⟨b % 16, by omega⟩
    simp only at h1 h2
    simp only [assemble, h1, h2]
    have : 16 * (b / 16) + b % 16 = b := by omega
    cases assemble rest <;> simp [this]

/-- **The data-segment printer is byte-exact**: assembling what `print_byte_vec` prints gives back
exactly the bytes, for every byte sequence — so the `(offset, length)` pair of every string constant
addresses that constant's own bytes, whatever precedes it in the shared segment. -/
theorem assemble_printBytes (bs : List Nat) (h : ∀ b ∈ bs, b < 256) :
    assemble (printBytes bs) = some bs := by
  induction bs with
  | nil => rfl
  | cons b rest ih =>
    simp only [printBytes, List.flatMap_cons]
    rw [assemble_printByte b (h b (List.mem_cons_self ..))]
    have := ih (fun x hx => h x (List.mem_cons_of_mem _ hx))
    simp only [printBytes] at this
    rw [this]; rfl


-- "é" = c3 a9: two escapes, two bytes back (the seeded fault C01f printed the Latin-1 characters raw: four bytes)
example : printBytes [99, 0xc3, 0xa9] = ['c', '\\', 'c', '3', '\\', 'a', '9'] := by decide
example : assemble ['c', 'Ã', '©'] = some [99, 0xc3, 0x83, 0xc2, 0xa9] := by decide

end SamVerif.C01

/-! ## K7 — launchers of a multi-entry project (`compile_sources`) -/
namespace SamVerif.C01
open SamVerif.Launcher

/-- **The launcher of an entry point is a function of that entry alone**: whatever entry points
come before or after it in the project, launcher number `pre.length` calls exactly the encoded
`Main.main` of its own module (seeded fault C01g let the name buffer accumulate the earlier ones). -/
theorem launcher_independent (pre post : List Mod) (m : Mod) :
    (launchers (pre ++ m :: post))[pre.length]? = some (m, mainName m) := by
  simp [launchers]

example : String.ofList (mainName ["Report".toList]) = "_Report_Main$main" := rfl
example : String.ofList (mainName ["audit".toList, "Log-2".toList]) = "_audit$Log_2_Main$main" := rfl

end SamVerif.C01
