import SamVerif.Lemmas.PStr
import SamVerif.Model.Heap
/-!
# C17, second part — the 16-byte handle representation

`PStr` equality/hash are computed on the raw 128-bit value and the inline/heap distinction on its
top byte.  The heap model (`Model/Heap.lean`) uses the structural `Handle` type; the theorems below
justify that abstraction for every valid UTF-8 string: tags never collide and the raw encoding is
injective, so raw equality is handle equality.
-/
namespace SamVerif.PStr
open SamVerif.Heap (Handle)
/-- **Tag disjointness**: for every valid UTF-8 string of at most 15 bytes the inline form is never
mistaken for a heap id, whichever field order the compiler chose; a heap id is never mistaken for
an inline string. -/
theorem inline_tag_disjoint (s : String) (h : (bytesOf s).length ≤ 15) :
    isHeap (rawInlineA (bytesOf s)) = false ∧ isHeap (rawInlineB (bytesOf s)) = false ∧
    ∀ id, isHeap (rawId id) = true := by
  refine ⟨?_, ?_, ?_⟩
  · -- the top byte is byte 14 of the string, below 248, or the padding `0`
    simp only [isHeap, topByte_rawInlineA, beq_eq_false_iff_ne, ne_eq, List.getD_eq_getElem?_getD]
    cases hg : (bytesOf s)[14]? with
    | none => exact (by decide : (0 : UInt8) ≠ 255)
    | some b =>
      intro (hc : b = 255)
      have := bytesOf_lt s b (List.mem_of_getElem? hg)
      rw [hc] at this
      exact absurd this (by decide)
  · -- the top byte is the length, at most 15
    simp only [isHeap, topByte_rawInlineB _ h, beq_eq_false_iff_ne, ne_eq]
    intro hc
    have := ofNat_inj_small (bytesOf s).length 255 (by omega) (by decide) hc
    omega
  · intro id; simp [isHeap, topByte_rawId]

/-- Raw 16-byte value of a model handle (field order A). -/
def raw : Handle → Bytes
  | .inl s => rawInlineA s
  | .ref id => rawId id

/-- A handle the heap API can return: an inline string of ≤ 15 UTF-8 bytes or a 32-bit slot id. -/
def Issued : Handle → Prop
  | .inl s => (∃ str : String, bytesOf str = s) ∧ s.length ≤ 15
  | .ref id => id < 2 ^ 32

/-- **Raw equality is handle equality** (hence `Eq`/`Hash` on the `u128` agree with the model's
structural equality, for all issued handles). -/
theorem raw_eq_iff (p q : Handle) (hp : Issued p) (hq : Issued q) : raw p = raw q ↔ p = q := by
  -- an inline value and an id differ in the tag
  have mixed : ∀ (s : Bytes) (j : Nat), Issued (.inl s) → rawInlineA s ≠ rawId j := by
    rintro _ j ⟨⟨str, rfl⟩, hl⟩ e
    have h1 := (inline_tag_disjoint str hl).1
    rw [e, (inline_tag_disjoint str hl).2.2 j] at h1
    cases h1
  constructor
  · intro h
    cases p with
    | inl s =>
      cases q with
      | inl t => rw [rawInlineA_inj s t hp.2 hq.2 h]
      | ref j => exact absurd h (mixed s j hp)
    | ref i =>
      cases q with
      | inl t => exact absurd h.symm (mixed t i hq)
      | ref j => rw [rawId_inj i j hp hq h]
  · intro h; rw [h]

/-- non-vacuity: a 15-byte string ending in a multi-byte character and a slot id -/
example : Issued (.inl (bytesOf "aaaaaaaaaaaaé")) := ⟨⟨_, rfl⟩, by decide⟩
example : isHeap (rawInlineA (bytesOf "aaaaaaaaaaaaé")) = false := by decide
example : isHeap (rawId 7) = true := by decide

end SamVerif.PStr
