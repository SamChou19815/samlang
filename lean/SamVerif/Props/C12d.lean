import SamVerif.Model.MirFull
/-! # C12 — `mir_rename_invariant_full`: renaming invariance over the MIR interpreter
`Model/MirFull.lean` (all 14 statement kinds of `mir.rs` `Statement`, plus `println`). -/
namespace SamVerif.MirFull

def Inj (f : Nat → Nat) : Prop := ∀ a b, f a = f b → a = b

structure RenInj (ρ : Ren) : Prop where
  f : Inj ρ.f
  g : Inj ρ.g
  v : Inj ρ.v

theorem lookup_ren {β γ : Type} (r : Nat → Nat) (hr : Inj r) (h : β → γ) (l : List (Nat × β)) (k : Nat) :
    lookup (l.map fun kb => (r kb.1, h kb.2)) (r k) = (lookup l k).map h := by
  -- the branches of `lookup`: empty; the first key is `k`; the first key `k'` is not `k` (so `r k' ≠ r k`)
  fun_induction lookup l k with
  | case1 => rfl
  | case2 b rest => exact if_pos rfl
  | case3 k' b rest hk ih => exact (if_neg fun e => hk (hr _ _ e)).trans ih

theorem evalE_ren (ρ : Ren) (hρ : RenInj ρ) (p : Prog) (σ : St) (e : Expr) :
    evalE (renProg ρ p) (renSt ρ σ) (renE ρ e) = (evalE p σ e).map (renVal ρ) := by
  cases e with
  | lit n => simp [renE, evalE, renVal]
  | var x =>
    simp only [renE, evalE, renSt, renEnv]
    exact lookup_ren ρ.v hρ.v (renVal ρ) σ.env x
  | glob g =>
    simp only [renE, evalE, renProg]
    have := lookup_ren ρ.g hρ.g (id : List Nat → List Nat) p.globs g
    simp only [id] at this
    rw [this]
    cases lookup p.globs g <;> simp [renVal]
  | fname f => simp [renE, evalE, renVal]

theorem evalInt_ren (ρ : Ren) (hρ : RenInj ρ) (p : Prog) (σ : St) (e : Expr) :
    evalInt (renProg ρ p) (renSt ρ σ) (renE ρ e) = evalInt p σ e := by
  simp only [evalInt, evalE_ren ρ hρ]
  cases evalE p σ e with
  | none => rfl
  | some v => cases v <;> rfl

theorem evalPrinted_ren (ρ : Ren) (hρ : RenInj ρ) (p : Prog) (σ : St) (e : Expr) :
    evalPrinted (renProg ρ p) (renSt ρ σ) (renE ρ e) = evalPrinted p σ e := by
  simp only [evalPrinted, evalE_ren ρ hρ]
  cases evalE p σ e with
  | none => rfl
  | some v => cases v <;> rfl

theorem evalArgs_ren (ρ : Ren) (hρ : RenInj ρ) (p : Prog) (σ : St) (es : List Expr) :
    evalArgs (renProg ρ p) (renSt ρ σ) (es.map (renE ρ)) = (evalArgs p σ es).map (·.map (renVal ρ)) := by
  induction es with
  | nil => simp [evalArgs]
  | cons e es ih =>
    simp only [List.map_cons, evalArgs, evalE_ren ρ hρ, ih]
    cases evalE p σ e with
    | none => rfl
    | some v => cases evalArgs p σ es <;> rfl

theorem evalIsPtr_ren (ρ : Ren) (hρ : RenInj ρ) (p : Prog) (σ : St) (e : Expr) :
    evalIsPtr (renProg ρ p) (renSt ρ σ) (renE ρ e) = evalIsPtr p σ e := by
  simp only [evalIsPtr, evalE_ren ρ hρ]
  cases evalE p σ e with
  | none => rfl
  | some v => cases v <;> rfl

theorem heap_ren (ρ : Ren) (σ : St) (a : Nat) :
    (renSt ρ σ).heap[a]? = (σ.heap[a]?).map (·.map (renVal ρ)) := by
  simp [renSt]

theorem evalIndex_ren (ρ : Ren) (hρ : RenInj ρ) (p : Prog) (σ : St) (e : Expr) (i : Nat) :
    evalIndex (renProg ρ p) (renSt ρ σ) (renE ρ e) i = (evalIndex p σ e i).map (renVal ρ) := by
  simp only [evalIndex, evalE_ren ρ hρ]
  cases evalE p σ e with
  | none => rfl
  | some v =>
    cases v with
    | ptr a =>
      simp only [Option.map_some, renVal, heap_ren]
      cases σ.heap[a]? with
      | none => rfl
      | some obj => exact List.getElem?_map
    | int n => rfl
    | str s => rfl
    | fn f => rfl

theorem resolveCallee_ren (ρ : Ren) (hρ : RenInj ρ) (p : Prog) (σ : St) (c : Callee) (args : List Val) :
    resolveCallee (renProg ρ p) (renSt ρ σ) (renCallee ρ c) (args.map (renVal ρ)) =
      (resolveCallee p σ c args).map fun r => (ρ.f r.1, r.2.map (renVal ρ)) := by
  cases c with
  | direct f => rfl
  | closure e =>
    simp only [resolveCallee, renCallee, evalE_ren ρ hρ]
    cases evalE p σ e with
    | none => rfl
    | some v =>
      cases v with
      | ptr a =>
        simp only [Option.map_some, renVal, heap_ren]
        -- renaming keeps the shape `[fn f, ctx]` of a closure object and the kind of its head
        cases σ.heap[a]? with
        | none => rfl
        | some obj =>
          rcases obj with _ | ⟨x, _ | ⟨ctx, _ | _⟩⟩
          · rfl
          all_goals cases x <;> rfl
      | int n => rfl
      | str s => rfl
      | fn f => rfl

theorem bindParams_ren (ρ : Ren) (xs : List Nat) (vs : List Val) :
    bindParams (xs.map ρ.v) (vs.map (renVal ρ)) = renEnv ρ (bindParams xs vs) := by
  induction xs generalizing vs with
  | nil => simp [bindParams, renEnv]
  | cons x xs ih =>
    cases vs with
    | nil => simp [bindParams, renEnv]
    | cons v vs =>
      simp only [List.map_cons, bindParams, ih]
      simp [renEnv]

theorem lookup_fun_ren (ρ : Ren) (hρ : RenInj ρ) (p : Prog) (k : Nat) :
    lookup (renProg ρ p).funs (ρ.f k) = (lookup p.funs k).map (renFn ρ) :=
  lookup_ren ρ.f hρ.f (renFn ρ) p.funs k

theorem pickFinals_ren (ρ : Ren) (b : Bool) (finals : List (Nat × Expr × Expr)) :
    pickFinals b (finals.map (renTriple ρ)) = (pickFinals b finals).map (renE ρ) := by
  simp only [pickFinals, List.map_map]
  apply List.map_congr_left
  intro t _
  cases b <;> simp [renTriple]

theorem names_ren (ρ : Ren) (l : List (Nat × Expr × Expr)) :
    names (l.map (renTriple ρ)) = (names l).map ρ.v := by
  simp [names, List.map_map, renTriple, Function.comp_def]

theorem inits_ren (ρ : Ren) (l : List (Nat × Expr × Expr)) :
    inits (l.map (renTriple ρ)) = (inits l).map (renE ρ) := by
  simp [inits, List.map_map, renTriple, Function.comp_def]

theorem loopvals_ren (ρ : Ren) (l : List (Nat × Expr × Expr)) :
    loopVals (l.map (renTriple ρ)) = (loopVals l).map (renE ρ) := by
  simp [loopVals, List.map_map, renTriple, Function.comp_def]

theorem renEnv_append (ρ : Ren) (a b : List (Nat × Val)) :
    renEnv ρ (a ++ b) = renEnv ρ a ++ renEnv ρ b := by simp [renEnv]

theorem renSt_call (ρ : Ren) (σ : St) (xs : List Nat) (vs : List Val) :
    renSt ρ { σ with env := bindParams xs vs } =
      { renSt ρ σ with env := bindParams (xs.map ρ.v) (vs.map (renVal ρ)) } := by
  simp [renSt, bindParams_ren]

theorem renSt_bind (ρ : Ren) (σ : St) (env : List (Nat × Val)) :
    renSt ρ { σ with env := env ++ σ.env } =
      { renSt ρ σ with env := renEnv ρ env ++ (renSt ρ σ).env } := by
  simp [renSt, renEnv_append]

abbrev renRes (ρ : Ren) (r : Outcome × St) : Outcome × St := (renOutcome ρ r.1, renSt ρ r.2)

/-- Execution commutes with renaming (all fuel values, all statements, all states). -/
theorem exec_ren (ρ : Ren) (hρ : RenInj ρ) (p : Prog) (fuel : Nat) (s : Stmt) (σ : St) :
    exec (renProg ρ p) fuel (renS ρ s) (renSt ρ σ) = (exec p fuel s σ).map (renRes ρ) := by
  -- calls, loop entry and loop iteration spend fuel; every other clause recurses into a part of `s`
  induction fuel using Nat.strongRecOn generalizing s σ with
  | ind fuel ihf =>
  induction s generalizing σ with
  | skip => simp [renS, exec, renRes, renOutcome]
  | seq a b iha ihb =>
    simp only [renS, exec, iha]
    rcases exec p fuel a σ with _ | ⟨_ | v, σ'⟩
    · rfl
    · exact ihb σ'
    · rfl
  | bin x op a b =>
    simp only [renS, exec, evalInt_ren ρ hρ]
    cases evalInt p σ a with
    | none => rfl
    | some m => cases evalInt p σ b <;> rfl
  | print e =>
    simp only [renS, exec, evalPrinted_ren ρ hρ]
    cases evalPrinted p σ e <;> rfl
  | brk e =>
    simp only [renS, exec, evalE_ren ρ hρ]
    cases evalE p σ e <;> rfl
  | not x e =>
    simp only [renS, exec, evalInt_ren ρ hρ]
    cases evalInt p σ e <;> rfl
  | isPointer x e =>
    simp only [renS, exec, evalIsPtr_ren ρ hρ]
    cases evalIsPtr p σ e <;> rfl
  | cast x e =>
    simp only [renS, exec, evalE_ren ρ hρ]
    cases evalE p σ e <;> rfl
  | lateDecl x => simp [renS, exec, renRes, renOutcome]
  | lateAssign x e =>
    simp only [renS, exec, evalE_ren ρ hρ]
    cases evalE p σ e <;> rfl
  | index x e i =>
    simp only [renS, exec, evalIndex_ren ρ hρ]
    cases evalIndex p σ e i <;> rfl
  | structInit x es =>
    simp only [renS, exec, evalArgs_ren ρ hρ]
    cases evalArgs p σ es with
    | none => rfl
    | some vs => simp [renRes, renOutcome, renSt, renEnv, renVal]
  | closureInit x f ctx =>
    simp only [renS, exec, evalE_ren ρ hρ]
    cases evalE p σ ctx with
    | none => rfl
    | some v => simp [renRes, renOutcome, renSt, renEnv, renVal]
  | singleIf c invert body ih =>
    simp only [renS, exec, evalInt_ren ρ hρ]
    cases evalInt p σ c with
    | none => rfl
    | some n =>
      dsimp only
      split
      · exact ih σ
      · rfl
  | ite c t e finals iht ihe =>
    simp only [renS, exec, evalInt_ren ρ hρ]
    cases evalInt p σ c with
    | none => rfl
    | some n =>
      have ih : exec (renProg ρ p) fuel (if n ≠ 0 then renS ρ t else renS ρ e) (renSt ρ σ) =
          (exec p fuel (if n ≠ 0 then t else e) σ).map (renRes ρ) := by
        split
        · exact iht σ
        · exact ihe σ
      simp only [ih]
      rcases exec p fuel (if n ≠ 0 then t else e) σ with _ | ⟨_ | v, σ'⟩
      · rfl
      · simp only [Option.map_some, renRes, renOutcome, pickFinals_ren, evalArgs_ren ρ hρ]
        cases evalArgs p σ' (pickFinals (n ≠ 0) finals) with
        | none => rfl
        | some vs => simp [names_ren, bindParams_ren, renSt, renEnv_append, renOutcome]
      · rfl
  | «while» vars body bc _ =>
    cases fuel with
    | zero => simp [renS, exec]
    | succ fuel =>
      simp only [renS, exec, inits_ren, evalArgs_ren ρ hρ]
      cases evalArgs p σ (inits vars) with
      | none => rfl
      | some vs =>
        simp only [Option.map_some, names_ren, bindParams_ren, ← renSt_bind]
        exact ihf fuel (Nat.lt_succ_self _) (.loop vars body bc) _
  | loop vars body bc _ =>
    cases fuel with
    | zero => simp [renS, exec]
    | succ fuel =>
      simp only [renS, exec, ihf fuel (Nat.lt_succ_self _) body]
      rcases exec p fuel body σ with _ | ⟨_ | v, σ'⟩
      · rfl
      · simp only [Option.map_some, renRes, renOutcome, loopvals_ren, evalArgs_ren ρ hρ]
        cases evalArgs p σ' (loopVals vars) with
        | none => rfl
        | some vs =>
          simp only [Option.map_some, names_ren, bindParams_ren, ← renSt_bind]
          exact ihf fuel (Nat.lt_succ_self _) (.loop vars body bc) _
      · rfl
  | call x c args =>
    cases fuel with
    | zero => simp [renS, exec]
    | succ fuel =>
      simp only [renS, exec, evalArgs_ren ρ hρ]
      cases evalArgs p σ args with
      | none => rfl
      | some vs =>
        simp only [Option.map_some, resolveCallee_ren ρ hρ]
        cases resolveCallee p σ c vs with
        | none => rfl
        | some r =>
          simp only [Option.map_some, lookup_fun_ren ρ hρ]
          cases lookup p.funs r.1 with
          | none => rfl
          | some fn =>
            simp only [Option.map_some, renFn, ← renSt_call, ihf fuel (Nat.lt_succ_self _)]
            rcases exec p fuel fn.body { σ with env := bindParams fn.params r.2 } with _ | ⟨_ | v, σ'⟩
            · rfl
            · simp only [Option.map_some, renRes, renOutcome, evalE_ren ρ hρ]
              cases evalE p σ' fn.ret <;> rfl
            · rfl

/-- For every injective renaming of function names, string-global
names and variable / temporary names, every program, entry point and fuel: the renamed program
prints exactly what the original prints, and gets stuck / runs out of fuel exactly when it does. -/
theorem mir_rename_invariant_full (ρ : Ren) (hρ : RenInj ρ) (p : Prog) (fuel main : Nat) :
    run (renProg ρ p) fuel (ρ.f main) = run p fuel main := by
  unfold run
  rw [lookup_fun_ren ρ hρ]
  cases lookup p.funs main with
  | none => rfl
  | some fn =>
    -- the empty state is its own renaming, and renaming leaves `out` alone
    have : exec (renProg ρ p) fuel (renS ρ fn.body) { env := [], heap := [], out := [] } = _ :=
      exec_ren ρ hρ p fuel fn.body { env := [], heap := [], out := [] }
    simp only [Option.map_some, renFn, this]
    rcases exec p fuel fn.body { env := [], heap := [], out := [] } with _ | ⟨_ | v, σ'⟩
    · rfl
    · rfl
    · rfl

/-- non-vacuity: `main` builds a closure `[fn 1, 5]`, calls it with `2` (prints 7), then runs
`i := 0; while true { if !(i < 3) break i; i := i + 1 }` and prints the break value (3).
Renaming: `main ↦ 20`, `f ↦ 21`, variables shifted by 100. -/
def demo : Prog :=
  { funs := [
      (0, ⟨[], .seq (.structInit 1 [.fname 1, .lit 5])
            (.seq (.call 2 (.closure (.var 1)) [.lit 2])
            (.seq (.print (.var 2))
            (.seq (.while [(3, .lit 0, .var 4)]
                    (.seq (.bin 5 .lt (.var 3) (.lit 3))
                    (.seq (.ite (.var 5) .skip (.brk (.var 3)) [])
                          (.bin 4 .add (.var 3) (.lit 1)))) 6)
                  (.print (.var 6))))), .lit 0⟩),
      (1, ⟨[10, 11], .bin 12 .add (.var 10) (.var 11), .var 12⟩)],
    globs := [] }
def demoRen : Ren := ⟨fun n => n + 20, fun n => n + 9, fun n => n + 100⟩

theorem demo_run : run demo 8 0 = some [.int 7, .int 3] := by
  simp [run, demo, lookup, exec, evalE, evalInt, evalPrinted, evalArgs, resolveCallee, bindParams, binop,
    pickFinals, names, inits, loopVals]

example : run demo 8 0 = some [.int 7, .int 3] := demo_run

example : run (renProg demoRen demo) 8 20 = some [.int 7, .int 3] := by
  rw [show (20 : Nat) = demoRen.f 0 from rfl,
    mir_rename_invariant_full demoRen ⟨fun _ _ => Nat.add_right_cancel, fun _ _ => Nat.add_right_cancel,
      fun _ _ => Nat.add_right_cancel⟩]
  exact demo_run

/-- non-vacuity for the remaining statement kinds: `ClosureInit`, closure call, `Cast`, `IsPointer`,
`Not`, `LateInitDeclaration`, `SingleIf` (inverted) with a `LateInitAssignment`. Prints 7, 1, 9. -/
def demo2 : Prog :=
  { funs := [
      (0, ⟨[], .seq (.closureInit 1 1 (.lit 5))
            (.seq (.call 2 (.closure (.var 1)) [.lit 2])
            (.seq (.print (.var 2))
            (.seq (.cast 3 (.var 1))
            (.seq (.isPointer 4 (.var 3))
            (.seq (.print (.var 4))
            (.seq (.not 5 (.var 4))
            (.seq (.lateDecl 6)
            (.seq (.singleIf (.var 5) true (.lateAssign 6 (.lit 9)))
                  (.print (.var 6)))))))))), .lit 0⟩),
      (1, ⟨[10, 11], .bin 12 .add (.var 10) (.var 11), .var 12⟩)],
    globs := [] }

example : run demo2 4 0 = some [.int 7, .int 1, .int 9] := by
  simp [run, demo2, lookup, exec, evalE, evalInt, evalIsPtr, evalPrinted, evalArgs, resolveCallee, bindParams, binop]

end SamVerif.MirFull
