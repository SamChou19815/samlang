import SamVerif.Lemmas.OptKernel
import SamVerif.Model.OptTempPhases
/-!
# C02 — optimisation passes never change output or termination: property theorems

Models: `SamVerif/Model/OptKernel.lean` (the kernels of the passes, one section below for each) and,
for §12, `SamVerif/Model/OptTempPhases.lean` (temporary names across the rounds of `optimize_sources`).
All statements quantify over *all* 32-bit operands / expressions / valuations / loop parameters; no
bounds. Where the unchanged code falsifies the full-strength statement, the file proves its negation
from a concrete witness (`¬ ∀ …`) or states the two runs of the witness (`ivelim_counterexample`), and
proves a `…_partial` theorem under an explicit decidable side condition. The other `…_counterexample`
theorems are concrete values as well: a fault class changing a trace, or the input of a repaired fault
(hoisting would introduce the trap) on which the model hoists nothing. The witnesses are replayed on the
real code by `vlib/c02.py` (known findings C02-F1 … C02-F9).
-/
namespace SamVerif.Opt

/-! The two end relations that statements below name. Both are `ResR` of `Lemmas/OptKernel.lean`
spelt out: `EndRel` for DCE (§7b), `ResAgreeS` for the use analysis (§5) and CSE (§10b). -/

def EndRel (L : List Nat) : Res → Res → Prop
  | .trap, .trap => True
  | .brk v, .brk w => v = w
  | .next σ1, .next σ2 => AgreeOn L σ1 σ2
  | _, _ => False

theorem endRel_eq (L : List Nat) : EndRel L = ResR (AgreeOn L) := rfl

def ResAgreeS (F : List Nat) : Res → Res → Prop
  | .trap, .trap => True
  | .brk v, .brk w => v = w
  | .next ρ1, .next ρ2 => AgreeS F ρ1 ρ2
  | _, _ => False

theorem resAgreeS_eq (F : List Nat) : ResAgreeS F = ResR (AgreeS F) := rfl

/-! ## 1. Constant folding (`evaluate_bin_op`) computes exactly what the target computes

Before `fix:` 3b705a0 the evaluator used unchecked `+ - * / % <<` and the full statement was false
(`MAX + 1` panicked; `MIN % -1` panicked although the target computes 0). The model follows the
fixed code. -/

theorem evalImpl_eq (op : Op) (a b : Int) :
    evalImpl op a b = match evalTarget op a b with | some v => .val v | none => .nofold := by
  cases op <;> try rfl
  case div =>
    simp only [evalImpl, evalTarget]
    by_cases hb : b = 0
    · rw [if_pos (Or.inl hb), if_pos hb]
    · by_cases hc : a = -2147483648 ∧ b = -1
      · rw [if_pos (Or.inr hc), if_neg hb, if_pos hc]
      · rw [if_neg (not_or.mpr ⟨hb, hc⟩), if_neg hb, if_neg hc]
  case mod =>
    simp only [evalImpl, evalTarget]
    by_cases hb : b = 0
    · rw [if_pos hb, if_pos hb]
    · rw [if_neg hb, if_neg hb]

theorem fold_val_exact (op : Op) (a b v : Int)
    (h : evalImpl op a b = .val v) : evalTarget op a b = some v := by
  rw [evalImpl_eq] at h
  cases ht : evalTarget op a b with
  | none => rw [ht] at h; cases h
  | some w => rw [ht] at h; cases h; rfl

theorem fold_nofold_traps (op : Op) (a b : Int) (h : evalImpl op a b = .nofold) :
    evalTarget op a b = none := by
  rw [evalImpl_eq] at h
  cases ht : evalTarget op a b with
  | none => rfl
  | some w => rw [ht] at h; cases h

theorem fold_never_panics (op : Op) (a b : Int) : evalImpl op a b ≠ .panic := by
  rw [evalImpl_eq]
  cases evalTarget op a b <;> exact FoldRes.noConfusion

/-- FULL STRENGTH: for every operator and all operands the evaluator either produces exactly the
value the target computes (wrap-around, truncating division, masked shift counts, 0/1
comparisons) or declines exactly when the target traps, in which case the statement is kept. -/
theorem fold_exact (op : Op) (a b : Int) :
    (∃ v, evalImpl op a b = .val v ∧ evalTarget op a b = some v) ∨
    (evalImpl op a b = .nofold ∧ evalTarget op a b = none) := by
  cases h : evalImpl op a b with
  | val v => exact Or.inl ⟨v, rfl, fold_val_exact op a b v h⟩
  | nofold => exact Or.inr ⟨rfl, fold_nofold_traps op a b h⟩
  | panic => exact absurd h (fold_never_panics op a b)
example : evalImpl .mul 65536 32767 = .val 2147418112 := by decide
example : evalImpl .add 2147483647 1 = .val (-2147483648) := by decide
example : evalImpl .mod (-2147483648) (-1) = .val 0 := by decide
example : evalImpl .div (-2147483648) (-1) = .nofold := by decide
example : evalImpl .div 7 0 = .nofold := by decide

/-! ## 2. CCP's literal / algebraic rules -/

/-- FULL STATEMENT (false): every rule that replaces `e1 op e2` by an operand yields the value the
target computes. Witness: `x / x → 1` at `x = 0` removes the division-by-zero trap (C02-F2). -/
theorem ccp_rule_exact_counterexample :
    ¬ (∀ (op : Op) (e1 e2 r : Operand) (ρ : Nat → Int), (∀ x, InRange (ρ x)) →
        ccpRule op e1 e2 = .bind r → evalTarget op (e1.eval ρ) (e2.eval ρ) = some (r.eval ρ)) := by
  intro h
  have := h .div (.var 0) (.var 0) (.lit 1) (fun _ => 0) (by intro _; decide) (by decide)
  revert this; decide

/-- The rule that is not exact: `x / x`, `x % x` with `x = 0`. -/
def CcpSafe (op : Op) (e1 e2 : Operand) (ρ : Nat → Int) : Prop :=
  match e1, e2 with
  | .var x, .var y => (x = y ∧ (op = .div ∨ op = .mod)) → ρ x ≠ 0
  | _, _ => True

theorem evalTarget_add_zero {x : Int} (hx : InRange x) : evalTarget .add x 0 = some x := by
  show some (wrap32 (x + 0)) = some x
  rw [Int.add_zero, wrap32_of_inRange hx]

theorem evalTarget_mul_zero (x : Int) : evalTarget .mul x 0 = some 0 := by
  show some (wrap32 (x * 0)) = some 0
  rw [Int.mul_zero]; rfl

theorem evalTarget_mul_one {x : Int} (hx : InRange x) : evalTarget .mul x 1 = some x := by
  show some (wrap32 (x * 1)) = some x
  rw [Int.mul_one, wrap32_of_inRange hx]

theorem evalTarget_mod_one (x : Int) : evalTarget .mod x 1 = some 0 := by
  show (if (1 : Int) = 0 then none else some (Int.tmod x 1)) = some 0
  rw [if_neg (by decide), Int.tmod_one]

theorem evalTarget_div_one (x : Int) : evalTarget .div x 1 = some x := by
  show (if (1 : Int) = 0 then none else if x = -2147483648 ∧ (1 : Int) = -1 then none else some (Int.tdiv x 1)) = some x
  rw [if_neg (by decide), if_neg fun h => absurd h.2 (by decide), Int.tdiv_one]

theorem evalTarget_sub_self (x : Int) : evalTarget .sub x x = some 0 := by
  show some (wrap32 (x - x)) = some 0
  rw [Int.sub_self]; rfl

theorem evalTarget_mod_self {x : Int} (hx : x ≠ 0) : evalTarget .mod x x = some 0 := by
  show (if x = 0 then none else some (Int.tmod x x)) = some 0
  rw [if_neg hx, Int.tmod_self]

theorem evalTarget_div_self {x : Int} (hx : x ≠ 0) : evalTarget .div x x = some 1 := by
  show (if x = 0 then none else if x = -2147483648 ∧ x = -1 then none else some (Int.tdiv x x)) = some 1
  rw [if_neg hx, if_neg fun h => absurd (h.1.symm.trans h.2) (by decide), Int.tdiv_self hx]

/-- The part of `ccp_rule_exact_counterexample`'s statement that is right: outside `x / x`, `x % x` at `x = 0`
(`CcpSafe`) every rule that replaces `e1 op e2` by an operand yields the value the target computes. `hl1`: a
literal `e1` is a 32-bit value, since `e + 0 ↦ e` and `e * 1 ↦ e` hand it on as it is while the target wraps. -/
theorem ccp_rule_exact_partial (op : Op) (e1 e2 r : Operand) (ρ : Nat → Int)
    (hρ : ∀ x, InRange (ρ x)) (hl1 : ∀ n, e1 = .lit n → InRange n)
    (hs : CcpSafe op e1 e2 ρ)
    (h : ccpRule op e1 e2 = .bind r) :
    evalTarget op (e1.eval ρ) (e2.eval ρ) = some (r.eval ρ) := by
  have hin1 : InRange (e1.eval ρ) := by
    cases e1 with
    | lit n => exact hl1 n rfl
    | var x => exact hρ x
  revert h
  -- the branches of `ccpRule` in the order of its text; `c` is the condition of the rule that fired
  fun_cases ccpRule op e1 e2 <;> intro h
  -- `e + 0 ↦ e`
  case case1 c => cases h; obtain ⟨rfl, rfl⟩ := c; exact evalTarget_add_zero hin1
  -- `e * 0 ↦ 0`
  case case2 c => cases h; obtain ⟨rfl, rfl⟩ := c; exact evalTarget_mul_zero _
  -- `e % 1 ↦ 0`
  case case3 c => cases h; obtain ⟨rfl, rfl⟩ := c; exact evalTarget_mod_one _
  -- `e * 1 ↦ e`, `e / 1 ↦ e`
  case case4 c =>
    cases h
    obtain ⟨rfl, rfl | rfl⟩ := c
    · exact evalTarget_mul_one hin1
    · exact evalTarget_div_one _
  -- two literals and the folding evaluator answers `.val v` (`hv`)
  case case5 hv => cases h; exact fold_val_exact op _ _ _ hv
  -- `e2` is a variable `y`: the rules of `ccpSameVar`
  case case9 y =>
    revert h hs
    generalize Operand.var y = e2
    fun_cases ccpSameVar op e1 e2 <;> intro hs h
    -- `x - x ↦ 0`, `x % x ↦ 0`
    case case1 c =>
      cases h
      rcases c with rfl | rfl
      · exact evalTarget_sub_self _
      · exact evalTarget_mod_self (hs ⟨rfl, .inr rfl⟩)
    -- `x / x ↦ 1`
    case case2 c => cases h; subst c; exact evalTarget_div_self (hs ⟨rfl, .inl rfl⟩)
    -- another operator, two different variables, `e1` not a variable: `.keep`
    all_goals cases h
  -- cases 6–8: the evaluator panics or declines, or `e1` is a variable: `.panic` / `.keep`, not `.bind`
  all_goals cases h
example : ccpRule .mul (.var 3) (.lit 0) = .bind (.lit 0) := by decide
example : CcpSafe .div (.var 0) (.var 0) (fun _ => 5) := by simp [CcpSafe]

/-! ## 2b. CCP's boolean shortcut for an if/else -/

theorem execL_ife_nil (c : Operand) (r : Nat) (a b : Operand) (rest : List LStmt) (ρ : Nat → Int) :
    execL (.ife c [] [] [(r, a, b)] :: rest) ρ
      = execL rest (update ρ r (if c.eval ρ ≠ 0 then a.eval ρ else b.eval ρ)) := by
  rw [execL_ife]; split <;> rfl

/-- FULL STRENGTH: when the shortcut fires (both branches empty, one final assignment with the literal
pair), the if/else followed by ANY continuation behaves like binding the result name to the
condition (pair (1,0)) or to its negation (pair (0,1)), for every boolean condition value. -/
theorem ifshortcut_sound (c : Operand) (r : Nat) (rest : List LStmt) (ρ : Nat → Int)
    (hb : c.eval ρ = 0 ∨ c.eval ρ = 1) :
    (ifShortcut true true [(.lit 1, .lit 0)] = .bindCond ∧
      execL (.ife c [] [] [(r, .lit 1, .lit 0)] :: rest) ρ = execL rest (update ρ r (c.eval ρ))) ∧
    (ifShortcut true true [(.lit 0, .lit 1)] = .xorCond ∧
      execL (.ife c [] [] [(r, .lit 0, .lit 1)] :: rest) ρ = execL rest (update ρ r (1 - c.eval ρ)) ∧
      evalTarget .xor (c.eval ρ) 1 = some (1 - c.eval ρ)) := by
  refine ⟨⟨by decide, ?_⟩, by decide, ?_, ?_⟩
  · rw [execL_ife_nil]; rcases hb with h | h <;> rw [h] <;> rfl
  · rw [execL_ife_nil]; rcases hb with h | h <;> rw [h] <;> rfl
  · rcases hb with h | h <;> rw [h] <;> rfl

/-- the shortcut never fires unless both branches are empty -/
theorem ifshortcut_requires_empty_branches (s1e s2e : Bool) (fas : List (Operand × Operand))
    (h : ifShortcut s1e s2e fas ≠ .keep) : s1e = true ∧ s2e = true ∧ fas.length = 1 := by
  unfold ifShortcut ifShortcutWith at h
  split at h
  · rename_i hc
    simp only [Bool.not_true, Bool.false_or, Bool.and_eq_true, beq_iff_eq] at hc
    exact ⟨hc.1.1, hc.1.2, hc.2⟩
  · exact absurd rfl h

/-- The `s2.is_empty()` conjunct is necessary (seeded-fault class C02g): with an effect in the else
branch the original prints when the condition is false, the "shortcut" result never prints. -/
theorem ifshortcut_needs_s2_empty :
    ifShortcut true false [(.lit 1, .lit 0)] = .keep ∧ ifShortcutWith true false true false [(.lit 1, .lit 0)] = .bindCond ∧
    (execL [.ife (.var 0) [] [.print (.lit 7)] [(2, .lit 1, .lit 0)]] (fun _ => 0)).1 = [7] ∧
    (execL ([] : List LStmt) (update (fun _ => 0) 2 0)).1 = [] := by decide

/-- … and so is the `s1.is_empty()` conjunct -/
theorem ifshortcut_needs_s1_empty :
    ifShortcut false true [(.lit 0, .lit 1)] = .keep ∧ ifShortcutWith false true false true [(.lit 0, .lit 1)] = .xorCond ∧
    (execL [.ife (.var 0) [.print (.lit 7)] [] [(2, .lit 0, .lit 1)]] (fun _ => 1)).1 = [7] ∧
    (execL ([] : List LStmt) (update (fun _ => 1) 2 0)).1 = [] := by decide

/-! ## 3. Operand reordering and comparison flipping (`mir.rs:664-747`) — full strength -/

def evalE (V : Valuation) (t : Op × Expr × Expr) : Option Int :=
  evalTarget t.1 (V.f t.2.1) (V.f t.2.2)

theorem binaryUnwrapped_sound (V : Valuation) (op : Op) (e1 e2 : Expr) :
    evalE V (binaryUnwrapped op e1 e2) = evalTarget op (V.f e1) (V.f e2) := by
  unfold binaryUnwrapped
  split
  · split
    · simp only [evalE, evalTarget, V.lit, Int.sub_eq_add_neg]
    · rfl
  · rfl

theorem flexibleOrder_sound (V : Valuation) (op : Op) (e1 e2 : Expr) :
    evalE V (flexibleOrder op e1 e2) = evalTarget op (V.f e1) (V.f e2) := by
  rw [← binaryUnwrapped_sound V op e1 e2]
  unfold flexibleOrder
  generalize binaryUnwrapped op e1 e2 = t
  obtain ⟨o, a, b⟩ := t
  -- `/ % - << >>` keep their operands
  cases o <;> dsimp only
  -- a flipped comparison is the same test: `a < b` is `b > a`
  case lt | le | gt | ge => split <;> rfl
  all_goals
    split
    · rfl
    · dsimp only [evalE]
      exact evalTarget_comm _ _ _ (by decide)

theorem flexUnwrapped_sound (V : Valuation) (op : Op) (e1 e2 : Expr) :
    evalE V (flexUnwrapped op e1 e2) = evalTarget op (V.f e1) (V.f e2) := by
  rw [← flexibleOrder_sound V op e1 e2]
  unfold flexUnwrapped
  generalize flexibleOrder op e1 e2 = t
  obtain ⟨o, a, b⟩ := t
  exact binaryUnwrapped_sound V o a b
example : flexUnwrapped .lt (.i32 3) (.var 2) = (.gt, .var 2, .i32 3) := by decide
example : flexUnwrapped .sub (.var 1) (.i32 5) = (.add, .var 1, .i32 (-5)) := by decide
example : binaryUnwrapped .sub (.var 1) (.i32 (-2147483648)) = (.sub, .var 1, .i32 (-2147483648)) := by decide

/-! ## 4. Merging of constants through two statements (`merge_binary_expression`) -/

/-- `(x inner c1) outer c2` on the target. -/
def evalNested (outer inner : Op) (x c1 c2 : Int) : Option Int :=
  (evalTarget inner x c1).bind fun y => evalTarget outer y c2

def Op.isOrd : Op → Bool
  | .lt | .le | .gt | .ge => true
  | _ => false

/-- FULL STATEMENT (false): a merged statement computes what the two original statements compute.
Witness: `(x + 1) < 0` becomes `x < -1`, wrong at `x = MAX` where `x + 1` wraps (C02-F3). -/
theorem merge_sound_counterexample :
    ¬ (∀ (outer inner op : Op) (x c1 c2 c : Int), InRange x → InRange c1 → InRange c2 →
        mergeBinary outer inner c1 c2 = .merged op c →
        evalNested outer inner x c1 c2 = evalTarget op x c) := by
  intro h
  have := h .lt .add .lt 2147483647 1 0 (-1) (by decide) (by decide) (by decide) (by decide)
  revert this; decide

theorem wrap32_add_eq_iff {x c1 c2 : Int} (hx : InRange x) (h2 : InRange c2) (hr : InRange (c2 - c1)) :
    wrap32 (x + c1) = c2 ↔ x = c2 - c1 := by
  unfold InRange at hx h2 hr; unfold wrap32; omega

/-- comparing `x + c1`, computed on the target, with `c2` is comparing `x` with `c2 - c1`: for the
ordered comparisons if `x + c1` does not wrap, for `==` and `!=` as soon as `c2 - c1` fits -/
theorem evalTarget_cmp_add {o : Op} (ho : o.isCmp = true) {x c1 c2 : Int} (hx : InRange x) (h2 : InRange c2)
    (hr : InRange (c2 - c1)) (hs : o.isOrd = true → InRange (x + c1)) :
    evalTarget o (wrap32 (x + c1)) c2 = evalTarget o x (c2 - c1) := by
  cases o <;> try cases ho
  case eq => exact congrArg (fun p => some (b2i p)) (decide_eq_decide.mpr (wrap32_add_eq_iff hx h2 hr))
  case ne => exact congrArg (fun p => some (b2i p)) (decide_eq_decide.mpr (not_congr (wrap32_add_eq_iff hx h2 hr)))
  all_goals
    rw [wrap32_of_inRange (hs rfl)]
    exact congrArg (fun p => some (b2i p)) (decide_eq_decide.mpr (by omega))

theorem mergeBinary_cmp {outer : Op} (ho : outer.isCmp = true) (inner : Op) (c1 c2 : Int) :
    mergeBinary outer inner c1 c2 = if inner = .add then chkM outer (c2 - c1) else .none := by
  -- an operator that is no comparison contradicts `ho`; for each of the six comparisons this is its arm of `mergeBinary`
  cases outer <;> try cases ho
  all_goals rfl

/-- The part of `merge_sound_counterexample`'s statement that is right: a merged statement computes what the two
original statements compute, for `+`, `*`, `==`, `!=` always and for an ordered comparison when `x + c1` does not
wrap (`hs`). -/
theorem merge_sound_partial (outer inner op : Op) (x c1 c2 c : Int)
    (hx : InRange x) (h2 : InRange c2)
    (hs : outer.isOrd = true → InRange (x + c1))
    (h : mergeBinary outer inner c1 c2 = .merged op c) :
    evalNested outer inner x c1 c2 = evalTarget op x c := by
  by_cases ho : outer.isCmp = true
  · rw [mergeBinary_cmp ho, chkM] at h
    by_cases hi : inner = .add
    · rw [if_pos hi] at h
      by_cases hr : InRange (c2 - c1)
      · rw [if_pos hr] at h; cases h; subst hi
        exact evalTarget_cmp_add ho hx h2 hr hs
      · rw [if_neg hr] at h; cases h
    · rw [if_neg hi] at h; cases h
  cases outer <;> try exact absurd rfl ho
  case add =>
    simp only [mergeBinary] at h
    by_cases hi : inner = .add
    · rw [if_pos hi] at h; cases h; subst hi
      show some (wrap32 (wrap32 (x + c1) + c2)) = some (wrap32 (x + wrap32 (c1 + c2)))
      rw [wrap32_add_left, wrap32_add_right, Int.add_assoc]
    · rw [if_neg hi] at h; cases h
  case mul =>
    simp only [mergeBinary] at h
    by_cases hi : inner = .mul
    · rw [if_pos hi] at h; cases h; subst hi
      show some (wrap32 (wrap32 (x * c1) * c2)) = some (wrap32 (x * wrap32 (c1 * c2)))
      rw [wrap32_mul_left, wrap32_mul_right, Int.mul_assoc]
    · rw [if_neg hi] at h; cases h
  all_goals cases h

example : mergeBinary .lt .add 3 10 = .merged .lt 7 := by decide
example : mergeBinary .mul .mul 3 10 = .merged .mul 30 := by decide

/-! ## 5. Induction-variable elimination and strength reduction -/

/-- The full statement, that the loop after `loop_optimizations` prints the same values and breaks
with the same value as the original loop, is false. The two runs of witness P2: guard `i <= 10` is
replaced by `j < 20` (always `<`), one iteration is lost (C02-F4). -/
theorem ivelim_counterexample :
    let L : ObsLoop := { g := .le, i0 := 0, step := 1, bound := 10, m := 2, c := 0 }
    runOriginal L 100 = .out [0, 0, 2, 4, 6, 8, 10, 12, 14, 16, 18] 20 ∧
    runOptimised L 100 = .out [0, 0, 2, 4, 6, 8, 10, 12, 14, 16] 18 := by
  decide

/-- Before `fix:` d2fa066 a zero or negative literal multiplier was eliminated too and the loop ran
zero iterations; since the fix such loops only get strength reduction and behave like the original. -/
theorem ivelim_negative_multiplier_fixed :
    let L : ObsLoop := { g := .lt, i0 := 0, step := 1, bound := 3, m := -1, c := 0 }
    runOriginal L 100 = .out [0, 0, -1] (-2) ∧ runOptimised L 100 = .out [0, 0, -1] (-2) := by
  decide

/-- The part of IV elimination that is right: for guard `<`, a positive multiplier and no
overflow, the new guard `m*i+c < m*bound+c` decides exactly like `i < bound`. -/
theorem ivelim_guard_partial (m c i b : Int) (hm : 0 < m)
    (hi : InRange (c + m * i)) (hb : InRange (c + m * b)) :
    (addT c (mulT m i) < addT c (mulT m b)) ↔ i < b := by
  rw [addT_mulT_eq, addT_mulT_eq, wrap32_of_inRange hi, wrap32_of_inRange hb]
  exact (Int.add_lt_add_iff_left c).trans (Int.mul_lt_mul_left hm)

/-- FULL STRENGTH: the loop variable that strength reduction puts for `j = i*m + c` (start `c + m*i0`, stride
`step*m`, all on the target) has at every iteration the value the original body computes. -/
theorem strength_sound (L : ObsLoop) (k : Nat) :
    iterW (addT L.c (mulT L.m L.i0)) (L.step * L.m) k = L.derived (iterW L.i0 L.step k) :=
  iterW_affine L.i0 L.step L.m L.c k
example : (addT 1 (mulT 3 4) < addT 1 (mulT 3 5)) := by decide
example : iterW (addT 2 (mulT 3 0)) (1 * 3) 4 = 14 := by decide

/-- FULL STRENGTH: when IV elimination does not apply (two derived statements hang off `i`, or the multiplier is not positive), what
`loop_optimizations` produces (strength reduction only) behaves exactly like the original loop,
for every loop of the family and every fuel. -/
theorem loopopt_strength_path_sound (L : ObsLoop) (h : L.singleDerived = false ∨ L.m ≤ 0) (fuel : Nat) :
    runOptimised L fuel = runOriginal L fuel := by
  unfold runOptimised runOriginal mergeMul
  have hc : ¬ (L.singleDerived = true ∧ 0 < L.m) := by
    rcases h with h | h
    · simp [h]
    · intro hh; omega
  simp only [hc, if_false]
  exact congrArg toRes (runStrength_eq L _ _ (strength_iter L.i0 L.step L.m L.c) fuel 0 0 [])

/-- IV elimination at loop level (the unconditional statement is false: `ivelim_counterexample`), under the
explicit condition that the new guard decides like the old one at every iteration up to the exit (`n` = the
original loop's trip count). -/
theorem ivelim_sound_partial (L : ObsLoop) (n : Nat) (hs : L.singleDerived = true) (hm0 : 0 < L.m)
    (hbr : BreaksAt L.g L.i0 L.step L.bound n)
    (hg : ∀ k, k ≤ n →
      decide (iterW (addT L.c (mulT L.m L.i0)) (wrap32 (L.step * L.m)) k < addT L.c (mulT L.m L.bound))
        = L.g.holds (iterW L.i0 L.step k) L.bound)
    (fuel : Nat) : runOptimised L fuel = runOriginal L fuel := by
  unfold runOptimised runOriginal mergeMul
  simp only [hs, hm0, and_self, if_true]
  exact congrArg toRes (runElim_eq L _ _ _ n (strength_iter L.i0 L.step L.m L.c) hbr hg fuel 0 (Nat.zero_le n) 0 [])

/-- … and that condition holds for a `<` guard, a positive multiplier and no overflow of
`m*i + c` along the run (composition with `ivelim_guard_partial`). -/
theorem ivelim_sound_noovf (L : ObsLoop) (n : Nat) (hs : L.singleDerived = true)
    (hgd : L.g = .lt) (hm : 0 < L.m)
    (hbr : BreaksAt L.g L.i0 L.step L.bound n)
    (hov : ∀ k, k ≤ n → InRange (L.c + L.m * iterW L.i0 L.step k))
    (hb : InRange (L.c + L.m * L.bound))
    (fuel : Nat) : runOptimised L fuel = runOriginal L fuel := by
  refine ivelim_sound_partial L n hs hm hbr (fun k hk => ?_) fuel
  rw [strength_iter, derivedOf_eq, ← addT_mulT_eq, hgd]
  exact decide_eq_decide.mpr (ivelim_guard_partial L.m L.c _ _ hm (hov k hk) hb)
example : ({ g := .lt, i0 := 0, step := 1, bound := 5, m := 3, c := 2 } : ObsLoop).singleDerived = false := by decide
example : runOptimised { g := .lt, i0 := 0, step := 1, bound := 5, m := 2, c := 0 } 20
        = runOriginal { g := .lt, i0 := 0, step := 1, bound := 5, m := 2, c := 0 } 20 := by decide

/-! ### Strength reduction in loops with several basic induction variables
(`loop_strength_reduction.rs:38-69`; the class of the seeded fault "initial value from the wrong
basic induction variable") -/

/-- FULL STRENGTH: in a loop with any number of basic induction variables, the loop variable that
strength reduction introduces for a derived variable `d = m * v_base + c` has, at every iteration,
exactly the value the original body computes — provided its initial value is taken from the
ASSOCIATED base variable. -/
theorem strength_multi_sound (ivs : List (Int × Int)) (d : Derived) (k : Nat)
    (hb : d.base < ivs.length) : srVal ivs d k = derivedVal ivs d k := by
  unfold srVal srParams derivedVal ivVal
  have : ivs[d.base]? = some ivs[d.base] := List.getElem?_eq_getElem hb
  rw [this]
  simp only [Option.map]
  exact strength_iter _ _ _ _ _

/-- FULL STRENGTH, whole transform: the strength-reduced loop prints exactly the trace of the
original loop, for every loop of the family, every fuel. -/
theorem strength_multi_trace (L : MultiLoop) (hb : ∀ d ∈ L.ds, d.base < L.ivs.length)
    (fuel k : Nat) (acc : List Int) :
    runMulti (srVal L.ivs) L fuel k acc = runMulti (derivedVal L.ivs) L fuel k acc := by
  induction fuel generalizing k acc with
  | zero => rfl
  | succ fuel ih =>
    simp only [runMulti]
    split
    · rw [List.map_congr_left fun d hd => strength_multi_sound L.ivs d k (hb d hd), ih]
    · rfl

/-- The fault class "initial value taken from another basic induction variable" changes the trace:
with counters starting at 0 and 7, the derived variable of the second is 22 at entry, a new loop
variable initialised from the first starts at 1. -/
theorem strength_wrong_base_counterexample :
    let ivs : List (Int × Int) := [(0, 1), (7, 5)]
    let d : Derived := { base := 1, m := 3, c := 1 }
    derivedVal ivs d 0 = 22 ∧ iterW (addT d.c (mulT d.m 0)) (wrap32 (5 * d.m)) 0 = 1 := by
  decide
example : runMultiOpt { ivs := [(0, 1), (7, 5)], gi := 0, g := .lt, bound := 4, ds := [{ base := 1, m := 3, c := 1 }] } 10
        = some [0, 22, 1, 37, 2, 52, 3, 67] := by decide

/-! ### The use analysis that gates IV elimination (`stmt_uses_basic_induction_var`) -/

theorem eval_of_not_usesS (F : List Nat) (a : Operand) (ρ1 ρ2 : Nat → Int)
    (h : ∀ x, x ∈ F → a.uses x = false) (hA : AgreeS F ρ1 ρ2) : a.eval ρ1 = a.eval ρ2 := by
  cases a with
  | lit n => rfl
  | var y => exact hA y fun hy => by simpa [Operand.uses] using h y hy

theorem agreeS_assignAll (F : List Nat) (l : List (Nat × Int)) (ρ1 ρ2 : Nat → Int) (hA : AgreeS F ρ1 ρ2) :
    AgreeS F (assignAll ρ1 l) (assignAll ρ2 l) := by
  induction l generalizing ρ1 ρ2 with
  | nil => exact hA
  | cons p r ih => exact ih _ _ fun z hz => update_congr (hA z hz) p.1 p.2

theorem unused_or {F : List Nat} {p q : Nat → Bool} (h : ∀ x, x ∈ F → (p x || q x) = false) :
    (∀ x, x ∈ F → p x = false) ∧ (∀ x, x ∈ F → q x = false) :=
  ⟨fun x hx => (Bool.or_eq_false_iff.mp (h x hx)).1, fun x hx => (Bool.or_eq_false_iff.mp (h x hx)).2⟩

theorem unused_any {α : Type} {F : List Nat} {l : List α} {p : Nat → α → Bool}
    (h : ∀ x, x ∈ F → l.any (p x) = false) {a : α} (ha : a ∈ l) : ∀ x, x ∈ F → p x a = false :=
  fun x hx => Bool.eq_false_iff.mpr (List.any_eq_false.mp (h x hx) a ha)

theorem execSimple_irrelS (F : List Nat) (p : List Simple) (ρ1 ρ2 : Nat → Int)
    (h : ∀ x, x ∈ F → p.any (usesSimple x) = false) (hA : AgreeS F ρ1 ρ2) :
    Sim (AgreeS F) (execSimple p ρ1) (execSimple p ρ2) := by
  induction p generalizing ρ1 ρ2 with
  | nil => exact ⟨rfl, hA⟩
  | cons st r ih =>
    obtain ⟨hst, hr⟩ := unused_or h
    cases st with
    | print a =>
      have := ih ρ1 ρ2 hr hA
      simp only [execSimple, eval_of_not_usesS F a ρ1 ρ2 hst hA]
      exact ⟨congrArg (a.eval ρ2 :: ·) this.1, this.2⟩
    | brk a =>
      simp only [execSimple, eval_of_not_usesS F a ρ1 ρ2 hst hA]
      exact ⟨rfl, rfl⟩
    | bin y op a b =>
      obtain ⟨ha, hb⟩ := unused_or hst
      simp only [execSimple, eval_of_not_usesS F a ρ1 ρ2 ha hA, eval_of_not_usesS F b ρ1 ρ2 hb hA]
      cases evalTarget op (a.eval ρ2) (b.eval ρ2) with
      | none => exact ⟨rfl, trivial⟩
      | some v => exact ih _ _ hr fun z hz => update_congr (hA z hz) y v

/-- the values that final assignments (or loop variables) bind; `sel` picks the side that is evaluated -/
theorem fas_vals_agreeS (F : List Nat) (fas : List (Nat × Operand × Operand)) (sel : Operand × Operand → Operand)
    (ρ1 ρ2 : Nat → Int) (h : ∀ fa, fa ∈ fas → ∀ x, x ∈ F → (sel fa.2).uses x = false) (hA : AgreeS F ρ1 ρ2) :
    (fas.map fun fa => (fa.1, (sel fa.2).eval ρ1)) = (fas.map fun fa => (fa.1, (sel fa.2).eval ρ2)) :=
  List.map_congr_left fun fa hfa => by rw [eval_of_not_usesS F _ ρ1 ρ2 (h fa hfa) hA]

/-- FULL STRENGTH: a block that reads none of the names in `F` prints and ends the same in two
environments that differ only on `F`, and the final environments still differ only on `F`. -/
theorem execL_irrelS (F : List Nat) (p : List LStmt) (ρ1 ρ2 : Nat → Int)
    (h : ∀ x, x ∈ F → p.any (usesL x) = false) (hA : AgreeS F ρ1 ρ2) :
    (execL p ρ1).1 = (execL p ρ2).1 ∧ ResAgreeS F (execL p ρ1).2 (execL p ρ2).2 := by
  rw [resAgreeS_eq]
  induction p generalizing ρ1 ρ2 with
  | nil => exact ⟨rfl, hA⟩
  | cons st r ih =>
    obtain ⟨hst, hr⟩ := unused_or h
    cases st with
    | s st =>
      exact Sim.andThen (execSimple_irrelS F [st] ρ1 ρ2 (fun x hx => Bool.or_eq_false_iff.mpr ⟨hst x hx, rfl⟩) hA)
        fun σ1 σ2 hσ => ih σ1 σ2 hr hσ
    | sif c inv body =>
      obtain ⟨hc, hb⟩ := unused_or hst
      simp only [execL_sif, eval_of_not_usesS F c ρ1 ρ2 hc hA]
      split
      · exact Sim.andThen (execSimple_irrelS F body ρ1 ρ2 hb hA) fun σ1 σ2 hσ => ih σ1 σ2 hr hσ
      · exact ih _ _ hr hA
    | ife c s1 s2 fas =>
      obtain ⟨h3, hfas⟩ := unused_or hst
      obtain ⟨h2, hs2⟩ := unused_or h3
      obtain ⟨hc, hs1⟩ := unused_or h2
      simp only [execL_ife, eval_of_not_usesS F c ρ1 ρ2 hc hA]
      split
      · refine Sim.andThen (execSimple_irrelS F s1 ρ1 ρ2 hs1 hA) fun σ1 σ2 hσ => ?_
        rw [fas_vals_agreeS F fas (·.1) σ1 σ2 (fun fa hfa => (unused_or (unused_any hfas hfa)).1) hσ]
        exact ih _ _ hr (agreeS_assignAll F _ σ1 σ2 hσ)
      · refine Sim.andThen (execSimple_irrelS F s2 ρ1 ρ2 hs2 hA) fun σ1 σ2 hσ => ?_
        rw [fas_vals_agreeS F fas (·.2) σ1 σ2 (fun fa hfa => (unused_or (unused_any hfas hfa)).2) hσ]
        exact ih _ _ hr (agreeS_assignAll F _ σ1 σ2 hσ)

theorem iterLoop_irrelS (F : List Nat) (W : Loop) (h : ∀ x, x ∈ F → usesLoop x W = false) (fuel : Nat)
    (ρ1 ρ2 : Nat → Int) (hA : AgreeS F ρ1 ρ2) :
    LoopRel (iterLoop W.lvs W.body fuel ρ1) (iterLoop W.lvs W.body fuel ρ2) := by
  obtain ⟨hlvs, hbody⟩ := unused_or h
  induction fuel generalizing ρ1 ρ2 with
  | zero => exact trivial
  | succ fuel ih =>
    rw [iterLoop_succ, iterLoop_succ]
    have hb := execL_irrelS F W.body ρ1 ρ2 hbody hA
    rw [resAgreeS_eq] at hb
    refine LoopRel.step hb fun σ1 σ2 hσ => ?_
    rw [fas_vals_agreeS F W.lvs (·.2) σ1 σ2 (fun lv hlv => (unused_or (unused_any hlvs hlv)).2) hσ]
    exact ih _ _ (agreeS_assignAll F _ σ1 σ2 hσ)

/-- FULL STRENGTH: if the use analysis says that a nested `While` does
not read `x` — its loop variables' INITIAL values, loop values and body included — then the loop
prints and ends the same whatever `x` holds (in particular when `x` is no longer assigned because
induction-variable elimination dropped it), for every loop, every fuel, every environment. -/
theorem unused_counter_irrelevant (x : Nat) (W : Loop) (h : usesLoop x W = false) (fuel : Nat)
    (ρ : Nat → Int) (v : Int) : LoopRel (execLoop W fuel ρ) (execLoop W fuel (update ρ x v)) := by
  have hF : ∀ y, y ∈ [x] → usesLoop y W = false := fun y hy => List.mem_singleton.mp hy ▸ h
  have hA : AgreeS [x] ρ (update ρ x v) := fun y hy => (update_ne v fun e => hy (List.mem_singleton.mpr e)).symm
  unfold execLoop
  rw [fas_vals_agreeS [x] W.lvs (·.1) ρ (update ρ x v) (fun lv hlv => (unused_or (unused_any (unused_or hF).1 hlv)).1) hA]
  exact iterLoop_irrelS [x] W hF fuel _ _ (agreeS_assignAll [x] _ _ _ hA)

/-- The clause is necessary (seeded-fault class C02d): a use analysis that ignores the initial values
of the nested loop's variables calls `x` unused although the loop's result depends on it. -/
theorem uses_must_count_initial_values :
    let W : Loop := { lvs := [(1, .var 0, .var 3)],
                      body := [.s (.bin 2 .ge (.var 1) (.lit 3)), .sif (.var 2) false [.brk (.var 1)],
                               .s (.bin 3 .add (.var 1) (.lit 1))] }
    usesLoopNoInit 0 W = false ∧ usesLoop 0 W = true ∧
    execLoop W 9 (fun _ => 0) = some ([], .brk 3) ∧ execLoop W 9 (update (fun _ => 0) 0 7) = some ([], .brk 7) := by
  refine ⟨by decide, by decide, ?_, ?_⟩ <;> rfl

/-! ## 6. Trip-count closed forms (`loop_algebraic_optimization.rs:10-58`)

Before `fix:` 0934671 the closed form was computed in unchecked 32-bit arithmetic and never asked
whether the counter wraps, and the full statement was false (`while (i < MAX) i += 2` from 0 never
terminates on the target, the closed form said 2^30; `bound + 1` overflowed). The fixed code checks
that the final counter value is in range, so the full-strength statement is a theorem. -/

/-- FULL STRENGTH: for all four guard kinds, every initial value, stride and bound: if the closed
form answers `n`, the target's loop `while (i G bound) i += step` leaves after exactly `n`
iterations. -/
theorem tripcount_exact (g : Guard) (i0 step bound n : Int)
    (hi : InRange i0) (hb : InRange bound)
    (h : tripCount g i0 step bound = .count n) :
    BreaksAt g i0 step bound n.toNat := by
  have e := Int.toNat_of_nonneg (tripCount_ideal g i0 step bound n hi h).1
  refine ⟨fun k hk => ?_, ?_⟩
  · have hk' : (k : Int) < n := Int.lt_toNat.mp hk
    rw [(tripCount_run g i0 step bound n hi h k (Int.le_of_lt hk')).2]
    exact decide_eq_true hk'
  · rw [(tripCount_run g i0 step bound n hi h n.toNat (Int.le_of_eq e)).2, e]
    exact decide_eq_false (Int.lt_irrefl n)

/-- FULL STRENGTH: the final counter value the pass materialises (`initial + increment * n`,
loop_algebraic_optimization.rs) is the value the loop leaves in the counter. -/
theorem tripcount_final_value (g : Guard) (i0 step bound n : Int) (hi : InRange i0)
    (h : tripCount g i0 step bound = .count n) : iterW i0 step n.toNat = i0 + step * n := by
  have e := Int.toNat_of_nonneg (tripCount_ideal g i0 step bound n hi h).1
  rw [(tripCount_run g i0 step bound n hi h n.toNat (Int.le_of_eq e)).1, e]

/-- The inputs on which the closed form was wrong before `fix:` 0934671 are declined. -/
theorem tripcount_declines_wrapping_loops :
    tripCount .lt 0 2 2147483647 = .unknown ∧ tripCount .le 0 1 2147483647 = .unknown ∧
    tripCount .ge 7 1 (-2147483647) = .unknown := by decide

example : tripCount .ge 9 (-2) 0 = .count 5 := by decide
example : tripCount .lt 0 2 2147483646 = .count 1073741823 := by decide
example : BreaksAt .lt 0 3 10 4 := tripcount_exact .lt 0 3 10 4 (by decide) (by decide) (by decide)
example : iterW 0 3 4 = 12 := by decide

/-! ### Closed-form ("algebraic") loop elimination: applicability and result -/

/-- FULL STRENGTH: whenever the closed-form elimination fires on a well-formed loop, (a) the emitted
code reads no name that existed only inside the deleted loop, (b) the original loop leaves after exactly
`n` iterations and (c) the value given to the break collector is the value the break expression has
at that moment — for the counter, every general induction variable, literals and outer names. -/
theorem algopt_sound (A : AlgLoop) (hwf : A.wf) (hi : InRange A.i0) (hb : InRange A.bound)
    (hg : ∀ p, p ∈ A.givs → InRange p.1) :
    algOpt A ≠ .readsInner ∧
    ∀ v, algOpt A = .value v →
      ∃ n : Nat, BreaksAt A.g A.i0 A.step A.bound n ∧ A.brkAt n = some v := by
  -- a bound value is right as soon as it is the break expression's value after `n.toNat` rounds
  have val : ∀ {n : Int}, tripCount A.g A.i0 A.step A.bound = .count n → ∀ w, A.brkAt n.toNat = some w →
      AlgOut.value w ≠ .readsInner ∧
      ∀ v, AlgOut.value w = .value v → ∃ n : Nat, BreaksAt A.g A.i0 A.step A.bound n ∧ A.brkAt n = some v :=
    fun ht w hw => ⟨AlgOut.noConfusion, fun v h => by
      cases h; exact ⟨_, tripcount_exact A.g A.i0 A.step A.bound _ hi hb ht, hw⟩⟩
  unfold algOpt
  -- the branches of `algOptWith` in the order of its text; `ht` is "the trip count is `n`", `hbk` says what `A.brk` is
  fun_cases algOptWith true true true A
  -- breaks with the counter
  case case3 ht hbk =>
    exact val ht _ (by rw [AlgLoop.brkAt, hbk]; exact congrArg some (tripcount_final_value A.g A.i0 A.step A.bound _ hi ht))
  -- breaks with a literal
  case case4 ht _ hbk => exact val ht _ (by rw [AlgLoop.brkAt, hbk])
  -- breaks with an outer name
  case case5 ht _ hbk => exact val ht _ (by rw [AlgLoop.brkAt, hbk])
  -- breaks with the general induction variable `k`, which exists (`hk`): start `i0`, stride `st`
  case case6 n ht k hbk i0 st hk =>
    refine val ht _ ?_
    rw [AlgLoop.brkAt, hbk]
    show (A.givs[k]?).map (fun p => iterW p.1 p.2 n.toNat) = _
    rw [hk]
    show some (iterW i0 st n.toNat) = _
    rw [iterW_eq _ _ (hg _ (List.mem_of_getElem? hk)), Int.toNat_of_nonneg (tripCount_ideal A.g A.i0 A.step A.bound n hi ht).1,
      addT, mulT, wrap32_add_right]
  -- breaks with a general induction variable that does not exist (`hk`): not in a well-formed loop
  case case7 k hbk hk =>
    exact absurd (hwf.2 k hbk) (Nat.not_lt.mpr (List.getElem?_eq_none_iff.mp hk))
  -- breaks with an inner name although no decline condition held (`hd`): a well-formed loop that does was declined
  case case8 hd _ _ hbk =>
    have hz : A.nonIv = 0 ∧ A.derived = 0 ∧ A.stmts = 0 := by
      simp only [Bool.true_and, Bool.or_eq_true, Bool.not_eq_true', bne_iff_ne, ne_eq, not_or, Bool.not_eq_false,
        Decidable.not_not] at hd
      exact ⟨hd.1.1.2, hd.1.2, hd.2⟩
    rcases hwf.1 hbk with h | h | h
    · exact absurd hz.1 h
    · exact absurd hz.2.1 h
    · exact absurd hz.2.2 h
  -- cases 1, 2, 9: declined, no break collector, trip count unknown: neither `.readsInner` nor a value
  all_goals exact ⟨AlgOut.noConfusion, fun _ h => AlgOut.noConfusion h⟩

/-- Each decline condition is necessary. (1) dropped (seeded-fault class C02e): a loop carrying a
passed-through variable that is its break value is "solved" by code that reads that variable after
the loop is gone. -/
theorem algopt_needs_no_nonIv :
    let A : AlgLoop := { g := .lt, i0 := 0, step := 1, bound := 10, literals := true, nonIv := 1, derived := 0,
                         stmts := 0, givs := [], brk := some .inner }
    A.wf ∧ algOpt A = .declined ∧ algOptWith false true true A = .readsInner := by
  refine ⟨⟨fun _ => Or.inl (by decide), fun k h => by simp at h⟩, by decide, by decide⟩

/-- (2) dropped: the break value is a derived induction variable computed in the body -/
theorem algopt_needs_no_derived :
    let A : AlgLoop := { g := .lt, i0 := 0, step := 1, bound := 10, literals := true, nonIv := 0, derived := 1,
                         stmts := 0, givs := [], brk := some .inner }
    A.wf ∧ algOpt A = .declined ∧ algOptWith true false true A = .readsInner := by
  refine ⟨⟨fun _ => Or.inr (Or.inl (by decide)), fun k h => by simp at h⟩, by decide, by decide⟩

/-- (3) dropped: a body with a statement (an effect, or the definition the break value reads) -/
theorem algopt_needs_no_stmts :
    let A : AlgLoop := { g := .lt, i0 := 0, step := 1, bound := 10, literals := true, nonIv := 0, derived := 0,
                         stmts := 1, givs := [], brk := some .inner }
    A.wf ∧ algOpt A = .declined ∧ algOptWith true true false A = .readsInner := by
  refine ⟨⟨fun _ => Or.inr (Or.inr (by decide)), fun k h => by simp at h⟩, by decide, by decide⟩

/-! ## 7. Dead-code elimination keeps every possibly-trapping statement and every effect -/

/-- FULL STRENGTH: for every straight-line block, every set of names used afterwards and every two
environments that agree on the names DCE considers used at entry: the optimised block prints the
same values, traps iff the original traps, and ends in an environment that agrees on the names
used afterwards. -/
theorem dce_preserves (p : List SStmt) (live : List Nat) (ρ1 ρ2 : Nat → Int)
    (h : ∀ x, x ∈ (dce p live).2 → ρ1 x = ρ2 x) :
    (execS p ρ1).1 = (execS (dce p live).1 ρ2).1 ∧
    (match (execS p ρ1).2, (execS (dce p live).1 ρ2).2 with
     | none, none => True
     | some σ1, some σ2 => ∀ x, x ∈ live → σ1 x = σ2 x
     | _, _ => False) := by
  induction p generalizing ρ1 ρ2 with
  | nil => exact ⟨rfl, h⟩
  | cons s r ih =>
    cases s with
    | print a =>
      rw [dce_print] at h ⊢
      have := ih ρ1 ρ2 fun x hx => h x (List.mem_append_right _ hx)
      simp only [execS, eval_agree a ρ1 ρ2 fun x hx => h x (List.mem_append_left _ hx)]
      exact ⟨congrArg (a.eval ρ2 :: ·) this.1, this.2⟩
    | bin y op a b =>
      by_cases hc : y ∉ (dce r live).2 ∧ op ≠ .div ∧ op ≠ .mod
      · rw [dce_bin, if_pos hc] at h ⊢
        obtain ⟨v, hv⟩ := evalTarget_total_of_not_div op (a.eval ρ1) (b.eval ρ1) hc.2.1 hc.2.2
        simp only [execS, hv]
        exact ih (update ρ1 y v) ρ2 fun x hx => (update_ne v (ne_of_mem_of_not_mem hx hc.1)).trans (h x hx)
      · rw [dce_bin, if_neg hc] at h ⊢
        have ea := eval_agree a ρ1 ρ2 fun x hx => h x (List.mem_append_left _ (List.mem_append_left _ hx))
        have eb := eval_agree b ρ1 ρ2 fun x hx => h x (List.mem_append_left _ (List.mem_append_right _ hx))
        simp only [execS, ea, eb]
        cases evalTarget op (a.eval ρ2) (b.eval ρ2) with
        | none => exact ⟨rfl, trivial⟩
        | some v =>
          exact ih _ _ fun x hx => update_congr (h x (List.mem_append_right _ hx)) y v

/-- The keep rule is necessary: dropping an unused division changes the outcome. -/
theorem dce_div_must_stay :
    (execS [.bin 0 .div (.lit 1) (.var 1)] (fun _ => 0)).2.isNone = true ∧
    (execS [] (fun _ => 0)).2.isSome = true ∧
    (dce [.bin 0 .div (.lit 1) (.var 1)] []).1 = [.bin 0 .div (.lit 1) (.var 1)] := by
  decide
example : (dce [.bin 2 .add (.var 0) (.lit 1), .bin 3 .mul (.var 0) (.var 1), .print (.var 3)] [3]).1
    = [.bin 3 .mul (.var 0) (.var 1), .print (.var 3)] := by decide

/-! ### DCE's use collector: every syntactic use position, the callee included -/

theorem dceU_live_mono (cc : Bool) (p : List US) (live : List Nat) : ∀ x, x ∈ live → x ∈ (dceU cc p live).2 :=
  fun x h => (mem_dceU_used cc p live x).mpr (.inl h)

/-- FULL STRENGTH: every name read — in ANY position: operand, pointer, struct field, closure
context, call argument, variable CALLEE, break value — by a statement that DCE keeps is in the used
set at the entry of the block, and so is every name used afterwards. -/
theorem dceU_kept_uses_live (p : List US) (live : List Nat) :
    ∀ s, s ∈ (dceU true p live).1 → ∀ x, x ∈ s.uses true → x ∈ (dceU true p live).2 :=
  fun s hs x hx => (mem_dceU_used true p live x).mpr (.inr ⟨s, hs, hx⟩)

/-- … hence a definition DCE removes is read by no statement it keeps after it -/
theorem dceU_removed_not_read (t : US) (r : List US) (live : List Nat) (x : Nat)
    (hd : t.defn = some x) (hrem : t.kept (dceU true r live).2 = false) :
    ∀ s, s ∈ (dceU true r live).1 → x ∉ s.uses true := by
  intro s hs hu
  simp only [US.kept, hd, Bool.or_eq_false_iff] at hrem
  exact not_mem_of_contains hrem.2 (dceU_kept_uses_live r live s hs x hu)

/-- the `While` arm: a loop variable that is dropped is read by no statement that stays in the body —
in no position, the callee included — and by no loop value of a variable that stays a candidate -/
theorem dropped_loop_var_unused (lvs : List (Nat × Operand × Operand)) (body : List US) (after : List Nat) (v : Nat)
    (hv : v ∈ (loopVarsStage1 true lvs body).map (·.1)) (hdrop : v ∉ keptLoopVars true lvs body after) :
    (∀ s, s ∈ (loopBodyDce true lvs body after).1 → v ∉ s.uses true) ∧
    (∀ lv, lv ∈ loopVarsStage1 true lvs body → v ∉ lv.2.2.vars) := by
  obtain ⟨lv0, hlv0, rfl⟩ := List.mem_map.mp hv
  have hnl : lv0.1 ∉ (loopBodyDce true lvs body after).2 := by
    intro hin
    apply hdrop
    simp only [keptLoopVars, List.mem_map, List.mem_filter]
    exact ⟨lv0, ⟨hlv0, by simpa using hin⟩, rfl⟩
  constructor
  · intro s hs hu
    exact hnl (dceU_kept_uses_live body _ s hs _ hu)
  · intro lv hlv hu
    apply hnl
    apply dceU_live_mono
    apply List.mem_append_right
    exact List.mem_flatMap.mpr ⟨lv, hlv, hu⟩

/-- The callee clause is necessary (seeded-fault class C02f): without it a loop variable that holds a
closure and is only CALLED in the body is dropped although the call that stays reads it. -/
theorem callee_must_count_as_use :
    let lvs : List (Nat × Operand × Operand) := [(1, .var 9, .var 3)]
    let body : List US := [.call (some 1) [.var 2] (some 4), .clo 3 (.var 4)]
    keptLoopVars false lvs body [] = [] ∧ keptLoopVars true lvs body [] = [1] ∧
    (US.call (some 1) [.var 2] (some 4)) ∈ (loopBodyDce false lvs body []).1 ∧
    1 ∈ (US.call (some 1) [.var 2] (some 4)).uses true := by decide

/-! ## 7b. DCE through SingleIf / IfElse

`dceS_mono` and `dceS_sim` are the argument of `dce_live_mono` and `dce_preserves` (§7) over `Simple`,
which has `brk` besides `bin` and `print`; the model keeps the two statement types apart. -/

theorem dceS_mono (p : List Simple) (live : List Nat) : ∀ x, x ∈ live → x ∈ (dceS p live).2 := by
  intro x h
  -- the branches of `dceS`: empty block; `bin` dropped; `bin` kept, `print`, `brk` (their reads go in front of the set)
  fun_induction dceS p live
  case case1 => exact h
  case case2 ih => exact ih h
  case case3 ih => exact List.mem_append_right _ (ih h)
  case case4 ih => exact List.mem_append_right _ (ih h)
  case case5 ih => exact List.mem_append_right _ (ih h)

theorem dceS_sim (p : List Simple) (live : List Nat) (ρ1 ρ2 : Nat → Int)
    (h : AgreeOn (dceS p live).2 ρ1 ρ2) :
    Sim (AgreeOn live) (execSimple p ρ1) (execSimple (dceS p live).1 ρ2) := by
  fun_induction dceS p live generalizing ρ1 ρ2
  -- empty block
  case case1 => exact ⟨rfl, h⟩
  -- `bin y op a b` dropped (`hc`): `y` is not used afterwards and `op` cannot trap
  case case2 y op a b r live hc ih =>
    simp only [Bool.and_eq_true, Bool.not_eq_true', bne_iff_ne, ne_eq] at hc
    obtain ⟨v, hv⟩ := evalTarget_total_of_not_div op (a.eval ρ1) (b.eval ρ1) hc.1.2 hc.2
    simp only [execSimple, hv]
    exact ih (update ρ1 y v) ρ2 fun x hx =>
      (update_ne v (ne_of_mem_of_not_mem hx (not_mem_of_contains hc.1.1))).trans (h x hx)
  -- `bin y op a b` kept
  case case3 y op a b r live _ ih =>
    have ea := eval_agree a ρ1 ρ2 fun x hx => h x (List.mem_append_left _ (List.mem_append_left _ hx))
    have eb := eval_agree b ρ1 ρ2 fun x hx => h x (List.mem_append_left _ (List.mem_append_right _ hx))
    simp only [execSimple, ea, eb]
    cases evalTarget op (a.eval ρ2) (b.eval ρ2) with
    | none => exact ⟨rfl, trivial⟩
    | some v => exact ih _ _ fun x hx => update_congr (h x (List.mem_append_right _ hx)) y v
  -- `print a`
  case case4 a r live ih =>
    have := ih ρ1 ρ2 (agreeOn_mono h fun x hx => List.mem_append_right _ hx)
    simp only [execSimple, eval_agree a ρ1 ρ2 fun x hx => h x (List.mem_append_left _ hx)]
    exact ⟨congrArg (a.eval ρ2 :: ·) this.1, this.2⟩
  -- `brk a`
  case case5 a r live ih =>
    simp only [execSimple, eval_agree a ρ1 ρ2 fun x hx => h x (List.mem_append_left _ hx)]
    exact ⟨rfl, rfl⟩

/-- FULL STRENGTH: DCE of a block of `bin` / `print` (a call, observed through what it prints) / `brk`
statements -/
theorem dceS_preserves (p : List Simple) (live : List Nat) (ρ1 ρ2 : Nat → Int)
    (h : AgreeOn (dceS p live).2 ρ1 ρ2) :
    (execSimple p ρ1).1 = (execSimple (dceS p live).1 ρ2).1 ∧
    EndRel live (execSimple p ρ1).2 (execSimple (dceS p live).1 ρ2).2 := by
  rw [endRel_eq]
  exact dceS_sim p live ρ1 ρ2 h

theorem dceL_mono (p : List LStmt) (live : List Nat) : ∀ x, x ∈ live → x ∈ (dceL p live).2 := by
  intro x h
  -- the branches of `dceL`: empty block; `.s st`; `.sif` dropped, kept; `.ife` dropped, kept (a kept statement puts
  -- the reads of its condition in front)
  fun_induction dceL p live
  case case1 => exact h
  case case2 ih => exact dceS_mono _ _ x (ih h)
  case case3 ih => exact dceS_mono _ _ x (ih h)
  case case4 ih => exact List.mem_append_right _ (dceS_mono _ _ x (ih h))
  case case5 ih => exact dceS_mono _ _ x (dceS_mono _ _ x (List.mem_append_right _ (ih h)))
  case case6 ih =>
    exact List.mem_append_right _ (dceS_mono _ _ x (dceS_mono _ _ x (List.mem_append_right _ (ih h))))

/-- final assignments: the original binds all of them, the optimised block only the live ones -/
theorem assign_kept_agree (L : List Nat) (l : List (Nat × Int)) (σ1 σ2 : Nat → Int) (h : AgreeOn L σ1 σ2) :
    AgreeOn L (assignAll σ1 l) (assignAll σ2 (l.filter fun p => L.contains p.1)) := by
  induction l generalizing σ1 σ2 with
  | nil => exact h
  | cons p r ih =>
    obtain ⟨y, v⟩ := p
    by_cases hy : L.contains y = true
    · simp only [List.filter_cons, hy, if_true, assignAll]
      exact ih _ _ fun x hx => update_congr (h x hx) y v
    · simp only [List.filter_cons, hy, assignAll]
      exact ih _ _ fun x hx =>
        (update_ne v fun (e : x = y) => hy (List.contains_iff_mem.mpr (e ▸ hx))).trans (h x hx)

/-- One branch of an if/else followed by its final assignments. `sel` picks the branch's side of a final assignment
(`hsel`: what it reads is among what both sides read). `l0` is the set the branch is cleaned with: for the first
branch the names live after the if/else and the reads of the kept final assignments, for the second the first
branch's used set, which contains them (`hl0`) — the code shares one set between the branches. -/
theorem dce_branch (body : List Simple) (fas : List (Nat × Operand × Operand)) (sel : Operand × Operand → Operand)
    (after l0 : List Nat) (ρ1 ρ2 : Nat → Int)
    (hsel : ∀ (q : Operand × Operand) x, x ∈ (sel q).vars → x ∈ q.1.vars ++ q.2.vars)
    (hl0 : ∀ x, x ∈ (keptFas fas after).flatMap (fun fa => fa.2.1.vars ++ fa.2.2.vars) ++ after → x ∈ l0)
    (h : AgreeOn (dceS body l0).2 ρ1 ρ2) :
    Sim (fun σ1 σ2 => AgreeOn after (assignAll σ1 (fas.map fun fa => (fa.1, (sel fa.2).eval σ1)))
          (assignAll σ2 ((keptFas fas after).map fun fa => (fa.1, (sel fa.2).eval σ2))))
      (execSimple body ρ1) (execSimple (dceS body l0).1 ρ2) :=
  (dceS_sim body l0 ρ1 ρ2 h).imp fun σ1 σ2 hσ => by
    have hvals : ((keptFas fas after).map fun fa => (fa.1, (sel fa.2).eval σ2))
        = (fas.map fun fa => (fa.1, (sel fa.2).eval σ1)).filter fun p => after.contains p.1 := by
      rw [List.filter_map]
      exact List.map_congr_left fun fa hfa => by
        rw [eval_agree (sel fa.2) σ1 σ2 fun x hx =>
          hσ x (hl0 x (List.mem_append_left _ (List.mem_flatMap.mpr ⟨fa, hfa, hsel fa.2 x hx⟩)))]
    rw [hvals]
    exact assign_kept_agree after _ σ1 σ2 (agreeOn_mono hσ fun x hx => hl0 x (List.mem_append_right _ hx))

/-- FULL STRENGTH: DCE through `SingleIf` and `IfElse` (with final assignments) over
statement blocks. For every block, every set of names used afterwards and every two environments
that agree on the names DCE considers used at entry: same prints, trap iff trap, break with the same
value, or both fall through with environments that agree on the names used afterwards. -/
theorem dceL_preserves (p : List LStmt) (live : List Nat) (ρ1 ρ2 : Nat → Int)
    (h : AgreeOn (dceL p live).2 ρ1 ρ2) :
    (execL p ρ1).1 = (execL (dceL p live).1 ρ2).1 ∧ EndRel live (execL p ρ1).2 (execL (dceL p live).1 ρ2).2 := by
  rw [endRel_eq]
  fun_induction dceL p live generalizing ρ1 ρ2
  -- the branches of `dceL`; `db`, `fas'`, `l0`, `d1`, `d2` are its local definitions
  -- empty block
  case case1 => exact ⟨rfl, h⟩
  -- `.s st`
  case case2 st r live ih =>
    rw [execL_s, execL_prefix]
    exact (dceS_sim [st] (dceL r live).2 ρ1 ρ2 h).andThen ih
  -- `.sif` dropped (`he`): its body had nothing that must stay
  case case3 c inv body r live db he ih =>
    have hs : Sim _ _ (execSimple db.1 ρ2) := dceS_sim body (dceL r live).2 ρ1 ρ2 h
    rw [List.isEmpty_iff.mp he] at hs
    rw [execL_sif]
    split
    · exact Sim.andThen_nil hs ih
    · exact ih _ _ (agreeOn_mono h (dceS_mono body _))
  -- `.sif` kept
  case case4 c inv body r live db _ ih =>
    have hb : AgreeOn db.2 ρ1 ρ2 := agreeOn_mono h fun x hx => List.mem_append_right _ hx
    rw [execL_sif, execL_sif, eval_agree c ρ1 ρ2 fun x hx => h x (List.mem_append_left _ hx)]
    split
    · exact (dceS_sim body (dceL r live).2 ρ1 ρ2 hb).andThen ih
    · exact ih _ _ (agreeOn_mono hb (dceS_mono body _))
  -- `.ife` dropped (`he`): neither branch has a statement that must stay and no final assignment is live
  case case5 c s1 s2 fas r live fas' l0 d1 d2 he ih =>
    have b1 : Sim _ _ (execSimple d1.1 ρ2) := dce_branch s1 fas (·.1) (dceL r live).2 l0 ρ1 ρ2
      (fun _ x hx => List.mem_append_left _ hx) (fun x hx => hx) (agreeOn_mono h (dceS_mono s2 _))
    have b2 : Sim _ _ (execSimple d2.1 ρ2) := dce_branch s2 fas (·.2) (dceL r live).2 d1.2 ρ1 ρ2
      (fun _ x hx => List.mem_append_right _ hx) (fun x hx => dceS_mono s1 _ x hx) h
    simp only [Bool.and_eq_true] at he
    rw [List.isEmpty_iff.mp he.1.1, show keptFas fas (dceL r live).2 = [] from List.isEmpty_iff.mp he.2] at b1
    rw [List.isEmpty_iff.mp he.1.2, show keptFas fas (dceL r live).2 = [] from List.isEmpty_iff.mp he.2] at b2
    rw [execL_ife]
    split
    · exact Sim.andThen_nil b1 fun _ _ hσ => ih _ _ hσ
    · exact Sim.andThen_nil b2 fun _ _ hσ => ih _ _ hσ
  -- `.ife` kept
  case case6 c s1 s2 fas r live fas' l0 d1 d2 _ ih =>
    have h2 : AgreeOn d2.2 ρ1 ρ2 := agreeOn_mono h fun x hx => List.mem_append_right _ hx
    rw [execL_ife, execL_ife, eval_agree c ρ1 ρ2 fun x hx => h x (List.mem_append_left _ hx)]
    split
    · exact Sim.andThen (dce_branch s1 fas (·.1) (dceL r live).2 l0 ρ1 ρ2
        (fun _ x hx => List.mem_append_left _ hx) (fun x hx => hx) (agreeOn_mono h2 (dceS_mono s2 _))) fun _ _ hσ => ih _ _ hσ
    · exact Sim.andThen (dce_branch s2 fas (·.2) (dceL r live).2 d1.2 ρ1 ρ2
        (fun _ x hx => List.mem_append_right _ hx) (fun x hx => dceS_mono s1 _ x hx) h2) fun _ _ hσ => ih _ _ hσ

example : (dceL [.s (.bin 2 .add (.var 0) (.lit 1)), .sif (.var 0) false [.bin 3 .mul (.var 2) (.var 2)],
                 .ife (.var 1) [.bin 4 .add (.var 2) (.lit 1), .print (.var 4)] [] [(5, .var 4, .lit 0), (6, .var 2, .var 2)]] [6]).1
    = [.s (.bin 2 .add (.var 0) (.lit 1)),
       .ife (.var 1) [.bin 4 .add (.var 2) (.lit 1), .print (.var 4)] [] [(6, .var 2, .var 2)]] := by decide

/-! ## 8. Loop-invariant code motion never introduces a trap -/

/-- FULL STRENGTH: whatever the loop body and whatever the environment, the
statements LICM places in front of the loop print nothing and cannot trap — so a loop that runs zero
iterations behaves as before. -/
theorem licm_no_new_trap (body : List SStmt) (variant : List Nat) (ρ : Nat → Int) :
    (execS (licm body variant).1 ρ).1 = [] ∧ (execS (licm body variant).1 ρ).2.isSome = true :=
  execS_noTrap _ (licm_hoisted_noTrap body variant) ρ

/-- The input on which the rule was wrong before `fix:` 5a00c22 (it had no operator test): the
invariant division traps, so hoisting it would introduce a trap into a zero-iteration loop; the
model hoists nothing. -/
theorem licm_div_hoist_counterexample :
    (execS [.bin 2 .div (.var 0) (.var 1)] (fun _ => 0)).2.isNone = true ∧
    (licm [.bin 2 .div (.var 0) (.var 1)] [5]).1 = [] := by decide
example : (licm [.bin 2 .mul (.var 1) (.lit 3), .bin 3 .add (.var 0) (.var 2), .bin 4 .div (.var 1) (.var 1)] [0]).1
    = [.bin 2 .mul (.var 1) (.lit 3)] := by decide

/-! ### LICM over every statement kind -/

/-- FULL STRENGTH: whatever the loop body, every statement LICM hoists is a value-defining statement
that cannot trap and reads no loop-variant name (neither a loop variable nor a name defined by a
statement that stayed in the loop before it). -/
theorem licmF_hoisted_invariant (p : List LS) (variant : List Nat) :
    ∀ s, s ∈ (licmF p variant).1 →
      ∃ x reads, s = .pure x reads false ∧ ∀ v, v ∈ reads → v ∉ variant := by
  induction p generalizing variant with
  | nil => intro s h; simp [licmF] at h
  | cons st r ih =>
    intro s h
    cases st with
    | stay defs =>
      simp only [licmF] at h
      obtain ⟨x, reads, hs, hr⟩ := ih (defs ++ variant) s h
      exact ⟨x, reads, hs, fun v hv hm => hr v hv (List.mem_append_right _ hm)⟩
    | pure x reads trap =>
      simp only [licmF] at h
      split at h
      · rename_i hc
        simp only [Bool.and_eq_true, Bool.not_eq_true', List.all_eq_true] at hc
        simp only [List.mem_cons] at h
        rcases h with rfl | h
        · exact ⟨x, reads, by rw [hc.1], fun v hv => not_mem_of_contains (hc.2 v hv)⟩
        · exact ih variant s h
      · obtain ⟨y, rs, hs, hr⟩ := ih (x :: variant) s h
        exact ⟨y, rs, hs, fun v hv hm => hr v hv (List.mem_cons_of_mem _ hm)⟩

def LS.defs : LS → List Nat
  | .pure x _ _ => [x]
  | .stay ds => ds

/-- the names LICM reports loop-variant are the given ones and what the statements left in the loop
define (so later hoisting decisions see every one of them) -/
theorem mem_licmF_variant (p : List LS) (variant : List Nat) (v : Nat) :
    v ∈ (licmF p variant).2.2 ↔ v ∈ variant ∨ ∃ s, s ∈ (licmF p variant).2.1 ∧ v ∈ s.defs := by
  induction p generalizing variant with
  | nil => exact ⟨.inl, fun h => h.elim id fun ⟨_, hs, _⟩ => nomatch hs⟩
  | cons st r ih =>
    cases st with
    | stay ds =>
      simp only [licmF, ih, List.mem_append, List.mem_cons, or_and_right, exists_or, exists_eq_left]
      exact or_assoc.trans or_left_comm
    | pure x reads trap =>
      simp only [licmF]
      split
      · exact ih variant
      · simp only [ih, List.mem_cons, or_and_right, exists_or, exists_eq_left]
        exact or_assoc.trans (or_left_comm.trans (or_congr_right (or_congr_left List.mem_singleton.symm)))

theorem licmF_variant_grows (p : List LS) (variant : List Nat) :
    ∀ v, v ∈ variant → v ∈ (licmF p variant).2.2 :=
  fun v h => (mem_licmF_variant p variant v).mpr (.inl h)

/-- FULL STRENGTH: whatever the loop body, every name defined by a statement that stays in the loop is reported
loop-variant (`LS.defs`, spelt out per statement kind). -/
theorem licmF_kept_defs_variant (p : List LS) (variant : List Nat) :
    ∀ s, s ∈ (licmF p variant).2.1 →
      (∀ x reads t, s = .pure x reads t → x ∈ (licmF p variant).2.2) ∧
      (∀ defs, s = .stay defs → ∀ d, d ∈ defs → d ∈ (licmF p variant).2.2) :=
  fun s hs => ⟨fun x _ _ e => (mem_licmF_variant p variant x).mpr (.inr ⟨s, hs, e ▸ .head _⟩),
    fun _ e d hd => (mem_licmF_variant p variant d).mpr (.inr ⟨s, hs, e ▸ hd⟩)⟩

example : (licmF [.pure 2 [1] false, .pure 3 [0] false, .pure 4 [3] false, .stay [5], .pure 6 [5] false, .pure 7 [1, 2] true] [0]).1
    = [.pure 2 [1] false] := by decide

/-! ## 8b. LICM: hoisted statements first, then the rest of the body = the body -/

def SStmt.reads : SStmt → List Nat
  | .bin _ _ a b => a.vars ++ b.vars
  | .print a => a.vars

def SStmt.defn : SStmt → Option Nat
  | .bin x _ _ _ => some x
  | .print _ => none

/-- SSA discipline of a loop body: every defined name is new, every read name is in scope
(`wfCallee` over `SStmt`) -/
def wfBody : List SStmt → List Nat → Bool
  | [], _ => true
  | .bin x _ a b :: r, sc => !sc.contains x && a.vars.all sc.contains && b.vars.all sc.contains && wfBody r (x :: sc)
  | .print a :: r, sc => a.vars.all sc.contains && wfBody r sc

/-- `defsSimple` over `SStmt` -/
def defsS : List SStmt → List Nat
  | [] => []
  | .bin x _ _ _ :: r => x :: defsS r
  | .print _ :: r => defsS r

theorem execS_cons_congr (s : SStmt) {p q : List SStmt} (h : ∀ ρ, execS p ρ = execS q ρ) (ρ : Nat → Int) :
    execS (s :: p) ρ = execS (s :: q) ρ := by
  cases s with
  | print a => simp only [execS, h]
  | bin x op a b =>
    simp only [execS]
    cases evalTarget op (a.eval ρ) (b.eval ρ) with
    | none => rfl
    | some v => exact h _

theorem commute_one (y : Nat) (opy : Op) (c d : Operand) (s : SStmt) (k : List SStmt) (ρ : Nat → Int)
    (htot : opy ≠ .div ∧ opy ≠ .mod)
    (h1 : y ∉ s.reads) (h2 : s.defn ≠ some y)
    (h3 : ∀ x, s.defn = some x → x ∉ c.vars ∧ x ∉ d.vars) :
    execS (.bin y opy c d :: s :: k) ρ = execS (s :: .bin y opy c d :: k) ρ := by
  obtain ⟨w, hw⟩ := evalTarget_total_of_not_div opy (c.eval ρ) (d.eval ρ) htot.1 htot.2
  cases s with
  | print a =>
    simp only [SStmt.reads] at h1
    simp only [execS, hw, eval_update_of_not_mem a ρ y w h1]
  | bin x op a b =>
    simp only [SStmt.reads, List.mem_append, not_or] at h1
    have hxy : x ≠ y := fun e => h2 (by simp [SStmt.defn, e])
    have h3' := h3 x rfl
    simp only [execS, hw, eval_update_of_not_mem a ρ y w h1.1, eval_update_of_not_mem b ρ y w h1.2]
    cases hv : evalTarget op (a.eval ρ) (b.eval ρ) with
    | none => rfl
    | some v =>
      simp only [eval_update_of_not_mem c ρ x v h3'.1, eval_update_of_not_mem d ρ x v h3'.2, hw]
      rw [update_comm ρ y x w v (fun e => hxy e.symm)]

/-- a hoisted block: pure trap-free statements -/
def PureBlock (h : List SStmt) : Prop := ∀ t, t ∈ h → ∃ y op c d, t = .bin y op c d ∧ op ≠ .div ∧ op ≠ .mod

/-- moving `s` from behind a block of pure trap-free statements to its front -/
theorem commute_block (h : List SStmt) (s : SStmt) (k : List SStmt) (ρ : Nat → Int) (hp : PureBlock h)
    (h1 : ∀ y, y ∈ defsS h → y ∉ s.reads ∧ s.defn ≠ some y)
    (h3 : ∀ x, s.defn = some x → ∀ t, t ∈ h → x ∉ t.reads) :
    execS (h ++ s :: k) ρ = execS (s :: (h ++ k)) ρ := by
  induction h generalizing ρ with
  | nil => rfl
  | cons t r ih =>
    obtain ⟨y, op, c, d, rfl, htot⟩ := hp t (List.mem_cons_self ..)
    have hy := h1 y (by simp [defsS])
    -- behind `t`, move `s` to the front of the rest of the block; then swap `t` and `s`
    rw [List.cons_append, execS_cons_congr _ fun ρ' => ih ρ' (fun t ht => hp t (List.mem_cons_of_mem _ ht))
      (fun z hz => h1 z (by simp [defsS, hz])) (fun x hx t ht => h3 x hx t (List.mem_cons_of_mem _ ht))]
    exact commute_one y op c d s (r ++ k) ρ htot hy.1 hy.2
      (fun x hx => by
        have := h3 x hx (.bin y op c d) (by simp)
        simp only [SStmt.reads, List.mem_append, not_or] at this
        exact this)

theorem pureBlock_of_noTrap {h : List SStmt} (hh : ∀ s ∈ h, noTrapStmt s = true) : PureBlock h := fun t ht => by
  cases t with
  | print a => cases hh _ ht
  | bin y op c d => exact ⟨y, op, c, d, rfl, of_decide_eq_true (hh _ ht)⟩

theorem not_mem_vars_of_invariant {variant : List Nat} {o : Operand} (ho : o.invariant variant = true)
    {z : Nat} (hz : z ∈ variant) : z ∉ o.vars := by
  cases o with
  | lit n => exact fun hm => nomatch hm
  | var w =>
    intro hm
    cases List.mem_singleton.mp hm
    rw [Operand.invariant, List.contains_iff_mem.mpr hz] at ho
    cases ho

/-- the two facts `licm_hoist_past` needs of what LICM hoists: it reads no loop-variant name, and it defines only
names the body defines -/
theorem licm_hoisted_facts (p : List SStmt) (variant : List Nat) :
    (∀ t, t ∈ (licm p variant).1 → ∀ x, x ∈ variant → x ∉ t.reads) ∧
    (∀ y, y ∈ defsS (licm p variant).1 → y ∈ defsS p) := by
  induction p generalizing variant with
  | nil => exact ⟨fun _ h => (nomatch h), fun _ h => (nomatch h)⟩
  | cons st r ih =>
    cases st with
    | print a => exact ih variant
    | bin x op a b =>
      simp only [licm]
      split
      · rename_i hc
        obtain ⟨a2, a3⟩ := ih variant
        refine ⟨fun t ht z hz => ?_, fun y hy => ?_⟩
        · rcases List.mem_cons.mp ht with rfl | ht
          · exact fun hm => (List.mem_append.mp hm).elim (not_mem_vars_of_invariant hc.2.2.1 hz)
              (not_mem_vars_of_invariant hc.2.2.2 hz)
          · exact a2 t ht z hz
        · exact (List.mem_cons.mp hy).elim (fun e => e ▸ .head _) fun h => .tail _ (a3 y h)
      · obtain ⟨a2, a3⟩ := ih (x :: variant)
        exact ⟨fun t ht z hz => a2 t ht z (.tail _ hz), fun y hy => .tail _ (a3 y hy)⟩

theorem wfBody_defs_fresh (p : List SStmt) (sc : List Nat) (h : wfBody p sc = true) : ∀ y, y ∈ defsS p → y ∉ sc := by
  induction p generalizing sc with
  | nil => exact fun _ hy => nomatch hy
  | cons st r ih =>
    intro y hy
    cases st with
    | print a => exact ih sc (Bool.and_eq_true_iff.mp h).2 y hy
    | bin x op a b =>
      simp only [wfBody, Bool.and_eq_true, Bool.not_eq_true'] at h
      rcases List.mem_cons.mp hy with rfl | hy
      · exact not_mem_of_contains h.1.1.1
      · exact fun hs => ih (x :: sc) h.2 y hy (.tail _ hs)

/-- a statement that stays in the loop may run before what LICM hoists from the statements after it:
those read nothing it defines (its name is loop-variant), and it reads nothing they define (SSA) -/
theorem licm_hoist_past (s : SStmt) (r : List SStmt) (variant sc : List Nat) (ρ : Nat → Int)
    (hreads : ∀ v, v ∈ s.reads → v ∈ sc) (hwf : wfBody r (s.defn.toList ++ sc) = true)
    (hv : ∀ x, s.defn = some x → x ∈ variant) :
    execS ((licm r variant).1 ++ s :: (licm r variant).2.1) ρ
      = execS (s :: ((licm r variant).1 ++ (licm r variant).2.1)) ρ := by
  obtain ⟨hrd, hd⟩ := licm_hoisted_facts r variant
  refine commute_block _ s _ ρ (pureBlock_of_noTrap (licm_hoisted_noTrap r variant))
    (fun y hy => ?_) (fun x hx t ht => hrd t ht x (hv x hx))
  have hy' := wfBody_defs_fresh r _ hwf y (hd y hy)
  exact ⟨fun hm => hy' (List.mem_append_right _ (hreads y hm)),
    fun e => hy' (List.mem_append_left _ (by rw [e]; exact .head _))⟩

/-- FULL STRENGTH: for every SSA loop body, every variant set and every
environment, running the hoisted statements first and the remaining body afterwards gives exactly
what the body gives: the same printed values, the same trap, the same final environment. -/
theorem licm_permutation (p : List SStmt) (variant sc : List Nat) (ρ : Nat → Int) (hwf : wfBody p sc = true) :
    execS ((licm p variant).1 ++ (licm p variant).2.1) ρ = execS p ρ := by
  induction p generalizing variant sc ρ with
  | nil => rfl
  | cons st r ih =>
    cases st with
    | print a =>
      simp only [wfBody, Bool.and_eq_true] at hwf
      simp only [licm]
      rw [licm_hoist_past (.print a) r variant sc ρ (vars_all hwf.1) hwf.2 (fun x hx => by cases hx)]
      exact execS_cons_congr _ (fun ρ' => ih variant sc ρ' hwf.2) ρ
    | bin x op a b =>
      simp only [wfBody, Bool.and_eq_true, Bool.not_eq_true'] at hwf
      obtain ⟨⟨⟨_, ha⟩, hb⟩, hr⟩ := hwf
      simp only [licm]
      split
      · -- hoisted: it stays in front
        exact execS_cons_congr _ (fun ρ' => ih variant (x :: sc) ρ' hr) ρ
      · rw [licm_hoist_past (.bin x op a b) r (x :: variant) sc ρ
          (fun v hv => (List.mem_append.mp hv).elim (vars_all ha v) (vars_all hb v)) hr
          (fun z hz => by cases hz; exact .head _)]
        exact execS_cons_congr _ (fun ρ' => ih (x :: variant) (x :: sc) ρ' hr) ρ

example : wfBody [.bin 2 .mul (.var 1) (.lit 3), .print (.var 0), .bin 3 .add (.var 0) (.var 2), .bin 4 .xor (.var 1) (.var 2)] [0, 1] = true := by decide
example : (licm [.bin 2 .mul (.var 1) (.lit 3), .print (.var 0), .bin 3 .add (.var 0) (.var 2), .bin 4 .xor (.var 1) (.var 2)] [0]).1
    = [.bin 2 .mul (.var 1) (.lit 3), .bin 4 .xor (.var 1) (.var 2)] := by decide

/-! ## 9. Local value numbering rewrites every consuming position (incl. `Break`)

`lvnSimple_preserves` (in `Lemmas/OptKernel.lean`) is the general statement for arbitrary contexts;
the theorems here are its whole-block and loop-body forms. -/

/-- corollary for a whole block started with empty contexts (what `optimize_function` does): same
prints; trap iff trap; break with the same value; or both fall through with every name of the
original readable in the optimised environment through the final renaming. -/
theorem lvn_preserves (p : List Simple) (seen : List Nat) (ρ : Nat → Int) (hwf : wfSimple p seen = true) :
    (execSimple p ρ).1 = (execSimple (lvnSimple p { ren := [], avail := [] }).1 ρ).1 ∧
    (match (execSimple p ρ).2, (execSimple (lvnSimple p { ren := [], avail := [] }).1 ρ).2 with
     | .trap, .trap => True
     | .brk v, .brk w => v = w
     | .next ρ1, .next ρ2 =>
        ∀ x, x ∈ seenAfter p seen → ρ1 x = ρ2 (rn (lvnSimple p { ren := [], avail := [] }).2.ren x)
     | _, _ => False) := by
  show Sim _ _ _
  exact (lvnSimple_sim p seen _ ρ ρ hwf (inv_empty seen ρ)).imp fun _ _ hI => hI.1.rel

/-- The dropped consuming position of the seeded fault class: if `Break` were not rewritten, the
block `t1 = e; t2 = e; break t2` would break with the never-assigned `t2`. -/
theorem lvn_break_must_be_renamed :
    (lvnSimple [.bin 2 .mul (.var 0) (.var 0), .bin 3 .mul (.var 0) (.var 0), .brk (.var 3)] { ren := [], avail := [] }).1
      = [.bin 2 .mul (.var 0) (.var 0), .brk (.var 2)] ∧
    (execSimple [.bin 2 .mul (.var 0) (.var 0), .brk (.var 3)] (fun v => if v = 0 then 5 else 0)).2 matches .brk 0 := by
  decide
/-- FULL STRENGTH, loop bodies: blocks of statements, `SingleIf`s and `IfElse`s (with final
assignments) whose branches are statement blocks (any `Break` inside them included): same prints, same way of ending (trap / break with the same value /
fall through). -/
theorem lvnL_preserves (p : List LStmt) (seen : List Nat) (cx : Cx) (ρ1 ρ2 : Nat → Int)
    (hwf : wfL p seen = true) (h : Inv seen cx ρ1 ρ2) :
    (execL p ρ1).1 = (execL (lvnL p cx) ρ2).1 ∧
    (match (execL p ρ1).2, (execL (lvnL p cx) ρ2).2 with
     | .trap, .trap => True
     | .brk v, .brk w => v = w
     | .next ρ1', .next ρ2' => Inv (seenAfterL p seen) (lvnCx p cx) ρ1' ρ2'
     | _, _ => False) := by
  show Sim _ _ _
  exact (lvnL_sim p seen cx ρ1 ρ2 hwf h).imp fun _ _ hI => hI.1
example : wfL [.s (.bin 2 .mul (.var 0) (.var 0)), .s (.bin 3 .gt (.var 2) (.var 1)),
              .sif (.var 3) false [.bin 4 .mul (.var 0) (.var 0), .brk (.var 4)]] [0, 1] = true := by decide
example : lvnL [.s (.bin 2 .mul (.var 0) (.var 0)), .s (.bin 3 .gt (.var 2) (.var 1)),
              .sif (.var 3) false [.bin 4 .mul (.var 0) (.var 0), .brk (.var 4)]] { ren := [], avail := [] }
        = [.s (.bin 2 .mul (.var 0) (.var 0)), .s (.bin 3 .gt (.var 2) (.var 1)), .sif (.var 3) false [.brk (.var 2)]] := by decide

/-! ### LVN of a `While` (nested loop, loop values) -/

/-- well-formedness of a `While` relative to the names in scope before it -/
def wfLoop (W : Loop) (seen : List Nat) : Bool :=
  W.lvs.all (fun lv => lv.2.1.vars.all seen.contains)
    && wfFa (W.lvs.map (·.1)) seen
    && wfL W.body (seenFa (W.lvs.map (·.1)) seen)
    && W.lvs.all (fun lv => lv.2.2.vars.all (seenAfterL W.body (seenFa (W.lvs.map (·.1)) seen)).contains)

/-- The loop from any round on: `l` holds the values of the loop variables at the head of the round, the
initial values in the first round and the loop values afterwards, the same on both sides (`lvnLoop_preserves`
puts the initial values in). Only the names of `l` matter (`hl`), so the induction on the fuel goes through. -/
theorem iterLoop_preserves (W : Loop) (seen : List Nat) (cx : Cx) (hwf : wfLoop W seen = true)
    (fuel : Nat) (ρ1 ρ2 : Nat → Int) (h : Inv seen cx ρ1 ρ2) (l : List (Nat × Int))
    (hl : l.map (·.1) = W.lvs.map (·.1)) :
    LoopRel (iterLoop W.lvs W.body fuel (assignAll ρ1 l))
            (iterLoop (lvnLoop W cx).lvs (lvnLoop W cx).body fuel (assignAll ρ2 l)) := by
  simp only [wfLoop, Bool.and_eq_true] at hwf
  obtain ⟨⟨⟨_, hnames⟩, hbody⟩, hvals⟩ := hwf
  have hvals := List.all_eq_true.mp hvals
  induction fuel generalizing ρ1 ρ2 l with
  | zero => exact trivial
  | succ fuel ih =>
    obtain ⟨hA, f1, f2⟩ := assign_inv l seen ρ1 ρ2 h (by rw [hl]; exact hnames)
    rw [hl] at hA
    simp only [lvnLoop, lvnLc_eq, iterLoop_succ]
    refine LoopRel.step (lvnL_sim W.body _ cx _ _ hbody hA) fun A' B' ⟨hI, g1, g2⟩ => ?_
    -- the body and the loop-variable assignments only touch names outside `seen`
    have sub : ∀ v, v ∈ seen → v ∈ seenFa (W.lvs.map (·.1)) seen := fun v hv => (mem_seenFa _ _ _).mpr (.inr hv)
    have hout := inv_frame h (f1.trans sub g1) (f2.trans sub g2)
    have heq : ((W.lvs.map fun lv => (lv.1, rnO cx.ren lv.2.1, rnO (lvnCx W.body cx).ren lv.2.2)).map
          fun lv => (lv.1, lv.2.2.eval B')) = (W.lvs.map fun lv => (lv.1, lv.2.2.eval A')) := by
      rw [List.map_map]
      exact List.map_congr_left fun lv hlv => by
        simp only [Function.comp_def, rnO_eval hI lv.2.2 (vars_all (hvals lv hlv))]
    rw [heq]
    have := ih A' B' hout (W.lvs.map fun lv => (lv.1, lv.2.2.eval A')) (map_fst_map _ _)
    simpa only [lvnLoop, lvnLc_eq] using this

/-- FULL STRENGTH: local value numbering of a `While` (initial values through the outer context, body
in a pushed scope, loop values through the context at the end of the body): for every fuel the loop
prints the same values and traps / breaks with the same value, or both are still running. -/
theorem lvnLoop_preserves (W : Loop) (seen : List Nat) (cx : Cx) (ρ1 ρ2 : Nat → Int)
    (hwf : wfLoop W seen = true) (h : Inv seen cx ρ1 ρ2) (fuel : Nat) :
    LoopRel (execLoop W fuel ρ1) (execLoop (lvnLoop W cx) fuel ρ2) := by
  have hw := hwf
  simp only [wfLoop, Bool.and_eq_true] at hw
  have hinit : ((lvnLoop W cx).lvs.map fun lv => (lv.1, lv.2.1.eval ρ2)) = (W.lvs.map fun lv => (lv.1, lv.2.1.eval ρ1)) := by
    simp only [lvnLoop, List.map_map]
    exact List.map_congr_left fun lv hlv => by
      simp only [Function.comp_def, rnO_eval h lv.2.1 (vars_all (List.all_eq_true.mp hw.1.1.1 lv hlv))]
  unfold execLoop
  rw [hinit]
  exact iterLoop_preserves W seen cx hwf fuel ρ1 ρ2 h _ (by simp [List.map_map, Function.comp_def])

example : (lvnLoop { lvs := [(2, .lit 0, .var 5)], body := [.s (.bin 3 .mul (.var 2) (.var 2)), .s (.bin 4 .gt (.var 3) (.var 1)),
      .sif (.var 4) false [.bin 6 .mul (.var 2) (.var 2), .brk (.var 6)], .s (.bin 5 .add (.var 2) (.lit 1)), .s (.bin 7 .add (.var 2) (.lit 1))] }
    { ren := [], avail := [] }).lvs = [(2, .lit 0, .var 5)] := by decide

/-! ## 10. Common-subexpression elimination never hoists a trap above an effect -/

/-- FULL STRENGTH: for all branches and environments, the statements CSE places
in front of an if/else print nothing and cannot trap, so no output of either branch can be lost or
reordered with a trap. -/
theorem cse_hoist_order (s1 s2 : List Simple) (fresh : Nat) (ρ : Nat → Int) :
    (execSimple (cseHoisted (cseCommon s1 s2) fresh) ρ).1 = [] ∧
    ∃ ρ', (execSimple (cseHoisted (cseCommon s1 s2) fresh) ρ).2 = .next ρ' := by
  apply cseHoisted_total
  intro k hk
  exact keysOf_noDiv s1 k (List.mem_filter.mp hk).1

/-- The input on which CSE was wrong before `fix:` 934d4e6 (DIV entered the set): the branch prints 1
before its division traps, with the division in front of it nothing is printed; the model finds no
common value to hoist. -/
theorem cse_div_hoist_counterexample :
    (execSimple [.print (.lit 1), .bin 2 .div (.lit 7) (.var 1)] (fun _ => 0)).1 = [1] ∧
    (execSimple ([.bin 9 .div (.lit 7) (.var 1)] ++ [.print (.lit 1), .bin 2 .div (.lit 7) (.var 1)]) (fun _ => 0)).1 = [] ∧
    cseCommon [.print (.lit 1), .bin 2 .div (.lit 7) (.var 1)] [.print (.lit 2), .bin 3 .div (.lit 7) (.var 1)] = [] := by
  decide
example : cseCommon [.bin 2 .add (.var 0) (.var 1), .bin 3 .div (.var 0) (.var 1)]
                    [.bin 4 .div (.var 0) (.var 1), .bin 5 .add (.var 0) (.var 1)] = [(.add, .var 0, .var 1)] := by decide

/-- CSE over all value kinds: a DIV/MOD value is never among the common values that get hoisted -/
theorem cseC_never_hoists_div (s1 s2 : List CS) :
    ∀ k, k ∈ cseCommonC s1 s2 → ∀ op a b, k = .b (op, a, b) → op ≠ .div ∧ op ≠ .mod := by
  intro k hk
  have hk1 := (List.mem_filter.mp hk).1
  clear hk
  induction s1 with
  | nil => simp [keysOfC] at hk1
  | cons st r ih =>
    cases st with
    | eff => exact ih (by simpa [keysOfC] using hk1)
    | un kind a i =>
      simp only [keysOfC, List.mem_cons] at hk1
      rcases hk1 with rfl | h
      · intro op a' b' e; exact CKey.noConfusion e
      · exact ih h
    | bin op a b =>
      simp only [keysOfC] at hk1
      split at hk1
      · rename_i hc
        simp only [List.mem_cons] at hk1
        rcases hk1 with rfl | h
        · intro op' a' b' e
          injection e with e; injection e with e1 _; subst e1; exact hc
        · exact ih h
      · exact ih hk1

/-! ## 10b. CSE: the rewritten if/else behaves like the original (value equivalence) -/

/-- FULL STRENGTH: a prefix of statements that prints nothing and cannot trap
or break, and that defines only names the following block never reads, does not change what that
block prints or how it ends; the final environments agree outside the prefix's names. -/
theorem fresh_prefix_preserves (h : List Simple) (p : List LStmt) (ρ ρ' : Nat → Int)
    (hrun : execSimple h ρ = ([], .next ρ'))
    (hfresh : ∀ x, x ∈ defsSimple h → p.any (usesL x) = false) :
    (execL (h.map LStmt.s ++ p) ρ).1 = (execL p ρ).1 ∧
    ResAgreeS (defsSimple h) (execL (h.map LStmt.s ++ p) ρ).2 (execL p ρ).2 := by
  rw [execL_prefix, hrun]
  have hA : AgreeS (defsSimple h) ρ' ρ := by
    intro y hy
    exact execSimple_frame h ρ ρ' (by rw [hrun]) y hy
  exact execL_irrelS (defsSimple h) p ρ' ρ hfresh hA

theorem defs_cseHoisted (ks : List Key) (fresh : Nat) : defsSimple (cseHoisted ks fresh) = List.range' fresh ks.length := by
  induction ks generalizing fresh with
  | nil => rfl
  | cons k r ih => obtain ⟨op, a, b⟩ := k; simp [cseHoisted, defsSimple, ih, List.range'_succ]

/-- FULL STRENGTH: what CSE makes of an if/else — the values common to both branches
computed under fresh names in front of it, the if/else itself unchanged — prints the same and ends
the same as the if/else alone, whatever follows, for all branches, final assignments, continuations
and environments, provided the fresh names are not read by the program. -/
theorem cse_preserves (c : Operand) (s1 s2 : List Simple) (fas : List (Nat × Operand × Operand)) (rest : List LStmt)
    (fresh : Nat) (ρ : Nat → Int)
    (hfresh : ∀ x, fresh ≤ x → x < fresh + (cseCommon s1 s2).length → (LStmt.ife c s1 s2 fas :: rest).any (usesL x) = false) :
    (execL ((cseHoisted (cseCommon s1 s2) fresh).map LStmt.s ++ LStmt.ife c s1 s2 fas :: rest) ρ).1
      = (execL (LStmt.ife c s1 s2 fas :: rest) ρ).1 ∧
    ResAgreeS (List.range' fresh (cseCommon s1 s2).length)
      (execL ((cseHoisted (cseCommon s1 s2) fresh).map LStmt.s ++ LStmt.ife c s1 s2 fas :: rest) ρ).2
      (execL (LStmt.ife c s1 s2 fas :: rest) ρ).2 := by
  obtain ⟨ht, ρ', hρ'⟩ := cse_hoist_order s1 s2 fresh ρ
  have hrun : execSimple (cseHoisted (cseCommon s1 s2) fresh) ρ = ([], .next ρ') := by
    rw [← ht, ← hρ']
  have := fresh_prefix_preserves (cseHoisted (cseCommon s1 s2) fresh) (LStmt.ife c s1 s2 fas :: rest) ρ ρ' hrun
    (by
      intro x hx
      rw [defs_cseHoisted, List.mem_range'_1] at hx
      exact hfresh x hx.1 hx.2)
  rw [defs_cseHoisted] at this
  exact this

example : (cseHoisted (cseCommon [.bin 2 .add (.var 0) (.var 1)] [.bin 3 .add (.var 0) (.var 1)]) 50)
    = [.bin 50 .add (.var 0) (.var 1)] := by decide

/-! ## 11. Inlining: a call replaced by the renamed body of the callee

`inlineBody_preserves` (in `Lemmas/OptKernel.lean`, audited) is the invariant-carrying statement for
the body; the theorem here is the whole replacement of one call. -/

/-- FULL STRENGTH: replacing `c = f(args)` by the renamed body of `f` plus
`c = ret + 0` prints the same values, traps iff the call traps, and leaves every caller-visible name
unchanged and `c` bound to the returned value (as a 32-bit value) — for every SSA callee body, every
injective renaming into names that are fresh for the caller, every argument list and environment. -/
theorem inline_preserves (mg : Nat → Nat) (S : List Nat) (hinj : ∀ x y, mg x = mg y → x = y)
    (hfresh : ∀ x, mg x ∉ S) (f : Callee) (args : List Operand) (c : Nat) (ρ : Nat → Int)
    (hlen : f.ps.length = args.length)
    (hargs : ∀ a, a ∈ args → ∀ v, v ∈ a.vars → v ∈ S)
    (hwf : wfCallee f.body f.ps = true)
    (hret : ∀ v, v ∈ f.ret.vars → v ∈ defsSimple f.body ∨ v ∈ f.ps) :
    (execCall f args c ρ).1 = (execSimple (inlineCall mg f args c) ρ).1 ∧
    (match (execCall f args c ρ).2, (execSimple (inlineCall mg f args c) ρ).2 with
     | .trap, .trap => True
     | .next ρ1, .next ρ2 => ρ2 c = wrap32 (ρ1 c) ∧ ∀ v, v ∈ S → v ≠ c → ρ2 v = ρ1 v
     | _, _ => False) := by
  have hkeys : keys (f.ps.zip args) = f.ps := List.map_fst_zip (Nat.le_of_eq hlen)
  have h0 := iinv_init mg S f.ps args ρ hargs
  have hb := inlineBody_preserves mg S hinj hfresh f.body (f.ps.zip args) _ ρ ρ (by rw [hkeys]; exact hwf) h0
  simp only [execCall, inlineCall]
  rw [execSimple_append]
  cases h1 : execSimple f.body (bindParams f.ps (args.map (·.eval ρ))) with
  | mk t1 r1 =>
    cases h2 : execSimple (inlineBody mg f.body (f.ps.zip args)).1 ρ with
    | mk t2 r2 =>
      rw [h1, h2] at hb
      obtain ⟨ht, hb⟩ := hb
      cases r1 <;> cases r2
      case trap.trap => exact ⟨ht, trivial⟩
      -- both bodies fall through, into `σ'` and `ρ''`: what is left is `c = ret + 0`
      case next.next σ' ρ'' =>
        have er := irw_eval hb.1 f.ret fun v hv => by rw [keys_inlineBody, hkeys]; exact hret v hv
        have e0 : (Operand.lit 0).eval ρ'' = 0 := rfl
        simp only [andThen, execSimple, evalTarget, er, e0, Int.add_zero, List.append_nil]
        exact ⟨ht, by rw [update_self, update_self],
          fun v hv hvc => (update_ne _ hvc).trans ((hb.1.frame v hv).trans (update_ne _ hvc).symm)⟩
      all_goals exact hb.elim

example : inlineCall (· + 1000) { ps := [0, 1], body := [.bin 2 .mul (.var 0) (.var 1), .print (.var 2)], ret := .var 2 }
            [.var 5, .lit 3] 9
        = [.bin 1002 .mul (.var 5) (.lit 3), .print (.var 1002), .bin 9 .add (.var 1002) (.lit 0)] := by decide

end SamVerif.Opt

/-! ## 12. Temporary names across phases: the round driver keeps the heap's counter ahead of every
name it issued (`optimize_sources`, lib.rs:92-124) -/
namespace SamVerif.OptTemp

theorem mem_issued (s n x : Nat) : x ∈ issued s n ↔ s ≤ x ∧ x < s + n :=
  List.mem_range'_1

/-- FULL STRENGTH: if the second phase starts its counter at or above every name the first phase
issued, no name is issued twice. -/
theorem phases_disjoint (s1 n1 s2 n2 : Nat) (h : s1 + n1 ≤ s2) : (issued s1 n1 ++ issued s2 n2).Nodup := by
  rw [List.nodup_append]
  refine ⟨List.nodup_range' .., List.nodup_range' .., ?_⟩
  intro a ha b hb
  rw [mem_issued] at ha hb
  omega

/-- … and a stale start collides as soon as both phases draw a name -/
theorem stale_counter_collides (s1 n1 s2 n2 : Nat) (h1 : s1 ≤ s2) (h2 : s2 < s1 + n1) (hn : 0 < n2) :
    ¬ (issued s1 n1 ++ issued s2 n2).Nodup := by
  rw [List.nodup_append]
  rintro ⟨_, _, hd⟩
  exact hd s2 ((mem_issued ..).mpr ⟨h1, h2⟩) s2 ((mem_issued ..).mpr ⟨Nat.le_refl _, by omega⟩) rfl

/-- the invariant `optimize_sources` owes to the next phase (and which the harness checks on every
optimised program): every issued id is below the heap's next id, for any number of rounds and any
number of requests per round -/
theorem rounds_invariant (h : Nat) (ns : List Nat) :
    h ≤ (runRounds h ns).1 ∧ ∀ x, x ∈ (runRounds h ns).2 → h ≤ x ∧ x < (runRounds h ns).1 := by
  induction ns generalizing h with
  | nil => exact ⟨Nat.le_refl _, fun _ hx => nomatch hx⟩
  | cons n r ih =>
    obtain ⟨h1, h2⟩ := ih (h + n)
    have hh := Nat.le_add_right h n
    refine ⟨Nat.le_trans hh h1, fun x hx => ?_⟩
    rcases List.mem_append.mp hx with hx | hx
    · exact ⟨((mem_issued ..).mp hx).1, Nat.lt_of_lt_of_le ((mem_issued ..).mp hx).2 h1⟩
    · exact ⟨Nat.le_trans hh (h2 x hx).1, (h2 x hx).2⟩

/-- hence the lowering phase, which starts at the heap's next id, never re-issues an optimizer name -/
theorem lowering_disjoint (h : Nat) (ns : List Nat) (m : Nat) :
    ∀ x, x ∈ (runRounds h ns).2 → x ∉ issued (runRounds h ns).1 m := by
  intro x hx hm
  have := (rounds_invariant h ns).2 x hx
  rw [mem_issued] at hm
  omega

/-- Without the sync after the last round the invariant fails whenever that round issued a name
(the seeded-fault class C02c): the lowering phase re-issues it. -/
theorem missing_last_sync_collides (h n m : Nat) (ns : List Nat) (hn : 0 < n) (hm : 0 < m) :
    ∃ x, x ∈ (runRoundsStale h (ns ++ [n])).2 ∧ x ∈ issued (runRoundsStale h (ns ++ [n])).1 m := by
  induction ns generalizing h with
  | nil =>
    -- the one round issues `h` and leaves the heap at `h`
    exact ⟨h, (mem_issued h n h).mpr ⟨Nat.le_refl h, Nat.lt_add_of_pos_right hn⟩,
      (mem_issued h m h).mpr ⟨Nat.le_refl h, Nat.lt_add_of_pos_right hm⟩⟩
  | cons k r ih =>
    obtain ⟨x, hx1, hx2⟩ := ih (h + k)
    -- `runRoundsStale` has an equation of its own for a single round, so its equation for `k :: rest` needs the
    -- rest in the form `a :: t`
    have hne : r ++ [n] ≠ [] := by simp
    cases hr : r ++ [n] with
    | nil => exact absurd hr hne
    | cons a t =>
      rw [hr] at hx1 hx2
      refine ⟨x, ?_, ?_⟩
      · simp only [List.cons_append, hr, runRoundsStale, List.mem_append]; exact Or.inr hx1
      · simp only [List.cons_append, hr, runRoundsStale]; exact hx2
example : (runRounds 10 [2, 0, 3]).1 = 15 ∧ (runRoundsStale 10 [2, 0, 3]).1 = 12 := by decide

end SamVerif.OptTemp
