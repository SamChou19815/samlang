import SamVerif.Model.BackendsNames
/-!
# C04 (continued) — variable names that are special in JavaScript
-/
namespace SamVerif.Backends

/-- The finite fact behind `reserved_covered`. The table is looked up first, so that the scan of
samlang's keywords (`isSamIdent`) runs only for the words the table lacks. -/
theorem esWords_reserved :
    esWords.all (fun w => tsReservedWords.contains w || !isSamIdent w) = true := by
  decide +kernel

/-- **Every JavaScript-special word that samlang accepts as an identifier is mangled** by the
TypeScript printer (by evaluation over the table regenerated from `lir.rs`, in `esWords_reserved`: a
word missing from `TS_RESERVED_WORDS` makes that evaluation fail). The statement is about membership
in the table: the lookup `push_variable_name` performs (`contains`) is pinned by the translator and
exercised by the `resv` correspondence family, not by this theorem. -/
theorem reserved_covered : ∀ w ∈ esWords, isSamIdent w = true → mangle w = 36 :: w := by
  intro w hw hi
  have h := List.all_eq_true.mp esWords_reserved w hw
  rw [hi, Bool.not_true, Bool.or_false] at h
  exact if_pos h

/-- the words this is about (non-vacuity): 31 of the 48 special words are legal samlang identifiers -/
example : (esWords.filter isSamIdent).length = 31 := by decide +kernel

/-- a mangled name is never another samlang identifier (`$` is not an identifier character), and
mangling is injective, so two different variables never get the same TypeScript name -/
theorem mangle_injective (w v : List UInt8) (hw : isSamIdent w = true) (hv : isSamIdent v = true)
    (h : mangle w = mangle v) : w = v := by
  unfold mangle at h
  have first : ∀ u : List UInt8, isSamIdent u = true → u.head? ≠ some 36 := by
    intro u hu
    cases u with
    | nil => simp
    | cons c r =>
      simp only [isSamIdent, Bool.and_eq_true] at hu
      have := hu.1.1
      simp only [isLower, Bool.and_eq_true, decide_eq_true_eq] at this
      intro e; simp at e; subst e
      exact absurd this.1 (by decide)
  by_cases h1 : tsReservedWords.contains w = true <;> by_cases h2 : tsReservedWords.contains v = true <;>
    simp only [h1, h2, if_true, if_false, Bool.false_eq_true] at h
  · exact (List.cons.inj h).2
  · exact absurd (by rw [← h]; rfl) (first v hv)
  · exact absurd (by rw [h]; rfl) (first w hw)
  · exact h

end SamVerif.Backends
