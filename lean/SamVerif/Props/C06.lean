import SamVerif.Lemmas.IntRange
import SamVerif.Lemmas.Assign
/-!
# C06 — A program containing a static error is always rejected and never compiled

Property theorems (helper lemmas: `Lemmas/IntRange.lean`, `Lemmas/Assign.lean`).

Two decision kernels of the front end are modelled and proved about in this file:

* the integer-literal range gate (`Model/IntRange.lean` = `TokenProducer` of `lexer.rs:711-767`
  composed with the parser's `parse::<i32>().unwrap_or(0)`, `source_parser.rs:1512`);
* the assignability / meet / same-type kernels every type diagnostic goes through
  (`Model/Assign.lean` = `type_system.rs:11-169`, `type_.rs` `is_the_same_type`).

Both are tied to the code on every run by the `tok` / `asg` / `slv` correspondence protocols
(`harness/src/bin/c06.rs` vs `Driver/C06.lean`).  The inference engine that decides *where* `any`
placeholders arise is not modelled; it is reached by the mutant oracle of `vlib/c06.py` only (claim
label: proof (partial)).  The remaining gates (visibility, type-argument arity, conformance, bounds,
name resolution, super types, scope exit, exhaustiveness and the compile gate) are in
`Props/C06b.lean` – `Props/C06e.lean` and `Props/C06x.lean`.
-/
namespace SamVerif.IntRange

/-! ## Integer literal range gate (code as of fix commit d5c9a21)

Before the fix the gate rejected the literal 2³¹ only as the very first token of a file (finding
C06-F1, design probe P11; witness `( 2147483648`). The fixed code satisfies the full-strength
statements below. -/

/-- **Full strength.** For every raw token stream and every integer literal in it: the literal
passes the gate without an error iff it is a 32-bit integer as written (below 2³¹, or exactly 2³¹
directly preceded by `-`). -/
theorem int_range_exact (rs : List Raw) (i v : Nat) (h : rs[i]? = some (.int v)) :
    (produce rs).2[i]? = some false ↔ InRange rs i v :=
  (run_err_false none rs i v h).trans (inRange_iff rs i v).symm

example : (produce [.other 0, .int maxP1]).2 = [false, true] := by decide
example : (produce [.minus, .int maxP1]).2 = [false, false] := by decide
example : (produce [.other 0, .int 5, .int 2147483649]).2 = [false, false, true] := by decide

/-- Equivalent reading: an error is reported exactly for the out-of-range literals. -/
theorem literal_error_iff (rs : List Raw) (i v : Nat) (h : rs[i]? = some (.int v)) :
    (produce rs).2[i]? = some true ↔ ¬ InRange rs i v := by
  rw [inRange_iff, Classical.not_not]
  exact run_err none rs i v h

/-- One error flag per raw token, never more. -/
theorem errors_aligned (rs : List Raw) : (produce rs).2.length = rs.length :=
  run_errs_length none rs

/-- Everything above 2³¹ is rejected wherever it stands. -/
theorem above_range_always_rejected (rs : List Raw) (i v : Nat) (h : rs[i]? = some (.int v))
    (hv : maxP1 < v) : (produce rs).2[i]? = some true :=
  (run_err none rs i v h).2 (Or.inl hv)

example : (produce [.minus, .int 2147483649]).2 = [false, true] := by decide

/-- Nothing is lost or invented by the one-token buffer: un-merging the yielded tokens gives back
exactly the raw stream (so no literal can escape the gate by being dropped). -/
theorem producer_conserves_tokens (rs : List Raw) : expand (produce rs).1 = rs := by
  simpa [produce, expand] using run_conserves none rs

example : (produce [.other 1, .minus, .int maxP1, .minus]).1 =
    [.raw (.other 1), .negMin, .raw .minus] := by decide

/-- **Full strength.** If no error is reported, every integer token the parser receives is read
(`parse::<i32>().unwrap_or(0)`) as exactly the value that was written, and that value is a 32-bit
integer. -/
theorem accepted_literals_faithful (rs : List Raw)
    (hok : ∀ b ∈ (produce rs).2, b = false)
    (t : Tok) (ht : t ∈ (produce rs).1) (w : Int) (hw : writtenValue t = some w) :
    parserValue t = some w ∧ -(maxP1 : Int) ≤ w ∧ w < maxP1 := by
  revert hw
  -- the clauses of `writtenValue`: 1 an integer literal; 2 the merged `-2147483648`; 3 any other token has no value
  fun_cases writtenValue t with
  | case1 v =>
    rintro ⟨⟩
    rcases mem_run_int none rs v ht with hp | ⟨i, hi, hn⟩
    · cases hp
    · -- no error at `i`, so the literal is in range; it was not merged, so it is below 2³¹
      have hin : InRange rs i v := (inRange_iff rs i v).2 fun hc =>
        Bool.noConfusion (hok _ (List.mem_of_getElem? ((run_err none rs i v hi).2 hc)))
      have hlt : v < maxP1 :=
        hin.resolve_right fun hc => hn ⟨hc.1, (prevIsMinus_iff rs i).2 hc.2⟩
      exact ⟨by simp [parserValue, hlt],
        Int.le_trans (Int.neg_nonpos_of_nonneg (Int.natCast_nonneg _)) (Int.natCast_nonneg _),
        Int.ofNat_lt.2 hlt⟩
  | case2 =>
    rintro ⟨⟩
    refine ⟨rfl, by simp [maxP1], by simp [maxP1]⟩
  | case3 => exact nofun

example : (produce [.other 3, .int 7, .minus, .int maxP1]).2 = [false, false, false, false] ∧
    (produce [.other 3, .int 7, .minus, .int maxP1]).1 = [.raw (.other 3), .raw (.int 7), .negMin] := by
  decide

end SamVerif.IntRange

namespace SamVerif.Assign

/-! ## Assignability, meet, same-type: the gate of every type diagnostic -/

/-- Correct programs are not rejected by this gate: every type is assignable to itself. -/
theorem assignable_reflexive (a : Ty) : assignable a a = true := assignable_refl_both.1 a

/-- For types without `any`, the assignability check accepts iff the two types are identical
(reasons/locations are not part of the model). -/
theorem assignable_iff_equal (a b : Ty) (ha : anyFree a = true) (hb : anyFree b = true) :
    assignable a b = true ↔ a = b :=
  ⟨fun h => eq_of_assignable a b h ha hb, fun h => h ▸ assignable_reflexive a⟩

example : assignable (.nominal false 1 2 [.prim .int]) (.nominal false 1 2 [.prim .bool]) = false := by
  decide

/-- **Class identity in assignability.** Two nominal types are assignable only if they name the
same toplevel of the same *module* with the same class-statics flag (and have assignable type
arguments): identity is (module, name, statics), never the name alone. -/
theorem assign_nominal_identity (s1 s2 : Bool) (m1 m2 i1 i2 : Nat) (as bs : List Ty)
    (h : assignable (.nominal s1 m1 i1 as) (.nominal s2 m2 i2 bs) = true) :
    m1 = m2 ∧ i1 = i2 ∧ s1 = s2 ∧ assignableL as bs = true :=
  and4_iff.1 h

/-- `type_meet` reports an error exactly when `assignability_check` does (all types, `any` included). -/
theorem meet_accepts_iff_assignable (a b : Ty) : (meet a b).isSome = assignable a b :=
  meet_isSome_both.1 a b

/-- Counterexample to the name-only reading (the shape of seeded fault C06g): same class name and
type arguments, different module — not assignable, in either direction, nor are they "the same
type" for conformance. -/
theorem assign_nominal_name_only_counterexample :
    assignable (.nominal false 1 5 [.prim .int]) (.nominal false 2 5 [.prim .int]) = false ∧
    assignable (.nominal false 2 5 [.prim .int]) (.nominal false 1 5 [.prim .int]) = false ∧
    (meet (.nominal false 1 5 []) (.nominal false 2 5 [])).isSome = false ∧
    sameType (.nominal false 1 5 []) (.nominal false 2 5 []) = false := by
  refine ⟨by decide, by decide, ?_, by decide⟩
  rw [meet_accepts_iff_assignable]; decide

/-- The *only* way a type fault slips through an assignability check: an `any` on one side. -/
theorem fault_slips_only_through_any (a b : Ty) (h : assignable a b = true) (hne : a ≠ b) :
    anyFree a = false ∨ anyFree b = false := by
  cases ha : anyFree a
  · exact Or.inl rfl
  · cases hb : anyFree b
    · exact Or.inr rfl
    · exact absurd ((assignable_iff_equal a b ha hb).1 h) hne

/-- …and an `any` really is a hole: it is accepted against everything, on either side. -/
theorem any_accepts_everything (p : Bool) (t : Ty) :
    assignable (.any p) t = true ∧ assignable t (.any p) = true :=
  ⟨rfl, by cases t <;> rfl⟩

/-- **Exact characterisation with `any`.** The assignability check accepts two types iff they have
a common `any`-free instance, i.e. iff they are equal up to filling `any` holes (consistency of
gradual typing). Nothing else is ever accepted. -/
theorem assignable_iff_consistent (a b : Ty) :
    assignable a b = true ↔ ∃ c, anyFree c = true ∧ refines a c = true ∧ refines b c = true :=
  ⟨fun h => ⟨common a b, common_spec_both.1 a b h⟩,
    fun ⟨c, hc, ha, hb⟩ => assignable_of_common_instance_both.1 a c ha hc b hb⟩

example : ¬ ∃ c, anyFree c = true ∧ refines (.fn [.any true] (.prim .int)) c = true ∧
    refines (.fn [.prim .bool] (.prim .bool)) c = true := by
  rw [← assignable_iff_consistent]; decide

/-- Without `any`, a successful meet is the (identical) input type: nothing is invented. -/
theorem meet_anyFree_eq (a b c : Ty) (ha : anyFree a = true) (hb : anyFree b = true)
    (h : meet a b = some c) : c = a ∧ a = b := by
  have hab := eq_of_assignable a b (by rw [← meet_accepts_iff_assignable, h]; rfl) ha hb
  rw [← hab, meet_self_both.1 a ha] at h
  exact ⟨(Option.some.inj h).symm, hab⟩

example : meet (.fn [.prim .int] (.any true)) (.fn [.any false] (.prim .bool))
    = some (.fn [.prim .int] (.prim .bool)) := rfl

example : sameType (.fn [.prim .int] (.prim .int)) (.fn [.prim .int] (.prim .bool)) = false := by decide

/-- Arity gate inside types: function types (and type-argument lists) of different lengths are
never assignable, even when every component is `any`. -/
theorem arity_gate (as bs : List Ty) (r r' : Ty) (h : assignable (.fn as r) (.fn bs r') = true) :
    as.length = bs.length :=
  assignableL_length as bs (Bool.and_eq_true_iff.1 h).1

example : assignable (.fn [.any true] (.any true)) (.fn [.any true, .any true] (.any true)) = false := by
  decide

/-- Call-site arity gate (`main_checker.rs:766`): accepted iff the counts agree. -/
theorem call_arity_gate (expected actual : Nat) : arityOk expected actual = true ↔ expected = actual := by
  simp [arityOk]

/-! ## Constraint solving (`solve_type_constraints`, used for contextually typed calls) -/

/-- **Soundness of the generic-instantiation gate.** For an `any`-free concrete type and an
`any`-free generic type: if `solve_type_constraints` reports no error, then the computed
substitution really instantiates the generic type to the concrete type (and the returned "solved
generic type" is the concrete type). So a concrete type that is *not* an instance of the generic
type is always reported. -/
theorem solve_sound (tps : List Nat) (c g : Ty) (hc : anyFree c = true) (hg : anyFree g = true)
    (hok : (solveTypeConstraints tps c g).2.2 = false) :
    subst (solveTypeConstraints tps c g).1 g = c ∧ (solveTypeConstraints tps c g).2.1 = c := by
  have hv0 : AnyFreeVals ([] : Subst) := fun _ _ h => nomatch h
  have hk0 : KeysIn tps ([] : Subst) := fun _ _ h => nomatch h
  obtain ⟨_, _, hk1⟩ := solve_inv tps c g [] hc hv0 hk0
  obtain ⟨hext, hkf⟩ := fill_inv tps tps (solve tps c g []) hk1 (fun _ h => h)
  -- no error: the meet with the solved generic type exists, so `c` is assignable to it
  have hass : assignable c (subst (fillPlaceholders tps (solve tps c g [])) g) = true := by
    rw [← meet_accepts_iff_assignable, ← Option.not_isNone]
    exact congrArg (!·) hok
  have key := (solve_exact_both tps).1 c g [] _ hc hg hv0 hk0 hext hkf hass
  exact ⟨key, key⟩

example : (solveTypeConstraints [1] (.nominal false 1 2 [.prim .int, .prim .bool])
    (.nominal false 1 2 [.generic 1, .generic 1])).2.2 = true := by decide

/-! ## Branch joins: if / else-if chains and match arms -/

/-- **Full strength.** An if / else-if chain of any length whose branch types contain no `any` is
accepted iff *every* branch has the type of the first one. Hence a chain with one differently
typed branch — first, interior or last, whatever the context expects — has no accepted typing. -/
theorem ifChain_join_exact (a : Ty) (rest : List Ty) (h : anyFreeL (a :: rest) = true) :
    ifChainOk (a :: rest) = true ↔ ∀ t ∈ rest, t = a := by
  induction rest generalizing a with
  | nil => simp [ifChainOk]
  | cons b rest ih =>
    obtain ⟨ha, hb⟩ := Bool.and_eq_true_iff.1 h
    have h1 := assignable_iff_equal b a (Bool.and_eq_true_iff.1 hb).1 ha
    simp only [ifChainOk, Bool.and_eq_true, h1, ih b hb, List.mem_cons, forall_eq_or_imp]
    exact and_congr_right fun h => by rw [h]

/-- One wrongly typed branch at *any* position of a chain of >= 2 branches is rejected. -/
theorem ifChain_one_wrong_branch_rejected (a t : Ty) (pre post : List Ty)
    (hpre : ∀ x ∈ pre, x = a) (hpost : ∀ x ∈ post, x = a) (hne : t ≠ a)
    (hlen : pre ≠ [] ∨ post ≠ []) (ha : anyFree a = true) (ht : anyFree t = true) :
    ifChainOk (pre ++ t :: post) = false := by
  have hfree : anyFreeL (pre ++ t :: post) = true := anyFreeL_iff.2 fun x hx => by
    rcases List.mem_append.1 hx with h | h
    · exact hpre x h ▸ ha
    · rcases List.mem_cons.1 h with rfl | h
      · exact ht
      · exact hpost x h ▸ ha
  -- an accepted chain has all branches equal to its first one, which is `t` or is `a`
  apply Bool.eq_false_iff.2
  intro hc
  cases pre with
  | nil =>
    cases post with
    | nil => exact hlen.elim (fun h => h rfl) (fun h => h rfl)
    | cons y ys =>
      exact hne (((ifChain_join_exact t _ hfree).1 hc y List.mem_cons_self).symm.trans
        (hpost y List.mem_cons_self))
  | cons x xs =>
    exact hne (((ifChain_join_exact x _ hfree).1 hc t (List.mem_append_right _ List.mem_cons_self)).trans
      (hpre x List.mem_cons_self))

example : ifChainOk [.prim .int, .prim .bool, .prim .int, .prim .int] = false := by decide
example : ifChainOk [.prim .int, .prim .int, .prim .int] = true := by decide

/-- **Full strength.** Match arms without `any` are accepted iff every arm has the type of the
first one. -/
theorem match_join_exact (a : Ty) (rest : List Ty) (h : anyFreeL (a :: rest) = true) :
    matchArmsOk (a :: rest) = true ↔ ∀ t ∈ rest, t = a := by
  obtain ⟨ha, hr⟩ := Bool.and_eq_true_iff.1 h
  rw [matchArmsOk, List.all_eq_true]
  exact forall_congr' fun t => imp_congr_right fun ht =>
    assignable_iff_equal t a (anyFreeL_iff.1 hr t ht) ha

example : matchArmsOk [.prim .int, .prim .int, .prim .bool] = false := by decide

end SamVerif.Assign
