import SamVerif.Props.C08
/-!
# C15 (part b) — the renamed program prints to text that parses back to the renamed tree

`rewrite::rename` returns `pretty_print_source_module(apply_renaming(..))`.  On C08's model
of the printer / parser for the complete expression language (`Model/FmtFull.lean`, tied to the real
printer and parser by C08's `fmt-expr` protocol) identifiers are atoms and the binder texts of
`let`, match cases and lambdas are opaque numbers; renaming relabels them.  C08's
`roundtrip_expr_total` holds for *every* tree, hence for every renamed tree: the printed form of
the renamed expression always parses, to the renamed tree up to the same-operator regrouping
`regroup` (C08-F5, meaning-preserving).  This file is the only C15 file that imports another
property's module; it is audited separately and reported as "not checked" when it does not build.
-/
namespace SamVerif.FmtFull
open SamVerif.Fmt (BinOp UOp)

mutual
/-- relabel identifier atoms by `f` and binder texts (let patterns, case patterns, lambda
parameter lists) by `g` -/
def Expr.relabel (f g : Nat → Nat) : Expr → Expr
  | .atom a => .atom (f a)
  | .tuple e es => .tuple (e.relabel f g) (es.relabel f g)
  | .block b => .block (b.relabel f g)
  | .post e p fld => .post (e.relabel f g) p fld
  | .call0 fn => .call0 (fn.relabel f g)
  | .call fn args => .call (fn.relabel f g) (args.relabel f g)
  | .unary u e => .unary u (e.relabel f g)
  | .binary o l r => .binary o (l.relabel f g) (r.relabel f g)
  | .ifElse c t e => .ifElse (c.relabel f g) (t.relabel f g) (e.relabel f g)
  | .matchE m cs => .matchE (m.relabel f g) (cs.relabel f g)
  | .lambda k body => .lambda (g k) (body.relabel f g)
def Args.relabel (f g : Nat → Nat) : Args → Args
  | .one e => .one (e.relabel f g)
  | .cons e rest => .cons (e.relabel f g) (rest.relabel f g)
def Cases.relabel (f g : Nat → Nat) : Cases → Cases
  | .one p b => .one (g p) (b.relabel f g)
  | .cons p b rest => .cons (g p) (b.relabel f g) (rest.relabel f g)
def Stmts.relabel (f g : Nat → Nat) : Stmts → Stmts
  | .nil => .nil
  | .letS k e rest => .letS (g k) (e.relabel f g) (rest.relabel f g)
  | .exprS e rest => .exprS (e.relabel f g) (rest.relabel f g)
def Blk.relabel (f g : Nat → Nat) : Blk → Blk
  | .fin ss e => .fin (ss.relabel f g) (e.relabel f g)
  | .noFin ss => .noFin (ss.relabel f g)
end

/-- **The renamed tree round-trips**: for every expression and every relabelling of its identifiers
and binder texts, printing the renamed tree and parsing the output succeeds and reads back the
renamed tree (up to `regroup`). -/
theorem renamed_roundtrip (f g : Nat → Nat) (e : Expr) :
    parseE (printE (e.relabel f g)) = some (regroup (e.relabel f g)) :=
  roundtrip_expr_total (e.relabel f g)

/-! ### renaming commutes with the formatter's regrouping -/

theorem relabel_prec (f g : Nat → Nat) (e : Expr) : (e.relabel f g).prec = e.prec := by
  cases e <;> simp [Expr.relabel, Expr.prec]

theorem relabel_shortcutOk (f g : Nat → Nat) (o : BinOp) (r : Expr) :
    shortcutOk o (r.relabel f g) = shortcutOk o r := by
  cases r <;> simp [Expr.relabel, shortcutOk, relabel_prec]

theorem relabel_usesShortcut (f g : Nat → Nat) (o : BinOp) (l r : Expr) :
    usesShortcut o (l.relabel f g) (r.relabel f g) = usesShortcut o l r := by
  simp [usesShortcut, relabel_prec, relabel_shortcutOk]

mutual
/-- in the two-component shape of `eval_rg`: relabelling commutes with `regroup`, and with grafting
a shortcut right operand onto a relabelled accumulator. -/
theorem regroup_relabel (f g : Nat → Nat) : (e : Expr) →
    regroup (e.relabel f g) = (regroup e).relabel f g ∧
    ∀ o acc, shortcutOk o e = true →
      graftR o (acc.relabel f g) (e.relabel f g) = (graftR o acc e).relabel f g
  | .atom a => ⟨rfl, fun o acc h => by simp [shortcutOk] at h⟩
  | .tuple e es => by
    refine ⟨?_, fun o acc h => by simp [shortcutOk] at h⟩
    simp only [Expr.relabel, regroup_tuple, (regroup_relabel f g e).1, rgArgs_relabel f g es]
  | .block b => by
    refine ⟨?_, fun o acc h => by simp [shortcutOk] at h⟩
    simp only [Expr.relabel, regroup_block, rgBlk_relabel f g b]
  | .post e p fld => by
    refine ⟨?_, fun o acc h => by simp [shortcutOk] at h⟩
    simp only [Expr.relabel, regroup_post, (regroup_relabel f g e).1]
  | .call0 fn => by
    refine ⟨?_, fun o acc h => by simp [shortcutOk] at h⟩
    simp only [Expr.relabel, regroup_call0, (regroup_relabel f g fn).1]
  | .call fn args => by
    refine ⟨?_, fun o acc h => by simp [shortcutOk] at h⟩
    simp only [Expr.relabel, regroup_call, (regroup_relabel f g fn).1, rgArgs_relabel f g args]
  | .unary u e => by
    refine ⟨?_, fun o acc h => by simp [shortcutOk] at h⟩
    simp only [Expr.relabel, regroup_unary, (regroup_relabel f g e).1]
  | .ifElse c t e => by
    refine ⟨?_, fun o acc h => by simp [shortcutOk] at h⟩
    simp only [Expr.relabel, regroup_ifElse, (regroup_relabel f g c).1, rgBlk_relabel f g t,
      rgBlk_relabel f g e]
  | .matchE m cs => by
    refine ⟨?_, fun o acc h => by simp [shortcutOk] at h⟩
    simp only [Expr.relabel, regroup_matchE, (regroup_relabel f g m).1, rgCases_relabel f g cs]
  | .lambda k b => by
    refine ⟨?_, fun o acc h => by simp [shortcutOk] at h⟩
    simp only [Expr.relabel, regroup_lambda, (regroup_relabel f g b).1]
  | .binary o l r => by
    have ihl := (regroup_relabel f g l).1
    have ihr := regroup_relabel f g r
    constructor
    · simp only [Expr.relabel, regroup_binary, relabel_usesShortcut]
      by_cases hs : usesShortcut o l r = true
      · simp only [hs, if_true, ihl]
        exact ihr.2 o (regroup l) (shortcut_shape hs).2.2.2
      · simp only [hs, Bool.false_eq_true, if_false, ihl, ihr.1, Expr.relabel]
    · intro o2 acc hsc
      obtain ⟨_, r1, r2, heq, _⟩ := shortcutOk_shape hsc
      cases heq
      simp only [Expr.relabel, graftR_binary, relabel_usesShortcut]
      by_cases hs : usesShortcut o l r = true
      · simp only [hs, if_true, ihl]
        exact ihr.2 o (.binary o acc (regroup l)) (shortcut_shape hs).2.2.2
      · simp only [hs, Bool.false_eq_true, if_false, ihl, ihr.1, Expr.relabel]
theorem rgArgs_relabel (f g : Nat → Nat) : ∀ (as : Args), rgArgs (as.relabel f g) = (rgArgs as).relabel f g
  | .one e => by simp only [Args.relabel, rgArgs_one, (regroup_relabel f g e).1]
  | .cons e rest => by
    simp only [Args.relabel, rgArgs_cons, (regroup_relabel f g e).1, rgArgs_relabel f g rest]
theorem rgCases_relabel (f g : Nat → Nat) : ∀ (cs : Cases), rgCases (cs.relabel f g) = (rgCases cs).relabel f g
  | .one k b => by simp only [Cases.relabel, rgCases_one, (regroup_relabel f g b).1]
  | .cons k b rest => by
    simp only [Cases.relabel, rgCases_cons, (regroup_relabel f g b).1, rgCases_relabel f g rest]
theorem rgBlk_relabel (f g : Nat → Nat) : ∀ (b : Blk), rgBlk (b.relabel f g) = (rgBlk b).relabel f g
  | .fin ss e => by
    simp only [Blk.relabel, rgBlk_fin, (regroup_relabel f g e).1, rgStmts_relabel f g ss]
  | .noFin ss => by simp only [Blk.relabel, rgBlk_noFin, rgStmts_relabel f g ss]
theorem rgStmts_relabel (f g : Nat → Nat) : ∀ (ss : Stmts), rgStmts (ss.relabel f g) = (rgStmts ss).relabel f g
  | .nil => by simp only [Stmts.relabel, rgStmts]
  | .letS k e rest => by
    simp only [Stmts.relabel, rgStmts_letS, (regroup_relabel f g e).1, rgStmts_relabel f g rest]
  | .exprS e rest => by
    simp only [Stmts.relabel, rgStmts_exprS, (regroup_relabel f g e).1, rgStmts_relabel f g rest]
end

mutual
theorem relabel_inverse (f g f' g' : Nat → Nat) (hf : ∀ x, f' (f x) = x) (hg : ∀ x, g' (g x) = x) :
    ∀ e : Expr, (e.relabel f g).relabel f' g' = e
  | .atom a => by simp [Expr.relabel, hf]
  | .tuple e es => by simp [Expr.relabel, relabel_inverse f g f' g' hf hg e, relabelArgs_inverse f g f' g' hf hg es]
  | .block b => by simp [Expr.relabel, relabelBlk_inverse f g f' g' hf hg b]
  | .post e p fld => by simp [Expr.relabel, relabel_inverse f g f' g' hf hg e]
  | .call0 fn => by simp [Expr.relabel, relabel_inverse f g f' g' hf hg fn]
  | .call fn args => by simp [Expr.relabel, relabel_inverse f g f' g' hf hg fn, relabelArgs_inverse f g f' g' hf hg args]
  | .unary u e => by simp [Expr.relabel, relabel_inverse f g f' g' hf hg e]
  | .binary o l r => by simp [Expr.relabel, relabel_inverse f g f' g' hf hg l, relabel_inverse f g f' g' hf hg r]
  | .ifElse c t e => by simp [Expr.relabel, relabel_inverse f g f' g' hf hg c, relabelBlk_inverse f g f' g' hf hg t, relabelBlk_inverse f g f' g' hf hg e]
  | .matchE m cs => by simp [Expr.relabel, relabel_inverse f g f' g' hf hg m, relabelCases_inverse f g f' g' hf hg cs]
  | .lambda k b => by simp [Expr.relabel, hg, relabel_inverse f g f' g' hf hg b]
theorem relabelArgs_inverse (f g f' g' : Nat → Nat) (hf : ∀ x, f' (f x) = x) (hg : ∀ x, g' (g x) = x) :
    ∀ as : Args, (as.relabel f g).relabel f' g' = as
  | .one e => by simp [Args.relabel, relabel_inverse f g f' g' hf hg e]
  | .cons e rest => by simp [Args.relabel, relabel_inverse f g f' g' hf hg e, relabelArgs_inverse f g f' g' hf hg rest]
theorem relabelCases_inverse (f g f' g' : Nat → Nat) (hf : ∀ x, f' (f x) = x) (hg : ∀ x, g' (g x) = x) :
    ∀ cs : Cases, (cs.relabel f g).relabel f' g' = cs
  | .one k b => by simp [Cases.relabel, hg, relabel_inverse f g f' g' hf hg b]
  | .cons k b rest => by simp [Cases.relabel, hg, relabel_inverse f g f' g' hf hg b, relabelCases_inverse f g f' g' hf hg rest]
theorem relabelBlk_inverse (f g f' g' : Nat → Nat) (hf : ∀ x, f' (f x) = x) (hg : ∀ x, g' (g x) = x) :
    ∀ b : Blk, (b.relabel f g).relabel f' g' = b
  | .fin ss e => by simp [Blk.relabel, relabelStmts_inverse f g f' g' hf hg ss, relabel_inverse f g f' g' hf hg e]
  | .noFin ss => by simp [Blk.relabel, relabelStmts_inverse f g f' g' hf hg ss]
theorem relabelStmts_inverse (f g f' g' : Nat → Nat) (hf : ∀ x, f' (f x) = x) (hg : ∀ x, g' (g x) = x) :
    ∀ ss : Stmts, (ss.relabel f g).relabel f' g' = ss
  | .nil => by simp [Stmts.relabel]
  | .letS k e rest => by simp [Stmts.relabel, hg, relabel_inverse f g f' g' hf hg e, relabelStmts_inverse f g f' g' hf hg rest]
  | .exprS e rest => by simp [Stmts.relabel, relabel_inverse f g f' g' hf hg e, relabelStmts_inverse f g f' g' hf hg rest]
end

/-- **Renaming commutes with the formatter's regrouping** —
`regroup (rename e) = rename (regroup e)` for every expression and every relabelling. -/
theorem regroup_relabel_commute (f g : Nat → Nat) (e : Expr) :
    regroup (e.relabel f g) = (regroup e).relabel f g :=
  (regroup_relabel f g e).1

/-- **Renaming back restores the formatted original**: formatting the renamed tree and reading it
back gives the renamed `regroup e`, and renaming that back with the inverse relabelling gives
exactly `regroup e`, the tree the formatted original reads back as: on the model, "rename back
restores the (formatted) original" is a theorem. -/
theorem rename_back_restores_formatted (f g f' g' : Nat → Nat) (hf : ∀ x, f' (f x) = x) (hg : ∀ x, g' (g x) = x)
    (e : Expr) :
    parseE (printE (e.relabel f g)) = some ((regroup e).relabel f g) ∧
    ((regroup e).relabel f g).relabel f' g' = regroup e := by
  refine ⟨by rw [renamed_roundtrip, regroup_relabel_commute], ?_⟩
  exact relabel_inverse f g f' g' hf hg (regroup e)

/-- non-vacuity: a tree the formatter really regroups (`a + (b + c)`), renamed -/
example : regroup ((Expr.binary .plus (.atom 0) (.binary .plus (.atom 1) (.atom 2))).relabel (· + 10) id)
    = .binary .plus (.binary .plus (.atom 10) (.atom 11)) (.atom 12) := by decide
example : (regroup (Expr.binary .plus (.atom 0) (.binary .plus (.atom 1) (.atom 2)))).relabel (· + 10) id
    = .binary .plus (.binary .plus (.atom 10) (.atom 11)) (.atom 12) := by decide

example : parseE (printE ((Expr.binary .plus (.atom 0) (.lambda 3 (.atom 0))).relabel (· + 10) (· + 20)))
    = some (.binary .plus (.atom 10) (.lambda 23 (.atom 10))) := by decide

end SamVerif.FmtFull
