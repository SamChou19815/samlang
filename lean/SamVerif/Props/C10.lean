import SamVerif.Lemmas.Incremental
/-!
# C10 — Incremental language-server diagnostics equal a from-scratch analysis

The hypotheses `Frame`, `LocalW`, `Kinds` on the checker parameter and the invariants are in
`Lemmas/Incremental.lean`.  The model is
`Model/Incremental.lean` (`dep_graph.rs`, `server_state.rs`, function by function; parser and type
checker are parameters).  It is tied to the code by the `lsphist` correspondence
(`harness/src/bin/c10.rs` vs `Driver/C10.lean`): the model, with the real checker's answers as its
checker parameter, must predict the exact diagnostics the real `ServerState` holds after every
operation of random histories.

Diagnostics are compared as sets (`ErrorSet` is a `BTreeSet`): `e ∈ getErrors s k`.

The model follows the code after the fix commits baf612a / 71ee3bd / f124d3b (findings C10-F1..F3):
the code before them falsifies `incremental_refines_fresh`.  The three counterexamples are the
regression `example`s below (and `corpus/C10/f*.json` on the real server).
-/
namespace SamVerif.Incremental

section Theorems
variable {Mod Content Sig Err : Type} [DecidableEq Mod]
variable (ck : Checker Mod Content Sig Err)

/-- **`transitive_set` is reachability** (dep_graph.rs:11-27), for every graph whose edges stay
inside a finite node list — no bound on the size of the graph.  (The fuel of the model's loop is
shown sufficient here, so the statement is fuel-free.) -/
theorem transitive_is_reachability (g : Mod → List Mod) (U : List Mod)
    (hU : ∀ x y, y ∈ g x → y ∈ U) (init : List Mod) (x : Mod) :
    x ∈ transitiveSet g U init ↔ ∃ i ∈ init, Reach g i x :=
  mem_transitiveSet g U hU init x

/-- **`affected_set` exactly**: `k` is rechecked iff some module `a` imports (transitively) a dirty
module and `k` is in the forward import closure of `a`. -/
theorem affected_exact (S : Sources Mod Content) (dirty : List Mod) (k : Mod) :
    k ∈ affectedSet ck S dirty ↔
      ∃ a, (∃ d ∈ dirty, Reach (fwdEdges ck S) a d) ∧ Reach (fwdEdges ck S) a k :=
  mem_affectedSet ck S dirty k

/-- **`affected_covers`**: every module whose forward import closure meets the dirty set is in
the recheck set (in particular the dirty modules themselves and all their transitive importers);
any graph, cyclic / self / missing imports included. -/
theorem affected_covers (S : Sources Mod Content) (dirty : List Mod) (k d : Mod)
    (hd : d ∈ dirty) (hr : Reach (fwdEdges ck S) k d) : k ∈ affectedSet ck S dirty :=
  (mem_affectedSet ck S dirty k).mpr ⟨k, ⟨d, hd, hr⟩, .refl k⟩

/-- The recheck set is closed under imports — what makes overwriting whole `errors` entries sound
although the checker reports some errors into imported modules (`LocalW`). -/
theorem affected_forward_closed (S : Sources Mod Content) (dirty : List Mod) (k x : Mod)
    (hk : k ∈ affectedSet ck S dirty) (hx : Reach (fwdEdges ck S) k x) :
    x ∈ affectedSet ck S dirty := by
  obtain ⟨a, ha, hak⟩ := (mem_affectedSet ck S dirty k).mp hk
  exact (mem_affectedSet ck S dirty x).mpr ⟨a, ha, hak.trans hx⟩

/-- The server's file map follows the file-system view of the history (all histories). -/
theorem sources_follow_files (S0 : Sources Mod Content) (ops : List (Op Mod Content)) :
    (run ck ops (fresh ck S0)).sources = applyOps ck.root ops S0 :=
  sources_run ck ops (fresh ck S0)

/-- **`incremental_refines_fresh`**: for **every** finite history of update
(single or batch, repeated modules, new files), rename and remove operations — ROOT operands,
unparsable contents, renames of modules with classes, renames onto existing or from missing
modules, cyclic / missing / self imports all included — starting from any set of files, the
incremental server holds for every module exactly the diagnostics of a freshly started server on
the current files, its `global_cx` is the fresh one, and its file map is the current files.

Hypotheses are on the checker parameter only: the frame hypothesis, weak locality (an error
reported into another module lies in the import closure and is also reported by that module's own
check) and "only the parser reports syntax errors"; all three are checked dynamically on every
real checker call of the correspondence run. -/
theorem incremental_refines_fresh (hF : Frame ck) (hL : LocalW ck) (hK : Kinds ck)
    (S0 : Sources Mod Content) (ops : List (Op Mod Content)) :
    (∀ k e, e ∈ getErrors (run ck ops (fresh ck S0)) k ↔
        e ∈ getErrors (fresh ck (applyOps ck.root ops S0)) k) ∧
      (∀ x, lookup (run ck ops (fresh ck S0)).globalCx x =
        lookup (fresh ck (applyOps ck.root ops S0)).globalCx x) ∧
      (run ck ops (fresh ck S0)).sources = applyOps ck.root ops S0 := by
  have hinv : Inv ck (run ck ops (fresh ck S0)) :=
    (List.foldlRecOn (motive := fun s => GraphFresh s ∧ Inv ck s) ops (step ck)
      ⟨(rfl : GraphFresh (fresh ck S0)), fresh_inv ck S0⟩
      fun s hs o _ => ⟨graphFresh_step ck s o, step_inv ck hF hL hK s o hs.1 hs.2⟩).2
  have hsrc := sources_run ck ops (fresh ck S0)
  refine ⟨fun k e => ?_, fun x => ?_, hsrc⟩
  · rw [hinv.2 k e, hsrc]; rfl
  · rw [hinv.1 x, hsrc]; rfl

/-- Corollary: no stale diagnostics for a module that is not a file any more. -/
theorem no_diagnostics_for_non_files (hF : Frame ck) (hL : LocalW ck) (hK : Kinds ck)
    (S0 : Sources Mod Content) (ops : List (Op Mod Content)) (k : Mod)
    (hk : lookup (applyOps ck.root ops S0) k = none) :
    getErrors (run ck ops (fresh ck S0)) k = [] := by
  apply List.eq_nil_iff_forall_not_mem.mpr
  intro e he
  have := ((incremental_refines_fresh ck hF hL hK S0 ops).1 k e).mp he
  rw [fresh_char ck hL] at this
  obtain ⟨c, hc, _⟩ := this
  rw [hk] at hc; cases hc

/-- **`checked_tracks_sources`**: after every history, `checked_modules` has an entry for exactly
the current source modules: keys(checked_modules) = keys(parsed_modules) = keys(string_sources)
(the last equality is built into the model: the two maps are one).  This is the announcement
hypothesis of C11's GC theorem.  No hypothesis on the checker. -/
theorem checked_tracks_sources (S0 : Sources Mod Content) (ops : List (Op Mod Content)) (m : Mod) :
    m ∈ (run ck ops (fresh ck S0)).checked ↔
      (lookup (run ck ops (fresh ck S0)).sources m).isSome = true :=
  List.foldlRecOn (motive := CheckedOk) ops (step ck) (fresh_checked ck S0)
    (fun s hs o _ => step_checked ck s o hs) m

/-- **The LSP handlers have the file-system effect of the notifications** (`main.rs`
did_change / did_create_files / did_rename_files / did_delete_files → update / rename_module /
remove), deletes of files the server has never heard of (mapped to ROOT) and documents outside of the
source directory (skipped, fix d68f1d6) included. -/
theorem lsp_glue_file_view (S : Sources Mod Content) (evs : List (Event Mod Content))
    (h : ∀ ev ∈ evs, EventNoRoot ck.root ev) :
    applyOps ck.root (evs.map (glue ck.root)) S = applyEvents ck.root evs S := by
  induction evs generalizing S with
  | nil => rfl
  | cons ev evs ih =>
    simp only [applyOps, applyEvents, List.map_cons, List.foldl_cons] at ih ⊢
    rw [glue_file_view ck.root S ev (h ev List.mem_cons_self)]
    exact ih _ fun e he => h e (List.mem_cons_of_mem _ he)

/-- **End to end**: after any sequence of LSP notifications the server holds, for every module,
the diagnostics of a freshly started server on the files as the notifications left them. -/
theorem lsp_events_refine_fresh (hF : Frame ck) (hL : LocalW ck) (hK : Kinds ck)
    (S0 : Sources Mod Content) (evs : List (Event Mod Content))
    (h : ∀ ev ∈ evs, EventNoRoot ck.root ev) (k : Mod) (e : Err) :
    e ∈ getErrors (run ck (evs.map (glue ck.root)) (fresh ck S0)) k ↔
      e ∈ getErrors (fresh ck (applyEvents ck.root evs S0)) k := by
  rw [(incremental_refines_fresh ck hF hL hK S0 _).1 k e, lsp_glue_file_view ck S0 evs h]

/-- **`incremental_refines_fresh_epochs`**: the refinement with the hypothesis about name identity
made explicit.  Signatures are built at the epoch of the operation that (re-)parses a module and are
kept across later operations and string-GC rounds; if names are stable (`NamesStable`), the server
after any history — operation `t` running with the checker of epoch `t + 1` — holds the diagnostics
of a server freshly started at **any** epoch `T` on the current files. -/
theorem incremental_refines_fresh_epochs (e : EChecker Mod Content Sig Err) (hN : NamesStable e)
    (hF : Frame (e.at 0)) (hL : LocalW (e.at 0)) (hK : Kinds (e.at 0))
    (S0 : Sources Mod Content) (ops : List (Op Mod Content)) (T : Nat) (k : Mod) (err : Err) :
    err ∈ getErrors (runE e 1 ops (fresh (e.at 0) S0)) k ↔
      err ∈ getErrors (fresh (e.at T) (applyOps e.base.root ops S0)) k := by
  rw [runE_eq_run e hN, at_eq_of_stable e hN T 0]
  exact (incremental_refines_fresh (e.at 0) hF hL hK S0 ops).1 k err

/-- **`graph_fresh`**: after every history the stored dependency graph (`dep_graph`, which
`rename_module` and `remove` of the NEXT operation query) is the graph of the current sources:
`dep_graph = DependencyGraph::new(parsed_modules)`.  No hypothesis on the checker.  (A rebuild
placed before the modules are moved — seeded fault C11f — falsifies exactly this.) -/
theorem graph_fresh (S0 : Sources Mod Content) (ops : List (Op Mod Content)) :
    (run ck ops (fresh ck S0)).graph = (run ck ops (fresh ck S0)).sources :=
  List.foldlRecOn (motive := GraphFresh) ops (step ck) (b := fresh ck S0) rfl
    fun s _ o _ => graphFresh_step ck s o

/-- **`rename_single`**: what one effective rename `(a, b)` does to the file map and to
`global_cx`, whatever `b` was before (absent, an existing module that is overwritten, or `a`
itself): the text of `a` ends up under `b`, nothing under `a` (unless `a = b`), the signature under
`b` is the one built for `b`, everything else is untouched. -/
theorem rename_single (s : State Mod Content Sig Err) (a b : Mod) (c : Content)
    (ha : a ≠ ck.root) (hb : b ≠ ck.root) (hl : lookup s.sources a = some c) :
    (∀ x, lookup (rename ck s [(a, b)]).sources x =
        if b = x then some c else if a = x then none else lookup s.sources x) ∧
      (∀ x, lookup (rename ck s [(a, b)]).globalCx x =
        if b = x then some (ck.sig b c) else if a = x then none else lookup s.globalCx x) := by
  rw [rename_sources, rename_globalCx, renamePairs_cons, if_pos ⟨ha, hb⟩]
  exact ⟨fun x => (lookup_renameOne ck (s, []) (a, b) c hl x).1,
    fun x => (lookup_renameOne ck (s, []) (a, b) c hl x).2⟩

/-- **`rename_self_identity`**: renaming a module onto its own name is the identity on the file
map, and leaves `global_cx` with the (rebuilt) signature of that module — it must not lose it
(seeded fault C10f: `remove(old)` after `insert(new)`). -/
theorem rename_self_identity (s : State Mod Content Sig Err) (m : Mod) (c : Content)
    (hm : m ≠ ck.root) (hl : lookup s.sources m = some c) :
    (∀ x, lookup (rename ck s [(m, m)]).sources x = lookup s.sources x) ∧
      lookup (rename ck s [(m, m)]).globalCx m = some (ck.sig m c) ∧
      (∀ x, x ≠ m → lookup (rename ck s [(m, m)]).globalCx x = lookup s.globalCx x) := by
  obtain ⟨h1, h2⟩ := rename_single ck s m m c hm hm hl
  refine ⟨fun x => ?_, ?_, fun x hx => ?_⟩
  · rw [h1]; by_cases h : m = x
    · rw [if_pos h, ← h, hl]
    · rw [if_neg h, if_neg h]
  · rw [h2, if_pos rfl]
  · rw [h2, if_neg (Ne.symm hx), if_neg (Ne.symm hx)]

/-- **`rename_missing_noop`**: a rename whose old name is not a file changes neither the file map
nor `global_cx` (the new name, if it is a module, keeps its text and signature). -/
theorem rename_missing_noop (s : State Mod Content Sig Err) (a b : Mod)
    (hl : lookup s.sources a = none) :
    (rename ck s [(a, b)]).sources = s.sources ∧ (rename ck s [(a, b)]).globalCx = s.globalCx := by
  rw [rename_sources, rename_globalCx, renamePairs_cons]
  split
  · rw [show renamePairs ck.root [] = [] from rfl, List.foldl_cons, List.foldl_nil,
      renameOne_none ck (s, []) (a, b) hl]
    exact ⟨rfl, rfl⟩
  · exact ⟨rfl, rfl⟩

/-- **`rename_chain`**: a chain `a → b → d` inside ONE batch moves the text of `a` to `d` and leaves
nothing (no text, no signature) under the intermediate name `b` nor under `a`. -/
theorem rename_chain (s : State Mod Content Sig Err) (a b d : Mod) (c : Content)
    (ha : a ≠ ck.root) (hb : b ≠ ck.root) (hd : d ≠ ck.root)
    (hab : a ≠ b) (had : a ≠ d) (hbd : b ≠ d) (hl : lookup s.sources a = some c) :
    lookup (rename ck s [(a, b), (b, d)]).sources d = some c ∧
      lookup (rename ck s [(a, b), (b, d)]).sources a = none ∧
      lookup (rename ck s [(a, b), (b, d)]).sources b = none ∧
      lookup (rename ck s [(a, b), (b, d)]).globalCx d = some (ck.sig d c) ∧
      lookup (rename ck s [(a, b), (b, d)]).globalCx a = none ∧
      lookup (rename ck s [(a, b), (b, d)]).globalCx b = none := by
  -- after the first step the text is under `b`, so the second step is effective as well
  have h1 := lookup_renameOne ck (s, []) (a, b) c hl
  have h2 := lookup_renameOne ck (renameOne ck (s, []) (a, b)) (b, d) c
    ((h1 b).1.trans (if_pos rfl))
  have e1 : ¬ d = a := fun e => had e.symm
  have e2 : ¬ d = b := fun e => hbd e.symm
  have e3 : ¬ b = a := fun e => hab e.symm
  rw [rename_sources, rename_globalCx, renamePairs_cons, if_pos ⟨ha, hb⟩, renamePairs_cons,
    if_pos ⟨hb, hd⟩]
  refine ⟨?_, ?_, ?_, ?_, ?_, ?_⟩ <;>
    simp only [renamePairs, List.filter_nil, List.foldl_cons, List.foldl_nil, h2, h1, e1, e2, e3,
      ↓reduceIte]

end Theorems

/-- Checker for finding C10-F1 (fixed by /repo baf612a): the signature is the module name it was built under; an import `x`
whose signature was built under another name is an error (`A` is incompatible with `A`). -/
def ckRename : Checker Nat (List Nat) Nat Nat where
  root := 99
  builtin := 99
  imports := fun c => c
  sig := fun m _ => m
  parseErrs := fun _ => []
  isSyntax := fun _ => false
  check := fun m c G => (c.filter (fun x => (G x).isSome && G x != some x)).map (fun x => (m, x))

theorem ckRename_local : LocalW ckRename := by
  intro S m c k e _ h
  simp only [ckRename, List.mem_map, Prod.mk.injEq] at h
  obtain ⟨_, _, rfl, _⟩ := h; exact .inl rfl

theorem ckRename_frame : Frame ckRename := by
  intro S S' m c hc h
  have : ∀ x ∈ c, lookup (freshCx ckRename S') x = lookup (freshCx ckRename S) x := by
    intro x hx
    have hr : Reach (fwdEdges ckRename S) m x :=
      .step ((mem_fwdEdges ckRename S m x).mpr ⟨c, hc, hx⟩) (.refl x)
    simp only [lookup_freshCx, h x hr]
  have e : ∀ G, ckRename.check m c G =
      (c.filter (fun x => (G x).isSome && G x != some x)).map (fun x => (m, x)) := fun _ => rfl
  rw [e, e]
  congr 1
  apply List.filter_congr
  intro x hx
  rw [this x hx]

theorem ckRename_kinds : Kinds ckRename :=
  ⟨fun _ _ h => by simp [ckRename] at h, fun _ _ _ _ _ _ => rfl⟩

/-- Witness of C10-F1 (files `1 ↦ ∅`, `2 ↦ imports 3`; rename `1 → 3`): the model, which follows the
fixed code, holds no stale-signature error `3 ∈ errors[2]`. -/
example : 3 ∉ getErrors (run ckRename [.rename [(1, 3)]] (fresh ckRename [(1, []), (2, [3])])) 2 := by
  decide +kernel

/-- Checker for finding C10-F2 (fixed by /repo 71ee3bd): a content is (imports, has a syntax error); no type errors. -/
def ckParse : Checker Nat (List Nat × Bool) Unit Nat where
  root := 99
  builtin := ()
  imports := fun c => c.1
  sig := fun _ _ => ()
  parseErrs := fun c => if c.2 then [7] else []
  isSyntax := fun e => e == 7
  check := fun _ _ _ => []

/-- Witnesses of C10-F2: the syntax error of `2` survives the recheck caused by re-saving its
dependency `1`; a batch that writes `1` twice keeps only the syntax errors of the last text; a
chained rename leaves no syntax error under the intermediate name. -/
example : 7 ∈ getErrors (run ckParse [.update [(1, ([], false))]]
    (fresh ckParse [(1, ([], false)), (2, ([1], true))])) 2 := by decide +kernel
example : 7 ∉ getErrors (run ckParse [.update [(1, ([], true)), (1, ([], false))]]
    (fresh ckParse [(1, ([], false))])) 1 := by decide +kernel
example : getErrors (run ckParse [.rename [(1, 2), (2, 3)]] (fresh ckParse [(1, ([], true))])) 2 = []
    ∧ getErrors (run ckParse [.rename [(1, 2), (2, 3)]] (fresh ckParse [(1, ([], true))])) 3 = [7] := by
  decide +kernel

/-- Checker for finding C10-F3 (fixed by /repo f124d3b): every module needs the builtin signature under ROOT. -/
def ckRoot : Checker Nat Unit Unit Nat where
  root := 0
  builtin := ()
  imports := fun _ => []
  sig := fun _ _ => ()
  parseErrs := fun _ => []
  isSyntax := fun _ => false
  check := fun m _ G => if (G 0).isSome then [] else [(m, 5)]

/-- Witness of C10-F3: `remove([ROOT])`, `update([(ROOT, _)])`, `rename ROOT` are ignored;
the later edit of module 1 sees the builtin signature. -/
example : getErrors (run ckRoot [.remove [0], .update [(0, ())], .rename [(0, 2), (1, 0)],
    .update [(1, ())]] (fresh ckRoot [(1, ())])) 1 = [] := by decide +kernel

/-- A checker that reports errors *into imported modules* (as the real one does for supertype
errors): a "bad" content reports `1` at itself, and every importer re-reports it at the same
place.  Editing an unrelated importer must not lose or duplicate anything. -/
def ckForeign : Checker Nat (List Nat × Bool) Bool Nat where
  root := 99
  builtin := false
  imports := fun c => c.1
  sig := fun _ c => c.2
  parseErrs := fun _ => []
  isSyntax := fun _ => false
  check := fun m c G => (if c.2 then [(m, 1)] else []) ++
    (c.1.filter (fun x => G x == some true)).map (fun x => (x, 1))

example :
    let ops : List (Op Nat (List Nat × Bool)) :=
      [.update [(3, ([1], false))], .update [(2, ([], false))], .remove [3], .update [(1, ([], false))]]
    let S0 : Sources Nat (List Nat × Bool) := [(1, ([], true)), (2, ([1], false))]
    (∀ k ∈ [1, 2, 3], getErrors (run ckForeign ops (fresh ckForeign S0)) k =
        getErrors (fresh ckForeign (applyOps 99 ops S0)) k) ∧
      getErrors (run ckForeign (ops.take 3) (fresh ckForeign S0)) 1 = [1] := by
  decide +kernel

/-- `NamesStable` is needed: if a re-parse at a later epoch gives a module's names another identity
(here: the signature of module 1 changes with the epoch), re-saving module 1 makes its importer 2
report an error a fresh server does not report — the shape of seeded fault C10e. -/
def eUnstable : EChecker Nat (List Nat) Nat Nat := { base := ckRename, sigAt := fun t m _ => m + t }

example : 1 ∈ getErrors (runE eUnstable 1 [.update [(1, [])]] (fresh (eUnstable.at 0) [(1, []), (2, [1])])) 2
    ∧ 1 ∉ getErrors (fresh (eUnstable.at 0) [(1, []), (2, [1])]) 2 := by decide +kernel

/-- `rename_self_identity` / `rename_chain` are not vacuous, and the self-rename keeps the diagnostics
of the importers right (module 2 imports 1; `1 → 1`): -/
example : getErrors (run ckRename [.rename [(1, 1)]] (fresh ckRename [(1, []), (2, [1])])) 2 = []
    ∧ lookup (run ckRename [.rename [(1, 1)]] (fresh ckRename [(1, []), (2, [1])])).globalCx 1 = some 1 := by
  decide +kernel
example : (run ckRename [.rename [(1, 3), (3, 4)]] (fresh ckRename [(1, [7]), (2, [3])])).sources
    = [(4, [7]), (2, [3])] := by decide +kernel

/-- LSP glue: deleting a file the server has never heard of (and one it knows) after a rename. -/
example : applyEvents 99 [.didRename [(some 1, some 3), (some 2, none)], .didDelete [none, some 2],
      .didChange (some 4) [3], .didChange none [], .didCreate [(some 5, none), (none, some []), (some 6, some [])]]
      [(1, []), (2, [3])]
    = [(6, []), (4, [3]), (3, [])] := by decide +kernel
example : glue 99 (.didChange none [1] : Event Nat (List Nat)) = .update [] := rfl
example : glue 99 (.didDelete [none, some 2] : Event Nat (List Nat)) = .remove [99, 2] := rfl

/-- `transitive_is_reachability` on a cyclic graph with a missing node. -/
example : transitiveSet (fun x => if x = 1 then [2, 7] else if x = 2 then [1] else []) [1, 2, 7] [2]
    = [7, 1, 2] := by decide +kernel

/-- The recheck set of a cyclic import graph with a self import and a missing import:
`1 → 2 → 1`, `3 → 3`, `4 → 9` (missing); editing 2 rechecks exactly {1, 2}. -/
example : affectedSet ckRename [(1, [2]), (2, [1]), (3, [3]), (4, [9])] [2] = [2, 1] := by decide +kernel
example : affectedSet ckRename [(1, [2]), (2, [1]), (3, [3]), (4, [9])] [9] = [9, 4] := by decide +kernel

/-- Non-vacuity of `incremental_refines_fresh`: its hypotheses hold for `ckRename`, and on a
history that creates and repairs errors in a dependent module the conclusion is a concrete fact. -/
example : ∀ k e, e ∈ getErrors (run ckRename
      [.update [(3, [2])], .rename [(3, 4)], .remove [1], .update [(1, [3, 4])]]
      (fresh ckRename [(1, []), (2, [3])])) k ↔
    e ∈ getErrors (fresh ckRename (applyOps 99
      [.update [(3, [2])], .rename [(3, 4)], .remove [1], .update [(1, [3, 4])]]
      [(1, []), (2, [3])])) k :=
  (incremental_refines_fresh ckRename ckRename_frame ckRename_local ckRename_kinds _ _).1

example : (run ckRename [.update [(3, [2])], .rename [(3, 4)], .remove [1], .update [(1, [3, 4])]]
      (fresh ckRename [(1, []), (2, [3])])).sources = [(1, [3, 4]), (4, [2]), (2, [3])] := by
  decide +kernel

end SamVerif.Incremental
