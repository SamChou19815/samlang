import SamVerif.Model.C13Hint
import SamVerif.Generated.C13Phase0
/-!
# C13 (part c) — the hint-ordering kernel of generic-call checking

"Making an inferred lambda-parameter type explicit" may change how an argument of a call with
inferred type arguments is *classified* (`arguments_should_be_checked_without_hint`) and thereby
whether it is checked with or without a hint.  The theorems below say that the classification is
exactly "nothing in a hint position still needs a hint", and that Phase 0 therefore never finalises
an argument that still needs a hint without giving it one — for every argument shape and every
annotation subset.  Two of the seeded faults of this property are exactly the two ways to break this
(`any_annotated_rule_counterexample`, `placeholder_in_type_test_counterexample`).  Three further
parts treat neighbours of Phase 0 in the same way, each with the seeded fault that breaks it: the
produced-placeholders flag across nested synthesis runs (`synth_flag_exact`), the two validators of
type-parameter bounds (`validators_agree`), and the hint each branch of an if / else-if chain
receives (`wrap_keeps_hints`).  The `…_code` theorems state the same for the variant that the
translator reads from the source.
Tie: `cls` protocol (real classification through hook `verif_hooks_c13`) and
`Generated/C13Phase0.lean` (translator `extract/c13_phase0.py`).
Not modelled: what a hint is and how it is solved (`solve_type_arguments`, `type_meet`).
-/
namespace SamVerif.Hint

/-- specification: the argument contains, in a position through which the contextual type flows
(the argument itself, a lambda body, the final expression of a branch / case / block), something
that cannot be typed without that contextual type: a call, or a lambda parameter without annotation -/
inductive NeedsHint : Arg → Prop
  | call : NeedsHint .call
  | lamParam {anns : List Bool} {body : Arg} : false ∈ anns → NeedsHint (.lambda anns body)
  | lamBody {anns : List Bool} {body : Arg} : NeedsHint body → NeedsHint (.lambda anns body)
  | ifThen {t e : Arg} : NeedsHint t → NeedsHint (.ifElse (some t) e)
  | ifElse {t : Option Arg} {e : Arg} : NeedsHint e → NeedsHint (.ifElse t e)
  | matchArm {cases : List Arg} {c : Arg} : c ∈ cases → NeedsHint c → NeedsHint (.matchE cases)
  | block {f : Arg} : NeedsHint f → NeedsHint (.block (some f))

theorem all_id_iff (l : List Bool) : l.all id = true ↔ false ∉ l := by
  induction l with
  | nil => simp
  | cons b l ih => cases b <;> simp_all

mutual
/-- An argument is checked without a hint iff nothing in a hint
position of it needs one (all argument shapes, all nesting depths). -/
theorem classification_exact (a : Arg) : withoutHint a = true ↔ ¬ NeedsHint a :=
  match a with
  | .simple => by simp only [withoutHint, true_iff]; intro h; cases h
  | .call => by
    simp only [withoutHint]
    exact ⟨fun h => Bool.noConfusion h, fun h => absurd .call h⟩
  | .ifElse t e => by
    have ht := classification_opt t
    have he := classification_exact e
    simp only [withoutHint, Bool.and_eq_true, ht, he]
    constructor
    · rintro ⟨h1, h2⟩ h
      cases h with
      | ifThen h' => exact h1 _ rfl h'
      | ifElse h' => exact h2 h'
    · intro h
      exact ⟨fun x hx hn => h (hx ▸ .ifThen hn), fun hn => h (.ifElse hn)⟩
  | .matchE cases => by
    have hc := classification_all cases
    simp only [withoutHint, hc]
    constructor
    · intro h hn
      cases hn with
      | matchArm hm hn' => exact h _ hm hn'
    · intro h c hm hn
      exact h (.matchArm hm hn)
  | .lambda anns body => by
    have hb := classification_exact body
    simp only [withoutHint, Bool.and_eq_true, all_id_iff, hb]
    constructor
    · rintro ⟨h1, h2⟩ h
      cases h with
      | lamParam h' => exact h1 h'
      | lamBody h' => exact h2 h'
    · intro h
      exact ⟨fun hm => h (.lamParam hm), fun hn => h (.lamBody hn)⟩
  | .block f => by
    have hf := classification_opt f
    simp only [withoutHint, hf]
    constructor
    · intro h hn
      cases hn with
      | block h' => exact h _ rfl h'
    · intro h x hx hn
      exact h (hx ▸ .block hn)
theorem classification_opt : ∀ o : Option Arg, withoutHintOpt o = true ↔ ∀ x, o = some x → ¬ NeedsHint x
  | none => by simp [withoutHintOpt]
  | some a => by
    have := classification_exact a
    simp [withoutHintOpt, this]
theorem classification_all : ∀ l : List Arg, withoutHintAll l = true ↔ ∀ c ∈ l, ¬ NeedsHint c
  | [] => by simp [withoutHintAll]
  | a :: as => by
    have h1 := classification_exact a
    have h2 := classification_all as
    simp [withoutHintAll, h1, h2]
end

/-- With the re-check decided by the produced-placeholders flag, an
argument that needs a hint and whose synthesis produced a placeholder is always re-checked with a
hint in Phase 1; and nothing that needs a hint is ever checked with `type_hint::MISSING` only. -/
theorem needs_hint_gets_hint (a : Arg) (produced visible : Bool) (hn : NeedsHint a) :
    phase0 .producedFlag a produced visible ≠ .checkedWithoutHint ∧
    (produced = true → phase0 .producedFlag a produced visible = .recheckedWithHint) := by
  have hw : withoutHint a = false := by
    cases h : withoutHint a
    · rfl
    · exact absurd hn ((classification_exact a).mp h)
  constructor
  · simp only [phase0, hw]; cases produced <;> simp
  · intro hp; simp [phase0, hw, hp]

/-- the same about the code as it stands (the decision test is read from the source) -/
theorem phase0_code_never_starves (a : Arg) (produced visible : Bool) (hn : NeedsHint a)
    (hp : produced = true) :
    phase0 Generated.recheckTest a produced visible = .recheckedWithHint :=
  (needs_hint_gets_hint a produced visible hn).2 hp

/-- The rewrite of C13, one parameter at a time and in any subset:
annotating parameter `i` of a lambda argument either makes the argument hint-free (then it is
rightly checked without a hint) or leaves it in the re-checked-with-hint class whenever its
synthesis produces a placeholder — it never lands in "needs a hint but gets none". -/
theorem annotation_never_starves (anns : List Bool) (body : Arg) (i : Nat) (produced visible : Bool) :
    (¬ NeedsHint (.lambda (annotateAt i anns) body) ∧
      phase0 Generated.recheckTest (.lambda (annotateAt i anns) body) produced visible = .checkedWithoutHint) ∨
    (NeedsHint (.lambda (annotateAt i anns) body) ∧
      phase0 Generated.recheckTest (.lambda (annotateAt i anns) body) produced visible ≠ .checkedWithoutHint ∧
      (produced = true →
        phase0 Generated.recheckTest (.lambda (annotateAt i anns) body) produced visible = .recheckedWithHint)) := by
  by_cases hn : NeedsHint (.lambda (annotateAt i anns) body)
  · exact Or.inr ⟨hn, needs_hint_gets_hint _ produced visible hn⟩
  · refine Or.inl ⟨hn, ?_⟩
    have := (classification_exact _).mpr hn
    simp [phase0, this]

/-- Phase 0 over a whole argument list: `for arg in function_arguments { … }` -/
def phase0All (test : RecheckTest) (args : List (Arg × Bool × Bool)) : List Status :=
  args.map fun a => phase0 test a.1 a.2.1 a.2.2

/-- Phase 0 decides every argument on its own — making a type explicit in
argument `i` (any rewrite of that argument, and whatever its synthesis then produces) changes the
Phase-0 status of no other argument of the call. -/
theorem annotation_is_local (test : RecheckTest) (args : List (Arg × Bool × Bool)) (i j : Nat)
    (a' : Arg × Bool × Bool) (hij : j ≠ i) :
    (phase0All test (args.set i a'))[j]? = (phase0All test args)[j]? := by
  simp only [phase0All, List.getElem?_map, List.getElem?_set]
  by_cases h : i = j
  · exact absurd h.symm hij
  · simp [h]

example : phase0All .producedFlag [(.lambda [false] .simple, true, true), (.simple, false, false)]
    = [.recheckedWithHint, .checkedWithoutHint] := by decide

/-- annotating never creates a need for a hint -/
theorem annotate_monotone (anns : List Bool) (body : Arg) (i : Nat)
    (h : NeedsHint (.lambda (annotateAt i anns) body)) : NeedsHint (.lambda anns body) := by
  cases h with
  | lamBody h' => exact .lamBody h'
  | lamParam hm =>
    refine .lamParam ?_
    induction anns generalizing i with
    | nil => simp [annotateAt] at hm
    | cons b bs ih =>
      cases i with
      | zero =>
        simp only [annotateAt, List.mem_cons] at hm
        rcases hm with h | h
        · cases h
        · exact List.mem_cons_of_mem _ h
      | succ i =>
        simp only [annotateAt, List.mem_cons] at hm
        rcases hm with h | h
        · exact h ▸ List.mem_cons_self
        · exact List.mem_cons_of_mem _ (ih i h)

/-- fault class 1 (seed C13): classifying a lambda by "some parameter annotated" instead of "all"
lets a partially annotated lambda, which needs a hint, be checked without one. -/
theorem any_annotated_rule_counterexample :
    ∃ anns body, NeedsHint (.lambda anns body) ∧ (anns.any id && withoutHint body) = true :=
  ⟨[true, false], .simple, .lamParam (by simp), by decide⟩

/-- fault class 2 (seed C13b): deciding the re-check by "the argument's own type shows a
placeholder" finalises an argument whose placeholder is hidden behind a concrete first branch. -/
theorem placeholder_in_type_test_counterexample :
    ∃ a, NeedsHint a ∧ phase0 .placeholderInType a true false = .synthesisedFinal :=
  ⟨.matchE [.simple, .call], .matchArm (c := .call) (by simp) .call, by decide⟩

example : withoutHint (.lambda [true, true] (.block (some .simple))) = true := by decide
example : phase0 Generated.recheckTest (.lambda [true, false] .simple) true true = .recheckedWithHint := by decide

/-! ## the produced-placeholders flag across nested synthesis runs -/

/-- With the restore, what a nested run does to the flag is undone before `rest` is looked at, so the
nested body plays no part and the recursion is on `rest` alone. -/
theorem flagAfter_saveRestore : ∀ (evs : List SynthEv) (flag : Bool),
    flagAfter .saveRestore flag evs = (flag || directPlaceholder evs)
  | [], flag => by simp [flagAfter, directPlaceholder]
  | .placeholder :: rest, flag => by
    simp [flagAfter, directPlaceholder, flagAfter_saveRestore rest true]
  | .nested body :: rest, flag => by
    simp [flagAfter, directPlaceholder, runSynth, flagAfter_saveRestore rest flag]

/-- With save / restore (the restore is needed), a synthesis run reports
exactly "the flag it was entered with, or a placeholder produced directly in it", and leaves the
caller's flag untouched — whatever nested runs happen inside it, however deep, in whatever order.
In particular a nested run can never *clear* what the enclosing run has already produced. -/
theorem synth_flag_exact (flag : Bool) (body : List SynthEv) :
    runSynth .saveRestore flag body = (flag || directPlaceholder body, flag) := by
  simp [runSynth, flagAfter_saveRestore]

theorem directPlaceholder_perm {a b : List SynthEv} (h : a.Perm b) :
    directPlaceholder a = directPlaceholder b := by
  induction h with
  | nil => rfl
  | cons x _ ih => cases x <;> simp [directPlaceholder, ih]
  | swap x y l => cases x <;> cases y <;> simp [directPlaceholder]
  | trans _ _ ih1 ih2 => exact ih1.trans ih2

/-- **order independence**: reordering what happens inside a run (e.g. swapping the branches of an
if/else argument) does not change what the run reports. -/
theorem synth_flag_order_independent (flag : Bool) {a b : List SynthEv} (h : a.Perm b) :
    runSynth .saveRestore flag a = runSynth .saveRestore flag b := by
  simp [synth_flag_exact, directPlaceholder_perm h]

/-- the same about the code as it stands (discipline read from typing_context.rs) -/
theorem synth_flag_exact_code (flag : Bool) (body : List SynthEv) :
    runSynth Generated.flagDiscipline flag body = (flag || directPlaceholder body, flag) :=
  synth_flag_exact flag body

/-- fault class 4 (seed C13d): resetting the flag on entry without restoring it lets the *last*
nested run overwrite the enclosing run's flag: a run that produced a placeholder and then contains
a nested run without placeholders reports "none produced" — and the report depends on the order. -/
theorem reset_no_restore_counterexample :
    (runSynth .resetNoRestore false [.placeholder, .nested []]).1 = false ∧
    (runSynth .resetNoRestore false [.nested [], .placeholder]).1 = true ∧
    directPlaceholder [.placeholder, .nested []] = true := by
  simp [runSynth, flagAfter, directPlaceholder]

/-! ## bounds of type parameters: explicit and inferred instantiation are validated alike -/

theorem lookupT_mapOf {pairs : List (BParam × BTy)} (hnd : (pairs.map fun e => e.1.name).Nodup)
    {p : BParam} {t : BTy} (hm : (p, t) ∈ pairs) : lookupT p.name (mapOf pairs) = some t := by
  induction pairs with
  | nil => cases hm
  | cons e rest ih =>
    simp only [List.map_cons, List.nodup_cons] at hnd
    rcases List.mem_cons.mp hm with he | hr
    · subst he; simp [mapOf, lookupT]
    · have hne : e.1.name ≠ p.name := fun h => hnd.1 (by
        rw [h]; exact List.mem_map_of_mem (f := fun e : BParam × BTy => e.1.name) hr)
      simp only [mapOf, List.map_cons, lookupT, hne, if_false]
      exact ih hnd.2 hr

theorem explicit_eq_inferred_aux (sat : BTy → BTy → Bool) (σ : List (Nat × BTy))
    (suffix : List (BParam × BTy)) (i : Nat)
    (h : ∀ e ∈ suffix, lookupT e.1.name σ = some e.2) :
    explicitFull sat σ suffix i = inferredViolations sat σ (suffix.map (·.1)) i := by
  induction suffix generalizing i with
  | nil => rfl
  | cons e rest ih =>
    obtain ⟨p, t⟩ := e
    have h0 := h (p, t) (by simp)
    simp only at h0
    simp only [explicitFull, List.map_cons, inferredViolations, h0]
    rw [ih (i + 1) (fun e he => h e (List.mem_cons_of_mem _ he))]

/-- For every parameter list with pairwise distinct names — any number of
parameters, any bounds, including bounds that mention *other* parameters, earlier or later — and
every list of type arguments, the validator of written generic types (full positional map) and the
validator of inferred type arguments report exactly the same violated parameters. So spelling an
inferred instantiation out (annotation / explicit type arguments) cannot change the verdict. -/
theorem validators_agree (sat : BTy → BTy → Bool) (pairs : List (BParam × BTy))
    (hnd : (pairs.map fun e => e.1.name).Nodup) :
    explicitViolations .fullMap sat pairs = inferredViolations sat (mapOf pairs) (pairs.map (·.1)) 0 :=
  explicit_eq_inferred_aux sat (mapOf pairs) pairs 0 (fun e he => lookupT_mapOf hnd (p := e.1) (t := e.2) he)

/-- the same about the code as it stands (substitution mode read from typing_context.rs) -/
theorem validators_agree_code (sat : BTy → BTy → Bool) (pairs : List (BParam × BTy))
    (hnd : (pairs.map fun e => e.1.name).Nodup) :
    explicitViolations Generated.boundSubst sat pairs
      = inferredViolations sat (mapOf pairs) (pairs.map (·.1)) 0 :=
  validators_agree sat pairs hnd

/-- fault class 5 (seed C13e): growing the map inside the loop leaves a *later* parameter in the
bound of an earlier one unsubstituted: `class Link<A: Conv<B>, B>` instantiated `Link<M, F>` with
`M : Conv<F>` is accepted by the inferred validator and rejected by the fused explicit one. -/
theorem prefix_map_counterexample :
    ∃ (sat : BTy → BTy → Bool) (pairs : List (BParam × BTy)),
      (pairs.map fun e => e.1.name).Nodup ∧
      inferredViolations sat (mapOf pairs) (pairs.map (·.1)) 0 = [] ∧
      explicitViolations .prefixMap sat pairs = [0] :=
  ⟨fun t b => t == .con 10 && b == .app (.con 1) (.con 20),
   [(⟨0, some (.app (.con 1) (.var 1))⟩, .con 10), (⟨1, none⟩, .con 20)],
   by decide, by decide, by decide⟩

/-! ## hint propagation through if / else-if / else -/

/-- With the else part checked against the type of the then-block, wrapping
(or unwrapping) any continuation of an if / else-if chain in a block — `else if c {…}` ⇄
`else { if c {…} }`, at any position, any number of times — changes neither the hint any branch
receives nor the resulting type (for every outer hint, every typing function of the branches). -/
theorem wrap_keeps_hints {β τ : Type} (ty : β → Option τ → τ) (h : Option τ) (t : IfTree β) :
    hints .firstBranch ty h t = hints .firstBranch ty h t.strip := by
  induction t generalizing h with
  | blk b => rfl
  | wrapped t ih => simp only [hints, IfTree.strip]; exact ih h
  | ite b els ih => simp only [hints, IfTree.strip, ih]

/-- the same about the code as it stands (rule read from the source) -/
theorem wrap_keeps_hints_code {β τ : Type} (ty : β → Option τ → τ) (h : Option τ) (t : IfTree β) :
    hints Generated.elseIfHint ty h t = hints Generated.elseIfHint ty h t.strip :=
  wrap_keeps_hints ty h t

/-- Making the inferred type `T` of an if/else explicit as the
outer hint (annotated `let`) changes no hint of a later branch and not the result, provided the
then-block checked against its own inferred type keeps that type. -/
theorem annotate_keeps_later_hints {β τ : Type} (ty : β → Option τ → τ) (b : β) (els : IfTree β)
    (hstable : ty b (some (ty b none)) = ty b none) :
    (hints .firstBranch ty (some (ty b none)) (.ite b els)).2 = (hints .firstBranch ty none (.ite b els)).2 ∧
    (hints .firstBranch ty (some (ty b none)) (.ite b els)).1.tail =
      (hints .firstBranch ty none (.ite b els)).1.tail := by
  simp only [hints, hstable, List.tail_cons, and_self]

/-- fault class 3 (seed C13c): handing the `else if` continuation the hint of the *enclosing*
if/else makes block-wrapping observable: in a position without outer hint the second branch gets no
hint, whereas the wrapped form `else { if … }` gives it the first branch's type. -/
theorem enclosing_hint_rule_counterexample :
    ∃ (ty : Nat → Option Nat → Nat) (t : IfTree Nat),
      hints .enclosing ty none t ≠ hints .enclosing ty none t.strip :=
  ⟨fun b h => h.getD b, .ite 1 (.wrapped (.ite 2 (.blk 3))), by decide⟩

example : (hints .firstBranch (fun b h => h.getD b) none (.ite 1 (.ite 2 (.blk 3)))).1
    = [(1, none), (2, some 1), (3, some 1)] := by decide

end SamVerif.Hint
