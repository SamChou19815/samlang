import SamVerif.Lemmas.EnumLayout
/-! C01 / K1: the global invariant of the demand-driven specialisation `demandTy`. -/
namespace SamVerif.EnumLayout

def bodyOf (env : Env) (n : Nat) : Option Body := (env[n]?).map (·.body)

/-- Types all of whose values are heap objects: structs, closures, finished enums with only boxed
variants. -/
def Ptr (env : Env) (defs : List (Nat × MDef)) (t : Nat) : Prop :=
  (∃ fs, bodyOf env t = some (.struct fs)) ∨ (∃ sg, bodyOf env t = some (.closure sg)) ∨
  (∃ rs, lookupDef defs t = some (.enum rs) ∧ rs.all VRepr.isBoxed = true)

/-- The invariant of the specialiser's state. `structs` and `enums` say that every finished definition is
the layout of the declared body, the enum layouts under the answers `Ptr` justifies. `started` and
`namesEnv` are what `typePermit_ptr` needs for a name that is registered but not finished: it has a body,
and if that body is an enum the name is in `enumsStarted` (`enum_type_names_in_progress`), where
`typePermit` answers no. -/
structure GInv (env : Env) (st : St) : Prop where
  defNames : ∀ (n : Nat) (d : MDef), lookupDef st.defs n = some d → n ∈ st.names
  structs : ∀ (n k : Nat), lookupDef st.defs n = some (.struct k) → ∃ fs, bodyOf env n = some (.struct fs)
  enums : ∀ (n : Nat) (rs : List VRepr), lookupDef st.defs n = some (.enum rs) →
    ∃ vs l, bodyOf env n = some (.enum vs) ∧ LInv (Ptr env st.defs) vs l ∧ l.out = rs
  started : ∀ (n : Nat), n ∈ st.names → (∃ vs, bodyOf env n = some (.enum vs)) → n ∈ st.enumsStarted
  namesEnv : ∀ (n : Nat), n ∈ st.names → ∃ b, bodyOf env n = some b

/-- What a call may change: names only grow; the definition status of every name registered
before the call is untouched. -/
structure Ext (st st' : St) : Prop where
  names : ∀ (n : Nat), n ∈ st.names → n ∈ st'.names
  defs : ∀ (n : Nat), n ∈ st.names → lookupDef st'.defs n = lookupDef st.defs n

theorem Ext.refl (st : St) : Ext st st := ⟨fun _ h => h, fun _ _ => rfl⟩

theorem Ext.trans {a b c : St} (h1 : Ext a b) (h2 : Ext b c) : Ext a c :=
  ⟨fun n h => h2.names n (h1.names n h), fun n h => by rw [h2.defs n (h1.names n h), h1.defs n h]⟩

theorem Ptr.mono {env : Env} {defs defs' : List (Nat × MDef)} {t : Nat}
    (hd : ∀ rs, lookupDef defs t = some (.enum rs) → lookupDef defs' t = some (.enum rs))
    (h : Ptr env defs t) : Ptr env defs' t := by
  rcases h with h | h | ⟨rs, h1, h2⟩
  · exact Or.inl h
  · exact Or.inr (Or.inl h)
  · exact Or.inr (Or.inr ⟨rs, hd rs h1, h2⟩)

theorem Ptr.ext {env : Env} {st st' : St} (g : GInv env st) (e : Ext st st') {t : Nat}
    (h : Ptr env st.defs t) : Ptr env st'.defs t :=
  h.mono fun rs h1 => by rw [e.defs t (g.defNames t _ h1)]; exact h1

theorem ginv_init (env : Env) : GInv env {} := by
  constructor <;> simp [lookupDef]

/-- A positive answer of `type_permit_enum_boxed_optimization` is justified in every state that
satisfies the invariant. -/
theorem typePermit_ptr {env : Env} {st : St} (g : GInv env st) (t : Nat)
    (h : typePermit st (.ref t) = true) : Ptr env st.defs t := by
  unfold typePermit at h
  cases hd : lookupDef st.defs t with
  | none =>
    simp only [hd, Bool.and_eq_true, List.contains_eq_mem, decide_eq_true_eq,
      Bool.not_eq_true', decide_eq_false_iff_not] at h
    obtain ⟨b, hb⟩ := g.namesEnv t h.1
    cases b with
    | struct fs => exact Or.inl ⟨fs, hb⟩
    | closure sg => exact Or.inr (Or.inl ⟨sg, hb⟩)
    | enum vs => exact absurd (g.started t h.1 ⟨vs, hb⟩) h.2
  | some d =>
    cases d with
    | struct k => exact Or.inl (g.structs t k hd)
    | enum rs => simp only [hd] at h; exact Or.inr (Or.inr ⟨rs, hd, h⟩)

theorem lookupDef_addDef (st : St) (n m : Nat) (d : MDef) :
    lookupDef (addDef st n d).defs m = if n = m then some d else lookupDef st.defs m := by
  simp [addDef, lookupDef]

theorem Ext.addDef {st st' : St} (e : Ext st st') {n : Nat} (hn : n ∉ st.names) (d : MDef) :
    Ext st (addDef st' n d) :=
  ⟨e.names, fun m hm => by
    have hne : n ≠ m := fun h => hn (h ▸ hm)
    rw [lookupDef_addDef, if_neg hne, e.defs m hm]⟩

theorem ginv_addDef {env : Env} {st : St} (g : GInv env st) (n : Nat) (d : MDef)
    (hn : n ∈ st.names) (hnone : lookupDef st.defs n = none)
    (hs : ∀ k, d = .struct k → ∃ fs, bodyOf env n = some (.struct fs))
    (he : ∀ rs, d = .enum rs → ∃ vs l, bodyOf env n = some (.enum vs) ∧ LInv (Ptr env st.defs) vs l ∧ l.out = rs) :
    GInv env (addDef st n d) := by
  have hptr : ∀ t, Ptr env st.defs t → Ptr env (addDef st n d).defs t := fun t h =>
    h.mono fun rs h1 => by
      have hne : n ≠ t := fun h' => by rw [← h', hnone] at h1; cases h1
      rw [lookupDef_addDef, if_neg hne]; exact h1
  refine ⟨?_, ?_, ?_, ?_, ?_⟩
  · intro m d' h
    rw [lookupDef_addDef] at h
    split at h
    · rename_i h'; subst h'; exact hn
    · exact g.defNames m d' h
  · intro m k h
    rw [lookupDef_addDef] at h
    split at h
    · rename_i h'; subst h'; exact hs k (by simpa using h)
    · exact g.structs m k h
  · intro m rs h
    rw [lookupDef_addDef] at h
    split at h
    · rename_i h'; subst h'
      obtain ⟨vs, l, h1, h2, h3⟩ := he rs (by simpa using h)
      exact ⟨vs, l, h1, h2.mono hptr, h3⟩
    · obtain ⟨vs, l, h1, h2, h3⟩ := g.enums m rs h
      exact ⟨vs, l, h1, h2.mono hptr, h3⟩
  · exact g.started
  · exact g.namesEnv

/-! `demandTy` recurses through `foldlM`, so the folds are proved before the function they fold: for an
abstract `dem` (it will be `demandTy env fuel`, one fuel down) with the hypothesis `H` that
`fun_induction demandTy` hands to `demandTy_inv` for its recursive calls. -/
section fold
variable (env : Env) (dem : St → Ty → Option St)
  (H : ∀ (st : St) (t : Ty) (st' : St), GInv env st → dem st t = some st' → GInv env st' ∧ Ext st st')
include H

/-- Rewriting a list of types keeps the invariant and only extends the state. -/
theorem foldTys_inv : ∀ (ts : List Ty) (s0 s' : St), GInv env s0 → ts.foldlM dem s0 = some s' →
    GInv env s' ∧ Ext s0 s' := by
  intro ts
  induction ts with
  | nil => intro s0 s' g h; simp at h; subst h; exact ⟨g, Ext.refl _⟩
  | cons t rest ih =>
    intro s0 s' g h
    simp only [List.foldlM_cons] at h
    cases h1 : dem s0 t with
    | none => simp [h1] at h
    | some s1 =>
      simp only [h1] at h
      obtain ⟨g1, e1⟩ := H s0 t s1 g h1
      obtain ⟨g2, e2⟩ := ih s1 s' g1 h
      exact ⟨g2, e1.trans e2⟩

theorem first_visit (s0 s1 : St) (n : Nat) (d : Decl) (g : GInv env s0) (hd : env[n]? = some d)
    (h1 : d.targs.foldlM dem s0 = some s1) (hc : ¬s1.names.contains n = true) :
    GInv env s1 ∧ Ext s0 s1 ∧ n ∉ s1.names ∧ lookupDef s1.defs n = none ∧
      bodyOf env n = some d.body := by
  obtain ⟨g1, e1⟩ := foldTys_inv env dem H d.targs s0 s1 g h1
  have hnn : n ∉ s1.names := by simpa using hc
  refine ⟨g1, e1, hnn, ?_, by simp [bodyOf, hd]⟩
  cases hq : lookupDef s1.defs n with
  | none => rfl
  | some d' => exact absurd (g1.defNames n d' hq) hnn

/-- The enum branch's loop over the variants `vs`, from the state `s` reached after `done` (`s0` is the
state the enum was entered in: the frame `Ext s0 _` is what the caller needs): the invariant, the
frame, and the layout invariant for all variants under the answers justified in the last state. -/
theorem foldVariants_inv : ∀ (vs done : List (List Ty)) (s0 s : St) (l : LState) (r : St × LState × Nat),
    GInv env s → Ext s0 s → LInv (Ptr env s.defs) done l →
    vs.foldlM (variantStep dem) (s, l, done.length) = some r →
    GInv env r.1 ∧ Ext s0 r.1 ∧ LInv (Ptr env r.1.defs) (done ++ vs) r.2.1 := by
  intro vs
  induction vs with
  | nil =>
    intro done s0 s l r g e li h
    simp at h; subst h
    exact ⟨g, e, by simpa using li⟩
  | cons fs rest ih =>
    intro done s0 s l r g e li h
    simp only [List.foldlM_cons] at h
    cases h1 : variantStep dem (s, l, done.length) fs with
    | none => simp [h1] at h
    | some acc =>
      simp only [h1] at h
      unfold variantStep at h1
      cases h2 : fs.foldlM dem s with
      | none => simp [h2] at h1
      | some s' =>
        simp only [h2] at h1
        cases h1
        obtain ⟨g', e'⟩ := foldTys_inv env dem H fs s s' g h2
        have li' : LInv (Ptr env s'.defs) done l := li.mono (fun t ht => Ptr.ext g e' ht)
        have step := linv_step (Ptr env s'.defs) done l fs (ansOf (typePermit s') fs) li' (by
          intro n hf ha
          subst hf
          exact typePermit_ptr g' n (by simpa [ansOf] using ha))
        have := ih (done ++ [fs]) s0 s' _ r g' (e.trans e') step (by simpa using h)
        simpa [List.append_assoc] using this

end fold

/-- Registering a new name (l.573-574; for enums also `enum_type_names_in_progress.insert`). -/
theorem ginv_register {env : Env} {st : St} (g : GInv env st) (n : Nat) (b : Body)
    (hb : bodyOf env n = some b) (es : List Nat)
    (hes : ∀ m, m ∈ st.enumsStarted → m ∈ es)
    (hen : (∃ vs, b = .enum vs) → n ∈ es) :
    GInv env { st with names := n :: st.names, enumsStarted := es } ∧
      Ext st { st with names := n :: st.names, enumsStarted := es } := by
  refine ⟨⟨?_, g.structs, g.enums, ?_, ?_⟩, ⟨fun m h => List.mem_cons_of_mem _ h, fun _ _ => rfl⟩⟩
  · intro m d h; exact List.mem_cons_of_mem _ (g.defNames m d h)
  · intro m hm he
    rcases List.mem_cons.mp hm with h | h
    · subst h
      obtain ⟨vs, hv⟩ := he
      rw [hb] at hv
      exact hen ⟨vs, by simpa using hv⟩
    · exact hes m (g.started m h he)
  · intro m hm
    rcases List.mem_cons.mp hm with h | h
    · subst h; exact ⟨b, hb⟩
    · exact g.namesEnv m h

/-- `rewrite_type` keeps the invariant of the specialiser's state and only extends the state. -/
theorem demandTy_inv (env : Env) : ∀ (fuel : Nat) (st : St) (t : Ty) (st' : St),
    GInv env st → demandTy env fuel st t = some st' → GInv env st' ∧ Ext st st' := by
  intro fuel st t
  -- the cases are those of `demandTy`, in its order
  fun_induction demandTy env fuel st t <;> intro st' g h
  case case1 | case2 => cases h; exact ⟨g, Ext.refl _⟩        -- `int`, `vec`
  case case3 | case4 | case5 => cases h                        -- no fuel, unknown name, a type argument fails
  case case6 h1 _ ih =>                                        -- the name is registered already
    cases h; exact foldTys_inv env _ ih _ _ _ g h1
  case case7 fuel st n d hd st1 h1 hc fs hb ih =>              -- a new struct
    obtain ⟨g1, e1, hnn, hnone1, hbody⟩ := first_visit env _ ih st st1 n d g hd h1 hc
    obtain ⟨st3, h3, rfl⟩ := Option.map_eq_some_iff.mp h
    obtain ⟨g2, e2⟩ := ginv_register g1 n d.body hbody st1.enumsStarted (fun _ h => h)
      (by rintro ⟨vs, hv⟩; rw [hb] at hv; cases hv)
    obtain ⟨g3, e3⟩ := foldTys_inv env _ ih fs _ st3 g2 h3
    have hn3 : n ∈ st3.names := e3.names n (List.mem_cons_self ..)
    have hnone3 : lookupDef st3.defs n = none := by
      rw [e3.defs n (List.mem_cons_self ..)]; exact hnone1
    exact ⟨ginv_addDef g3 n _ hn3 hnone3 (fun k _ => ⟨fs, by rw [hbody, hb]⟩)
      (fun rs h => by cases h), e1.trans ((e2.trans e3).addDef hnn _)⟩
  case case8 fuel st n d hd st1 h1 hc vs hb ih =>              -- a new enum
    obtain ⟨g1, e1, hnn, hnone1, hbody⟩ := first_visit env _ ih st st1 n d g hd h1 hc
    obtain ⟨r, h3, rfl⟩ := Option.map_eq_some_iff.mp h
    obtain ⟨g2, e2⟩ := ginv_register g1 n d.body hbody (n :: st1.enumsStarted)
      (fun _ h => List.mem_cons_of_mem _ h) (fun _ => List.mem_cons_self ..)
    obtain ⟨g3, e3, li⟩ := foldVariants_inv env _ ih vs [] _ _ {} r g2 (Ext.refl _)
      (linv_init _) (by simpa using h3)
    have hn3 : n ∈ r.1.names := e3.names n (List.mem_cons_self ..)
    have hnone3 : lookupDef r.1.defs n = none := by
      rw [e3.defs n (List.mem_cons_self ..)]; exact hnone1
    exact ⟨ginv_addDef g3 n _ hn3 hnone3 (fun k h => by cases h)
      (fun rs h => ⟨vs, r.2.1, by rw [hbody, hb], by simpa using li, by simpa using h⟩),
      e1.trans ((e2.trans e3).addDef hnn _)⟩
  case case9 fuel st n d hd st1 h1 hc sg hb ih =>              -- a new closure type
    obtain ⟨g1, e1, -, -, hbody⟩ := first_visit env _ ih st st1 n d g hd h1 hc
    obtain ⟨st3, h3, rfl⟩ := Option.map_eq_some_iff.mp h
    obtain ⟨g2, e2⟩ := ginv_register g1 n d.body hbody st1.enumsStarted (fun _ h => h)
      (by rintro ⟨vs, hv⟩; rw [hb] at hv; cases hv)
    obtain ⟨g3, e3⟩ := foldTys_inv env _ ih sg _ st3 g2 h3
    have e := e1.trans (e2.trans e3)
    -- the result is `st3` with `n` added to `closures`, which neither `GInv` nor `Ext` reads
    exact ⟨⟨g3.defNames, g3.structs, g3.enums, g3.started, g3.namesEnv⟩, e.names, e.defs⟩

theorem demandAll_inv (env : Env) (fuel : Nat) (roots : List Ty) (st : St)
    (h : demandAll env fuel roots = some st) : GInv env st :=
  (foldTys_inv env _ (demandTy_inv env fuel) roots {} st (ginv_init env) h).1

end SamVerif.EnumLayout
