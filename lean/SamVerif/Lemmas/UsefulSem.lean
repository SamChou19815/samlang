import SamVerif.Lemmas.UsefulNorm
/-! Normalisation preserves matching: the abstract node the checker builds for a source pattern
(`normalize`) matches exactly the values the source pattern matches (`smatch`). At the end, where
`normObject` places the sub-patterns of an object pattern (`normObject_column`). -/
namespace SamVerif.Useful

theorem pmatch_mkOr (v : Val) : ∀ (ps : List Pat), pmatch (mkOr ps) v = pmatchAny ps v := by
  intro ps
  fun_cases mkOr ps with
  | case1 => rfl
  | case2 p => simp [pmatchAny]
  | case3 ps h1 h2 => rw [pmatch]

theorem hasTys_get {sig : Sig} {ws : List Val} {ts : List Nat} {i t : Nat}
    (h : hasTys sig ws ts = true) (hi : ts[i]? = some t) : ∃ w, ws[i]? = some w ∧ hasTy sig w t = true := by
  induction ws generalizing ts i with
  | nil =>
    cases ts with
    | nil => cases hi
    | cons => rw [hasTys] at h; cases h
  | cons w ws ih =>
    cases ts with
    | nil => cases hi
    | cons t' ts =>
      rw [hasTys, Bool.and_eq_true] at h
      cases i with
      | zero => exact ⟨w, rfl, Option.some.inj hi ▸ h.1⟩
      | succ i => exact ih h.2 hi

theorem pmatchAll_set {acc : List Pat} {ws : List Val} {i : Nat} {p : Pat} {w : Val}
    (h : ws[i]? = some w) (hl : acc.length = ws.length) :
    pmatchAll (acc.set i p) ws = (pmatch p w && pmatchAll (acc.set i .wild) ws) := by
  induction acc generalizing ws i with
  | nil => cases ws with
    | nil => cases h
    | cons => cases hl
  | cons a acc ih =>
    cases ws with
    | nil => cases hl
    | cons w' ws =>
      cases i with
      | zero =>
        cases Option.some.inj h
        rw [List.set_cons_zero, List.set_cons_zero, pmatchAll, pmatchAll, pmatch, Bool.true_and]
      | succ i =>
        rw [List.set_cons_succ, List.set_cons_succ, pmatchAll, pmatchAll, ih (ws := ws) (i := i) h (Nat.succ.inj hl),
          Bool.and_left_comm]

theorem set_wild_self {acc : List Pat} {i : Nat} (h : acc[i]? = some .wild) : acc.set i .wild = acc := by
  induction acc generalizing i with
  | nil => rfl
  | cons a acc ih =>
    cases i with
    | zero => cases Option.some.inj h; rfl
    | succ i => rw [List.set_cons_succ, ih h]

theorem pmatchAll_wilds_pad (ps : List Pat) (n : Nat) (ws : List Val) (h : ps.length + n = ws.length) :
    pmatchAll (ps ++ wilds n) ws = pmatchAll ps (ws.take ps.length) := by
  induction ps generalizing ws with
  | nil => rw [List.nil_append, pmatchAll_wilds n ws (h.symm.trans (Nat.zero_add n))]; rfl
  | cons p ps ih =>
    cases ws with
    | nil => exact absurd ((Nat.succ_add _ _).symm.trans h) (Nat.succ_ne_zero _)
    | cons w ws =>
      rw [List.cons_append, pmatchAll, List.length_cons, List.take_succ_cons, pmatchAll,
        ih ws (Nat.succ.inj ((Nat.succ_add _ _).symm.trans h))]

mutual
theorem normalize_sem (sig : Sig) (w : Bool) : ∀ (p : SPat) (t : Nat) (v : Val),
    swf sig w p t = true → hasTy sig v t = true →
    pmatch (normalize sig w p (some t)).pat v = smatch sig p t v
  | .id _, t, v, _, _ => by simp [normalize, smatch, pmatch]
  | .wild, t, v, _, _ => by simp [normalize, smatch, pmatch]
  | .or ps, t, v, hwf, hv => by
    -- the second conjunct of `swf` says the alternatives bind consistently, so the node is `mkOr`
    simp only [swf, Bool.and_eq_true, Bool.not_eq_true'] at hwf
    simp only [normalize, smatch, hwf.2]
    rw [← normAll_sem sig w ps t v hwf.1 hv]
    exact pmatch_mkOr v _
  | .tuple ps, t, v, hwf, hv => by
    simp only [swf] at hwf
    cases hs : sig t with
    | prim => simp [hs] at hwf
    | enum c vs => simp [hs] at hwf
    | struct fs =>
      simp only [hs, Bool.and_eq_true, decide_eq_true_eq] at hwf
      obtain ⟨ws, rfl, hws⟩ := hasTy_struct hv hs
      have := normTuple_sem sig w ps (fs.map (·.2)) ws hwf.2 (by simpa using hwf.1) hws
      simp only [normalize, sigAt, hs, smatch, pmatch]
      simpa using this
  | .variant tag ps, t, v, hwf, hv => by
    simp only [swf] at hwf
    cases hs : sig t with
    | prim => simp [hs] at hwf
    | struct fs => simp [hs] at hwf
    | enum cls vs =>
      simp only [hs] at hwf
      cases hf : findVariant vs tag with
      | none => simp [hf] at hwf
      | some tys =>
        simp only [hf, Bool.and_eq_true, decide_eq_true_eq] at hwf
        obtain ⟨c, ws, tys', rfl, hcls, hfc, hws⟩ := hasTy_enum hv hs
        simp only [normalize, sigAt, hs, hf, smatch, pmatch]
        by_cases e : c.name = tag
        · have hc : (some ({ cls := cls, name := tag } : Ctor)) = some c := by
            cases c; cases hcls; cases e; rfl
          have ht : tys' = tys := by rw [e, hf] at hfc; exact (Option.some.inj hfc).symm
          subst ht
          have := normTuple_sem sig w ps tys' ws hwf.2 hwf.1 hws
          simp [hc, hcls, e, this]
        · have hc : (some ({ cls := cls, name := tag } : Ctor)) ≠ some c := by
            intro h; injection h with h; apply e; rw [← h]
          simp [hc, e]
  | .object names ps, t, v, hwf, hv => by
    simp only [swf] at hwf
    cases hs : sig t with
    | prim => simp [hs] at hwf
    | enum c vs => simp [hs] at hwf
    | struct fs =>
      simp only [hs, Bool.and_eq_true, decide_eq_true_eq] at hwf
      obtain ⟨ws, rfl, hws⟩ := hasTy_struct hv hs
      have hlen : (wilds fs.length).length = ws.length := by
        rw [wilds_length, hasTys_length hws]; simp
      have := normObject_sem sig w fs ws hws ps names (wilds fs.length) hlen hwf.2 hwf.1.1
        (by
          intro name _ i t' hfi
          simp [wilds, fieldIndex_lt hfi])
      simp only [normalize, sigAt, hs, smatch, pmatch]
      rw [this, pmatchAll_wilds _ _ (by rw [hasTys_length hws]; simp)]
      simp
theorem normAll_sem (sig : Sig) (w : Bool) : ∀ (ps : List SPat) (t : Nat) (v : Val),
    swfAll sig w ps t = true → hasTy sig v t = true →
    pmatchAny (normAll sig w ps (some t)).pats v = smatchAny sig ps t v
  | [], _, _, _, _ => by simp [normAll, pmatchAny, smatchAny]
  | p :: ps, t, v, hwf, hv => by
    simp only [swfAll, Bool.and_eq_true] at hwf
    simp [normAll, pmatchAny, smatchAny, normalize_sem sig w p t v hwf.1 hv,
      normAll_sem sig w ps t v hwf.2 hv]
theorem normTuple_sem (sig : Sig) (w : Bool) : ∀ (ps : List SPat) (tys : List Nat) (ws : List Val),
    swfTuple sig w ps tys = true → ps.length ≤ tys.length → hasTys sig ws tys = true →
    pmatchAll ((normTuple sig w ps tys).pats ++ wilds (tys.length - ps.length)) ws = smatchTuple sig ps tys ws
  | [], tys, ws, _, _, hws => by
    simp [normTuple, smatchTuple, pmatchAll_wilds _ _ (hasTys_length hws)]
  | p :: ps, [], _, _, hl, _ => by simp at hl
  | p :: ps, t :: ts, [], _, _, hws => by simp [hasTys] at hws
  | p :: ps, t :: ts, v :: ws, hwf, hl, hws => by
    simp only [swfTuple, Bool.and_eq_true] at hwf
    simp only [hasTys, Bool.and_eq_true] at hws
    have h1 := normalize_sem sig w p t v hwf.1 hws.1
    have h2 := normTuple_sem sig w ps ts ws hwf.2 (by simpa using hl) hws.2
    simp only [normTuple, List.cons_append, pmatchAll, smatchTuple, h1, List.length_cons,
      Nat.add_sub_add_right, h2]
/- `acc` is the vector of abstract nodes built so far.  The last hypothesis says that the slots of the
fields still to come hold `_`, so overwriting slot `i` loses nothing (`pmatchAll_set`, `set_wild_self`);
`nodupNat` keeps it true for the rest, since no later name has the index of this one (`fieldIndex_inj`). -/
theorem normObject_sem (sig : Sig) (w : Bool) (fs : List (Nat × Nat)) (ws : List Val)
    (hws : hasTys sig ws (fs.map (·.2)) = true) :
    ∀ (es : List SPat) (names : List Nat) (acc : List Pat), acc.length = ws.length →
      swfObject sig w fs es names = true → nodupNat names = true →
      (∀ name ∈ names, ∀ i t, fieldIndex fs name = some (i, t) → acc[i]? = some .wild) →
      pmatchAll (normObject sig w fs es names acc).pats ws =
        (smatchObject sig fs ws es names && pmatchAll acc ws)
  | [], _, acc, _, _, _, _ => by simp [normObject, smatchObject]
  | _ :: _, [], acc, _, hwf, _, _ => by simp [swfObject] at hwf
  | p :: es, name :: names, acc, hl, hwf, hnd, hwild => by
    simp only [swfObject, Bool.and_eq_true] at hwf
    simp only [nodupNat, Bool.and_eq_true, Bool.not_eq_true'] at hnd
    cases hf : fieldIndex fs name with
    | none => simp [hf] at hwf
    | some it =>
      obtain ⟨i, t⟩ := it
      simp only [hf] at hwf
      obtain ⟨wv, hwv, hty⟩ := hasTys_get hws (fieldIndex_some hf)
      have h1 := normalize_sem sig w p t wv hwf.1 hty
      have hacc := hwild name (by simp) i t hf
      have ih := normObject_sem sig w fs ws hws es names (acc.set i (normalize sig w p (some t)).pat)
        (by simpa using hl) hwf.2 hnd.2 (by
          intro name' hmem i' t' hfi'
          have hne : i ≠ i' := by
            intro e; subst e
            have := fieldIndex_inj hf hfi'
            subst this
            have hc : names.contains name = true := by simpa using hmem
            rw [hnd.1] at hc; cases hc
          rw [List.getElem?_set_ne hne]
          exact hwild name' (by simp [hmem]) i' t' hfi')
      simp only [normObject, hf, smatchObject, hwv, ih,
        pmatchAll_set hwv hl, set_wild_self hacc, h1]
      rw [Bool.and_assoc]
      exact Bool.and_left_comm ..
end

theorem normObject_length (sig : Sig) (w : Bool) (fs : List (Nat × Nat)) (es : List SPat) (names : List Nat)
    (acc : List Pat) : (normObject sig w fs es names acc).pats.length = acc.length := by
  induction es generalizing names acc with
  | nil => rw [normObject]
  | cons p es ih =>
    cases names with
    | nil => rw [normObject]
    | cons name names =>
      rw [normObject]
      -- a known field sets slot `i`, an unknown one slot 0: either way one `set`
      split
      · dsimp only; rw [ih, List.length_set]
      · dsimp only; rw [ih, List.length_set]

theorem normObject_other (sig : Sig) (w : Bool) (fs : List (Nat × Nat)) (es : List SPat) (names : List Nat)
    (acc : List Pat) (j : Nat) (hk : ∀ name ∈ names, fieldIndex fs name ≠ none)
    (hne : ∀ name ∈ names, ∀ i t, fieldIndex fs name = some (i, t) → i ≠ j) :
    (normObject sig w fs es names acc).pats[j]? = acc[j]? := by
  induction es generalizing names acc with
  | nil => rw [normObject]
  | cons p es ih =>
    cases names with
    | nil => rw [normObject]
    | cons name names =>
      rw [normObject]
      split
      · rename_i i t hf
        dsimp only
        rw [ih _ _ (fun n hn => hk n (List.mem_cons_of_mem _ hn))
          (fun n hn => hne n (List.mem_cons_of_mem _ hn)),
          List.getElem?_set_ne (hne name List.mem_cons_self i t hf)]
      · rename_i hf
        exact absurd hf (hk name List.mem_cons_self)

/-- **Column placement**: in the abstract node of an object pattern, the sub-pattern written for
field `name` sits in the column of the field's *declaration index* (`fieldIndex`), wherever it was
written (main_checker.rs:1320 `abstract_pattern_nodes[*field_order] = abstract_node`). -/
theorem normObject_column {sig : Sig} {w : Bool} {fs : List (Nat × Nat)} {es : List SPat} {names : List Nat}
    {acc : List Pat} {k : Nat} {name : Nat} {p : SPat} {i t : Nat}
    (hnd : nodupNat names = true) (hk : ∀ n ∈ names, fieldIndex fs n ≠ none)
    (hn : names[k]? = some name) (he : es[k]? = some p) (hf : fieldIndex fs name = some (i, t))
    (hi : i < acc.length) :
    (normObject sig w fs es names acc).pats[i]? = some (normalize sig w p (some t)).pat := by
  induction es generalizing names acc k with
  | nil => cases he
  | cons q es ih =>
    cases names with
    | nil => cases hn
    | cons n0 names =>
      rw [nodupNat, Bool.and_eq_true, Bool.not_eq_true'] at hnd
      have hk' : ∀ n ∈ names, fieldIndex fs n ≠ none := fun n hn => hk n (List.mem_cons_of_mem _ hn)
      rw [normObject]
      cases k with
      | zero =>
        cases Option.some.inj hn
        cases Option.some.inj he
        simp only [hf]
        rw [normObject_other sig w fs es names _ i hk' (fun n hn i' t' h e => ?_),
          List.getElem?_set_self hi]
        subst e
        cases fieldIndex_inj hf h
        rw [List.contains_eq_mem, decide_eq_false_iff_not] at hnd
        exact hnd.1 hn
      | succ k =>
        split
        · exact ih hnd.2 hk' hn he (by rw [List.length_set]; exact hi)
        · rename_i hf0
          exact absurd hf0 (hk n0 List.mem_cons_self)
end SamVerif.Useful
