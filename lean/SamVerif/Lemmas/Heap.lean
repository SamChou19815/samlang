import SamVerif.Model.Heap
import SamVerif.Lemmas.ListIndex
/-! The representation invariant `Inv` of the heap model (C17, C11) and what a step does to a slot.

The operations change the slot table in three ways only — append, `set` of one slot, `sweepSlots` —
and the intern tables by `cons`, `erase` and `filter`; `Inv` is shown to survive each combination
the operations use (`inv_pushTemp` … `inv_sweepWindow`) over an arbitrary heap.

In front stand the table facts (`lookup_cons`, `lookup_filter`, …) and six facts about reading a
core list after `++ [x]`, `++ replicate k y` or `set` (`getElem?_push` … `getElem?_set_of_some`; the
append facts shared with other developments are in `Lemmas/ListIndex.lean`). -/
namespace SamVerif.Heap

@[simp] theorem lookup_nil (s : Bytes) : lookup [] s = none := rfl

theorem lookup_cons (k : Bytes) (v : Nat) (m : Intern) (s : Bytes) :
    lookup ((k, v) :: m) s = if k = s then some v else lookup m s := rfl

theorem lookup_filter (p : Bytes → Bool) (m : Intern) (t : Bytes) :
    lookup (m.filter fun kv => p kv.1) t = if p t then lookup m t else none := by
  induction m with
  | nil => simp
  | cons kv m ih =>
    rw [List.filter_cons]
    by_cases hk : kv.1 = t
    · subst hk; cases hp : p kv.1 <;> simp [hp, ih, lookup]
    · cases hp : p kv.1 <;> simp [lookup, hk, ih]

theorem lookup_erase (m : Intern) (s t : Bytes) :
    lookup (erase m s) t = if t = s then none else lookup m t :=
  (lookup_filter (fun k => decide (k ≠ s)) m t).trans (by by_cases h : t = s <;> simp [h])

theorem erase_of_lookup_none {m : Intern} {s : Bytes} (h : lookup m s = none) : erase m s = m := by
  induction m with
  | nil => rfl
  | cons kv m ih =>
    rw [lookup] at h
    split at h
    · cases h
    · rw [erase, List.filter_cons, if_pos (by simpa using ‹¬kv.1 = s›)]
      exact congrArg _ (ih h)

theorem lookup_filter_notin (m : Intern) (gone : List Bytes) (t : Bytes) :
    lookup (m.filter (fun kv => kv.1 ∉ gone)) t = if t ∈ gone then none else lookup m t :=
  (lookup_filter (fun k => decide (k ∉ gone)) m t).trans (by by_cases h : t ∈ gone <;> simp [h])

theorem getElem?_push {α} (l : List α) (x : α) (i : Nat) :
    (l ++ [x])[i]? = if i < l.length then l[i]? else if i = l.length then some x else none := by
  rw [List.getElem?_append, List.getElem?_singleton]
  split
  · rfl
  · by_cases h : i = l.length
    · rw [if_pos h, if_pos (by omega)]
    · rw [if_neg h, if_neg (by omega)]

theorem getElem?_set' {α} (l : List α) (j : Nat) (x : α) (i : Nat) :
    (l.set j x)[i]? = if j = i ∧ j < l.length then some x else l[i]? := by
  rw [List.getElem?_set]
  by_cases hj : j = i
  · subst hj
    by_cases hl : j < l.length
    · rw [if_pos rfl, if_pos hl, if_pos ⟨rfl, hl⟩]
    · rw [if_pos rfl, if_neg hl, if_neg (fun h => hl h.2), List.getElem?_eq_none (by omega)]
  · rw [if_neg hj, if_neg (fun h => hj h.1)]

theorem getElem?_lt {α} {l : List α} {i : Nat} {x : α} (h : l[i]? = some x) : i < l.length :=
  (List.getElem?_eq_some_iff.mp h).1

theorem getElem?_append_replicate_some {α} {l : List α} {k i : Nat} {x y : α}
    (h : (l ++ List.replicate k y)[i]? = some x) : l[i]? = some x ∨ y = x := by
  rw [List.getElem?_append] at h
  split at h
  · exact .inl h
  · exact .inr (List.eq_of_mem_replicate (List.mem_of_getElem? h)).symm

theorem getElem?_set_some {α} {l : List α} {i j : Nat} {x y : α} (h : (l.set j y)[i]? = some x) :
    j ≠ i ∧ l[i]? = some x ∨ j = i ∧ y = x := by
  rw [List.getElem?_set] at h
  split at h
  · split at h
    · exact .inr ⟨‹_›, Option.some.inj h⟩
    · cases h
  · exact .inl ⟨‹_›, h⟩

theorem getElem?_set_of_some {α} {l : List α} {i j : Nat} {x old : α} (y : α)
    (hj : l[j]? = some old) (hi : l[i]? = some x) :
    (l.set j y)[i]? = some x ∨ x = old ∧ (l.set j y)[i]? = some y := by
  by_cases e : j = i
  · subst e; rw [hj] at hi
    exact .inr ⟨(Option.some.inj hi).symm, List.getElem?_set_self (getElem?_lt hj)⟩
  · exact .inl ((List.getElem?_set_ne e).trans hi)

/-- Representation invariant tying the two intern tables to the slot table. -/
structure Inv (h : Heap) : Prop where
  tempSound : ∀ (s : Bytes) (id : Nat), lookup h.internTemp s = some id →
    h.slots[id]? = some (Slot.temp s true) ∨ h.slots[id]? = some (Slot.temp s false)
  staticSound : ∀ (s : Bytes) (id : Nat), lookup h.internStatic s = some id →
    h.slots[id]? = some (Slot.perm s)
  tempComplete : ∀ (id : Nat) (s : Bytes) (m : Bool), h.slots[id]? = some (Slot.temp s m) →
    lookup h.internTemp s = some id
  permComplete : ∀ (id : Nat) (s : Bytes), h.slots[id]? = some (Slot.perm s) → inlineMax < s.length →
    lookup h.internStatic s = some id
  tempLong : ∀ (id : Nat) (s : Bytes) (m : Bool), h.slots[id]? = some (Slot.temp s m) →
    inlineMax < s.length
  disjoint : ∀ (s : Bytes) (id : Nat), lookup h.internStatic s = some id →
    lookup h.internTemp s = none
  sweepIdx : h.sweepIndex ≤ h.slots.length
  modPerm : ∀ parts ∈ h.modRefs, ∀ id, Handle.ref id ∈ parts →
    id < h.slots.length ∧ ∀ (s : Bytes) (m : Bool), h.slots[id]? ≠ some (Slot.temp s m)

theorem inv_init : Inv init := by
  constructor <;> simp [init]

theorem Inv.tempSlot {h : Heap} (hi : Inv h) {s : Bytes} {id : Nat}
    (hl : lookup h.internTemp s = some id) : ∃ m, h.slots[id]? = some (.temp s m) :=
  (hi.tempSound s id hl).elim (fun e => ⟨_, e⟩) (fun e => ⟨_, e⟩)

/-- A handle the API may have issued: inline strings are short, table strings are long. The
theorems about what a handle denotes assume it (`handles_eq_iff_strings_eq`, `allocString_valid` in
`Props/C17.lean`); for the arguments of a step the weaker `HandleOk` is enough. -/
def Valid (h : Heap) (p : Handle) : Prop :=
  match p with
  | .inl s => s.length ≤ inlineMax
  | .ref id => id < h.slots.length ∧ ∀ s, h.slots[id]? = some (.perm s) → inlineMax < s.length

/-- Handles mentioned by an operation refer to existing slots (they were issued earlier). -/
def HandleOk (h : Heap) : Handle → Prop
  | .inl s => s.length ≤ inlineMax
  | .ref id => id < h.slots.length

/-- The precondition of a step: the handles it takes are `HandleOk`. -/
def OpOk (h : Heap) : Op → Prop
  | .allocModuleRef ps => ∀ p ∈ ps, HandleOk h p
  | .mark p => HandleOk h p
  | _ => True

theorem inv_pushTemp {h : Heap} (hi : Inv h) (s : Bytes) (hS : lookup h.internStatic s = none)
    (hT : lookup h.internTemp s = none) (hlen : inlineMax < s.length) :
    Inv { h with slots := h.slots ++ [.temp s false],
                 internTemp := (s, h.slots.length) :: h.internTemp } where
  tempSound t id hl := by
    rw [lookup_cons] at hl
    split at hl
    · cases hl; subst_vars; exact .inr List.getElem?_concat_length
    · exact (hi.tempSound t id hl).imp (getElem?_append_of_some _) (getElem?_append_of_some _)
  staticSound t id hl := getElem?_append_of_some _ (hi.staticSound t id hl)
  tempComplete id t m hsl := by
    rw [lookup_cons]
    rcases getElem?_snoc_eq_some.mp hsl with hsl | ⟨rfl, hx⟩
    · have := hi.tempComplete id t m hsl
      rw [if_neg (fun e => by rw [e, this] at hT; cases hT), this]
    · cases hx; rw [if_pos rfl]
  permComplete id t hsl hl := by
    rcases getElem?_snoc_eq_some.mp hsl with hsl | ⟨_, hx⟩
    · exact hi.permComplete id t hsl hl
    · cases hx
  tempLong id t m hsl := by
    rcases getElem?_snoc_eq_some.mp hsl with hsl | ⟨_, hx⟩
    · exact hi.tempLong id t m hsl
    · cases hx; exact hlen
  disjoint t id hl := by
    rw [lookup_cons, if_neg (fun e => by rw [e, hl] at hS; cases hS)]
    exact hi.disjoint t id hl
  sweepIdx := by simp only [List.length_append]; exact Nat.le_add_right_of_le hi.sweepIdx
  modPerm parts hp id hid := by
    have ⟨hlt, hnt⟩ := hi.modPerm parts hp id hid
    refine ⟨by simp only [List.length_append]; omega, fun t m hsl => ?_⟩
    rcases getElem?_snoc_eq_some.mp hsl with hsl | ⟨rfl, _⟩
    · exact hnt t m hsl
    · exact absurd hlt (Nat.lt_irrefl _)

/-- Dummy permanent slots are invisible to the tables: `[]` is short, so nothing interns it. -/
theorem inv_pad {h : Heap} (hi : Inv h) (k : Nat) :
    Inv { h with slots := h.slots ++ List.replicate k (.perm []) } where
  tempSound t id hl :=
    (hi.tempSound t id hl).imp (getElem?_append_of_some _) (getElem?_append_of_some _)
  staticSound t id hl := getElem?_append_of_some _ (hi.staticSound t id hl)
  tempComplete id t m hsl := by
    rcases getElem?_append_replicate_some hsl with hsl | hx
    · exact hi.tempComplete id t m hsl
    · cases hx
  permComplete id t hsl hl := by
    rcases getElem?_append_replicate_some hsl with hsl | hx
    · exact hi.permComplete id t hsl hl
    · cases hx; cases hl
  tempLong id t m hsl := by
    rcases getElem?_append_replicate_some hsl with hsl | hx
    · exact hi.tempLong id t m hsl
    · cases hx
  disjoint := hi.disjoint
  sweepIdx := by simp only [List.length_append]; exact Nat.le_add_right_of_le hi.sweepIdx
  modPerm parts hp id hid := by
    have ⟨hlt, hnt⟩ := hi.modPerm parts hp id hid
    refine ⟨by simp only [List.length_append]; omega, fun t m hsl => ?_⟩
    rcases getElem?_append_replicate_some hsl with hsl | hx
    · exact hnt t m hsl
    · cases hx

theorem inv_promote {h : Heap} (hi : Inv h) (s : Bytes) (id : Nat) (m : Bool)
    (hsl : h.slots[id]? = some (.temp s m)) :
    Inv { h with slots := h.slots.set id (.perm s), internTemp := erase h.internTemp s,
                 internStatic := (s, id) :: h.internStatic } where
  tempSound t j hl := by
    rw [lookup_erase] at hl
    split at hl
    · cases hl
    · have hj : id ≠ j := fun e => by
        obtain ⟨_, h'⟩ := hi.tempSlot hl
        rw [← e, hsl] at h'; cases h'; contradiction
      simp only [List.getElem?_set_ne hj]
      exact hi.tempSound t j hl
  staticSound t j hl := by
    rw [lookup_cons] at hl
    split at hl
    · cases hl; subst_vars; exact List.getElem?_set_self (getElem?_lt hsl)
    · have := hi.staticSound t j hl
      rwa [List.getElem?_set_ne (fun e => by subst e; rw [hsl] at this; cases this)]
  tempComplete j t m' hsl' := by
    rcases getElem?_set_some hsl' with ⟨hj, hsl'⟩ | ⟨_, hx⟩
    · have := hi.tempComplete j t m' hsl'
      rw [lookup_erase, if_neg (fun e => by
        subst e; rw [hi.tempComplete id t m hsl] at this; exact hj (Option.some.inj this)), this]
    · cases hx
  permComplete j t hsl' hl := by
    rw [lookup_cons]
    rcases getElem?_set_some hsl' with ⟨hj, hsl'⟩ | ⟨rfl, hx⟩
    · have := hi.permComplete j t hsl' hl
      rw [if_neg (fun e => by
        have h1 := hi.disjoint t j this
        rw [← e, hi.tempComplete id s m hsl] at h1; cases h1), this]
    · cases hx; rw [if_pos rfl]
  tempLong j t m' hsl' := by
    rcases getElem?_set_some hsl' with ⟨_, hsl'⟩ | ⟨_, hx⟩
    · exact hi.tempLong j t m' hsl'
    · cases hx
  disjoint t j hl := by
    rw [lookup_erase]
    split
    · rfl
    · rw [lookup_cons, if_neg (fun e => ‹¬ t = s› e.symm)] at hl
      exact hi.disjoint t j hl
  sweepIdx := by simp only [List.length_set]; exact hi.sweepIdx
  modPerm parts hp j hj := by
    have ⟨hlt, hnt⟩ := hi.modPerm parts hp j hj
    refine ⟨by simp only [List.length_set]; exact hlt, fun t m' hsl' => ?_⟩
    rcases getElem?_set_some hsl' with ⟨_, hsl'⟩ | ⟨_, hx⟩
    · exact hnt t m' hsl'
    · cases hx

theorem inv_setMark {h : Heap} (hi : Inv h) (s : Bytes) (id : Nat) (m : Bool)
    (hsl : h.slots[id]? = some (.temp s m)) :
    Inv { h with slots := h.slots.set id (.temp s true) } where
  tempSound t j hl := by
    by_cases hj : id = j
    · subst hj
      obtain ⟨_, h'⟩ := hi.tempSlot hl
      rw [hsl] at h'; cases h'
      exact .inl (List.getElem?_set_self (getElem?_lt hsl))
    · simp only [List.getElem?_set_ne hj]; exact hi.tempSound t j hl
  staticSound t j hl := by
    have := hi.staticSound t j hl
    rwa [List.getElem?_set_ne (fun e => by subst e; rw [hsl] at this; cases this)]
  tempComplete j t m' hsl' := by
    rcases getElem?_set_some hsl' with ⟨_, hsl'⟩ | ⟨rfl, hx⟩
    · exact hi.tempComplete j t m' hsl'
    · cases hx; exact hi.tempComplete id s m hsl
  permComplete j t hsl' hl := by
    rcases getElem?_set_some hsl' with ⟨_, hsl'⟩ | ⟨_, hx⟩
    · exact hi.permComplete j t hsl' hl
    · cases hx
  tempLong j t m' hsl' := by
    rcases getElem?_set_some hsl' with ⟨_, hsl'⟩ | ⟨_, hx⟩
    · exact hi.tempLong j t m' hsl'
    · cases hx; exact hi.tempLong id s m hsl
  disjoint := hi.disjoint
  sweepIdx := by simp only [List.length_set]; exact hi.sweepIdx
  modPerm parts hp j hj := by
    have ⟨hlt, hnt⟩ := hi.modPerm parts hp j hj
    refine ⟨by simp only [List.length_set]; exact hlt, fun t m' hsl' => ?_⟩
    rcases getElem?_set_some hsl' with ⟨_, hsl'⟩ | ⟨rfl, _⟩
    · exact hnt t m' hsl'
    · exact hnt s m hsl

theorem sweepSlots_length (a b i : Nat) (l : List Slot) : (sweepSlots a b i l).length = l.length := by
  induction l generalizing i with
  | nil => rfl
  | cons x xs ih => simp [sweepSlots, ih]

theorem sweepSlots_getElem? (a b i : Nat) (l : List Slot) (k : Nat) :
    (sweepSlots a b i l)[k]? = (l[k]?).map (sweepSlot (decide (a ≤ i + k ∧ i + k < b))) := by
  induction l generalizing i k with
  | nil => simp [sweepSlots]
  | cons x xs ih =>
    cases k with
    | zero => simp [sweepSlots]
    | succ k =>
      simp only [sweepSlots, List.getElem?_cons_succ, ih]
      have : i + 1 + k = i + (k + 1) := by omega
      rw [this]

theorem mem_reclaimedStrings (a b i : Nat) (l : List Slot) (s : Bytes) :
    s ∈ reclaimedStrings a b i l ↔
      ∃ k, l[k]? = some (Slot.temp s false) ∧ a ≤ i + k ∧ i + k < b := by
  induction l generalizing i with
  | nil => simp [reclaimedStrings]
  | cons x xs ih =>
    have key : (∃ k, (x :: xs)[k]? = some (Slot.temp s false) ∧ a ≤ i + k ∧ i + k < b) ↔
        (x = Slot.temp s false ∧ a ≤ i ∧ i < b) ∨ s ∈ reclaimedStrings a b (i + 1) xs := by
      rw [ih]
      constructor
      · rintro ⟨_ | k, hk, hw⟩
        · exact .inl ⟨Option.some.inj hk, hw⟩
        · exact .inr ⟨k, hk, by rwa [Nat.add_right_comm]⟩
      · rintro (⟨hx, hw⟩ | ⟨k, hk, hw⟩)
        · exact ⟨0, congrArg some hx, hw⟩
        · exact ⟨k + 1, hk, by rwa [Nat.add_right_comm] at hw⟩
    rw [key]
    rcases x with t | ⟨t, _ | _⟩ | _
    case temp.false =>
      simp only [reclaimedStrings]
      split
      · simp only [List.mem_cons, Slot.temp.injEq, and_true, *, eq_comm]
      · simp only [Slot.temp.injEq, and_true, *, and_false, false_or]
    -- only an unmarked temporary contributes; for every other head the list is the tail's by
    -- definition and the head is no witness
    all_goals exact ⟨.inr, fun h => h.resolve_left fun h' => nomatch h'.1⟩

theorem sweepWindow_bounds (h : Heap) (w : Nat) (hidx : h.sweepIndex ≤ h.slots.length) :
    (sweepWindow h w).1 ≤ (sweepWindow h w).2.1 ∧ (sweepWindow h w).2.1 ≤ h.slots.length ∧
    (sweepWindow h w).2.2 ≤ h.slots.length := by
  unfold sweepWindow
  simp only
  split <;> simp <;> omega

theorem sweepWindow_fst (h : Heap) (w : Nat) : (sweepWindow h w).1 = h.sweepIndex := by
  unfold sweepWindow; simp only; split <;> rfl

theorem sweepWindow_snd (h : Heap) (w : Nat) :
    (sweepWindow h w).2.1 = min (h.sweepIndex + w) h.slots.length := by
  unfold sweepWindow; simp only; split <;> simp only <;> omega

theorem sweep_getElem? (h : Heap) (w id : Nat) :
    (sweep h w).slots[id]? = (h.slots[id]?).map (sweepSlot (h.unmarked.isEmpty &&
      decide ((sweepWindow h w).1 ≤ id ∧ id < (sweepWindow h w).2.1))) := by
  unfold sweep
  cases h.unmarked.isEmpty
  · simp only [Bool.not_false, if_true, Bool.false_and]
    cases h.slots[id]? <;> rfl
  · simp only [Bool.not_true, Bool.false_eq_true, if_false, sweepSlots_getElem?, Nat.zero_add,
      Bool.true_and]

theorem sweepSlot_eq_perm {w : Bool} {sl : Slot} {s : Bytes} :
    sweepSlot w sl = .perm s ↔ sl = .perm s := by
  cases w <;> rcases sl with _ | ⟨_, _ | _⟩ | _ <;> simp [sweepSlot]

theorem sweepSlot_eq_temp {w : Bool} {sl : Slot} {s : Bytes} {m : Bool}
    (h : sweepSlot w sl = .temp s m) : ∃ m0, sl = .temp s m0 ∧ (m0 = false → w = false) := by
  cases w <;> rcases sl with _ | ⟨_, _ | _⟩ | _ <;> cases h <;> exact ⟨_, rfl, by simp⟩

theorem sweepSlots_eq_perm {a b k : Nat} {l : List Slot} {s : Bytes} :
    (sweepSlots a b 0 l)[k]? = some (.perm s) ↔ l[k]? = some (.perm s) := by
  rw [sweepSlots_getElem?]
  cases l[k]? <;> simp [sweepSlot_eq_perm]

theorem sweepSlots_eq_temp {a b k : Nat} {l : List Slot} {s : Bytes} {m : Bool}
    (h : (sweepSlots a b 0 l)[k]? = some (.temp s m)) :
    ∃ m0, l[k]? = some (.temp s m0) ∧ (m0 = false → ¬(a ≤ k ∧ k < b)) := by
  rw [sweepSlots_getElem?, Nat.zero_add] at h
  obtain ⟨sl, hsl, hx⟩ := Option.map_eq_some_iff.mp h
  obtain ⟨m0, rfl, hw⟩ := sweepSlot_eq_temp hx
  exact ⟨m0, hsl, fun e => of_decide_eq_false (hw e)⟩

theorem inv_sweepWindow {h : Heap} (hi : Inv h) (a b nx : Nat) (hnx : nx ≤ h.slots.length) :
    Inv { h with slots := sweepSlots a b 0 h.slots,
                 internTemp := h.internTemp.filter
                   (fun kv => kv.1 ∉ reclaimedStrings a b 0 h.slots),
                 sweepIndex := nx } where
  tempSound t j hl := by
    rw [lookup_filter_notin] at hl
    split at hl
    · cases hl
    · rename_i hng
      simp only [sweepSlots_getElem?, Nat.zero_add]
      rcases hi.tempSound t j hl with hm | hm <;> rw [hm, Option.map_some]
      · cases decide (a ≤ j ∧ j < b)
        · exact .inl rfl
        · exact .inr rfl
      · -- an unmarked temporary inside the window would have put `t` among the reclaimed strings
        rw [decide_eq_false fun hc =>
          hng ((mem_reclaimedStrings ..).mpr ⟨j, hm, by rwa [Nat.zero_add]⟩)]
        exact .inr rfl
  staticSound t j hl := sweepSlots_eq_perm.mpr (hi.staticSound t j hl)
  tempComplete j t m hsl := by
    obtain ⟨m0, hsl, hw⟩ := sweepSlots_eq_temp hsl
    have hl := hi.tempComplete j t m0 hsl
    rw [lookup_filter_notin, if_neg, hl]
    -- `t` reclaimed means an unmarked `t` at some `k` in the window; the table sends `t` to one
    -- slot only, so `k = j`, which the sweep did not visit
    intro hg
    obtain ⟨k, hk, hin⟩ := (mem_reclaimedStrings ..).mp hg
    have := hi.tempComplete k t false hk
    rw [hl] at this; cases this
    rw [hsl] at hk; cases hk
    rw [Nat.zero_add] at hin
    exact hw rfl hin
  permComplete j t hsl hl := hi.permComplete j t (sweepSlots_eq_perm.mp hsl) hl
  tempLong j t m hsl :=
    have ⟨m0, hsl, _⟩ := sweepSlots_eq_temp hsl
    hi.tempLong j t m0 hsl
  disjoint t j hl := by
    rw [lookup_filter_notin]
    split
    · rfl
    · exact hi.disjoint t j hl
  sweepIdx := by simp only [sweepSlots_length]; exact hnx
  modPerm parts hp j hj := by
    have ⟨hlt, hnt⟩ := hi.modPerm parts hp j hj
    refine ⟨by simp only [sweepSlots_length]; exact hlt, fun t m hsl => ?_⟩
    have ⟨m0, hsl, _⟩ := sweepSlots_eq_temp hsl
    exact hnt t m0 hsl

/- The cases of `fun_cases allocString h s`, in the order of `alloc_string`: inline; interned
statically; interned temporarily; a fresh temporary slot. -/
theorem inv_allocString {h : Heap} (hi : Inv h) (s : Bytes) : Inv (allocString h s).1 := by
  fun_cases allocString h s with
  | case1 | case2 | case3 => exact hi
  | case4 hlong hS hT => exact inv_pushTemp hi s hS hT (Nat.lt_of_not_le hlong)

theorem inv_allocTemp {h : Heap} (hi : Inv h) (n : Bytes) : Inv (allocTemp h n).1 :=
  inv_pad hi 1

theorem inv_syncTempCounter {h : Heap} (hi : Inv h) (t : Nat) : Inv (syncTempCounter h t) :=
  inv_pad hi _

theorem inv_sweep {h : Heap} (hi : Inv h) (w : Nat) : Inv (sweep h w) := by
  unfold sweep
  split
  · exact hi
  · exact inv_sweepWindow hi _ _ _ (sweepWindow_bounds h w hi.sweepIdx).2.2

theorem makePermanent_cases (h : Heap) (p : Handle) :
    (makePermanent h p = h ∧ ∀ id s m, p = .ref id → h.slots[id]? ≠ some (Slot.temp s m)) ∨
    ∃ id s m, p = .ref id ∧ h.slots[id]? = some (Slot.temp s m) ∧
      makePermanent h p =
        { h with slots := h.slots.set id (.perm s), internTemp := erase h.internTemp s,
                 internStatic := (s, id) :: h.internStatic } := by
  -- an inline handle; a reference to a temporary; any other reference
  fun_cases makePermanent h p with
  | case1 => exact .inl ⟨rfl, nofun⟩
  | case2 id s m hsl => exact .inr ⟨id, s, m, rfl, hsl, rfl⟩
  | case3 id hn => exact .inl ⟨rfl, fun _ s m e hsl => hn s m (Handle.ref.inj e ▸ hsl)⟩

theorem mark_cases (h : Heap) (p : Handle) :
    (mark h p = h ∧ ∀ id s m, p = .ref id → h.slots[id]? ≠ some (Slot.temp s m)) ∨
    ∃ id s m, p = .ref id ∧ h.slots[id]? = some (Slot.temp s m) ∧
      mark h p = { h with slots := h.slots.set id (.temp s true) } := by
  -- an inline handle; a reference to a temporary; any other reference
  fun_cases mark h p with
  | case1 => exact .inl ⟨rfl, nofun⟩
  | case2 id s m hsl => exact .inr ⟨id, s, m, rfl, hsl, rfl⟩
  | case3 id hn => exact .inl ⟨rfl, fun _ s m e hsl => hn s m (Handle.ref.inj e ▸ hsl)⟩

theorem inv_mark {h : Heap} (hi : Inv h) (p : Handle) : Inv (mark h p) := by
  rcases mark_cases h p with ⟨he, _⟩ | ⟨id, s, m, _, hsl, he⟩ <;> rw [he]
  · exact hi
  · exact inv_setMark hi s id m hsl

theorem inv_makePermanent {h : Heap} (hi : Inv h) (p : Handle) : Inv (makePermanent h p) := by
  rcases makePermanent_cases h p with ⟨he, _⟩ | ⟨id, s, m, _, hsl, he⟩ <;> rw [he]
  · exact hi
  · exact inv_promote hi s id m hsl

theorem allocStatic_eq {h : Heap} (hi : Inv h) (s : Bytes) :
    allocStatic h s =
      (makePermanent (allocString h s).1 (allocString h s).2, (allocString h s).2) := by
  fun_cases allocString h s with
  | case1 hshort => simp only [allocStatic, if_pos hshort, makePermanent]
  | case2 hlong id hS =>
    simp only [allocStatic, if_neg hlong, hS, makePermanent, hi.staticSound s id hS]
  | case3 hlong hS id hT =>
    obtain ⟨m, hm⟩ := hi.tempSlot hT
    simp only [allocStatic, if_neg hlong, hS, hT, makePermanent, hm]
  | case4 hlong hS hT id =>
    -- the pushed temporary is promoted at once: its slot is set, its key erased again
    have e : erase ((s, h.slots.length) :: h.internTemp) s = h.internTemp := by
      rw [erase, List.filter_cons, if_neg (by simp)]; exact erase_of_lookup_none hT
    simp [allocStatic, hlong, hS, hT, makePermanent, id, e]

theorem inv_allocStatic {h : Heap} (hi : Inv h) (s : Bytes) : Inv (allocStatic h s).1 := by
  rw [allocStatic_eq hi]
  exact inv_makePermanent (inv_allocString hi s) _

/-! What `makePermanent` leaves alone. -/

theorem makePermanent_modRefs (h : Heap) (p : Handle) : (makePermanent h p).modRefs = h.modRefs := by
  rcases makePermanent_cases h p with ⟨he, _⟩ | ⟨id, s, m, _, hsl, he⟩ <;> rw [he]

theorem makePermanent_length (h : Heap) (p : Handle) :
    (makePermanent h p).slots.length = h.slots.length := by
  rcases makePermanent_cases h p with ⟨he, _⟩ | ⟨id, s, m, _, hsl, he⟩ <;> rw [he]
  exact List.length_set

theorem makePermanent_unmarked (h : Heap) (p : Handle) :
    (makePermanent h p).unmarked = h.unmarked := by
  rcases makePermanent_cases h p with ⟨he, _⟩ | ⟨id, s, m, _, hsl, he⟩ <;> rw [he]

theorem makePermanent_sweepIndex (h : Heap) (p : Handle) :
    (makePermanent h p).sweepIndex = h.sweepIndex := by
  rcases makePermanent_cases h p with ⟨he, _⟩ | ⟨id, s, m, _, hsl, he⟩ <;> rw [he]

theorem makePermanent_temp {h : Heap} {p : Handle} {j : Nat} {s : Bytes} {m : Bool}
    (hc : (makePermanent h p).slots[j]? = some (.temp s m)) :
    h.slots[j]? = some (.temp s m) ∧ p ≠ .ref j := by
  rcases makePermanent_cases h p with ⟨he, hn⟩ | ⟨id, s', m', rfl, hsl, he⟩ <;> rw [he] at hc
  · exact ⟨hc, fun e => hn j s m e hc⟩
  · rcases getElem?_set_some hc with ⟨hne, hc⟩ | ⟨_, hx⟩
    · exact ⟨hc, fun e => hne (Handle.ref.inj e)⟩
    · cases hx

theorem mark_unmarked (h : Heap) (p : Handle) : (mark h p).unmarked = h.unmarked := by
  rcases mark_cases h p with ⟨he, _⟩ | ⟨id, s, m, _, _, he⟩ <;> rw [he]

theorem mark_temp_false {h : Heap} {p : Handle} {j : Nat} {s : Bytes}
    (hc : (mark h p).slots[j]? = some (.temp s false)) :
    h.slots[j]? = some (.temp s false) ∧ p ≠ .ref j := by
  rcases mark_cases h p with ⟨he, hn⟩ | ⟨id, s', m', rfl, hsl, he⟩ <;> rw [he] at hc
  · exact ⟨hc, fun e => hn j s false e hc⟩
  · rcases getElem?_set_some hc with ⟨hne, hc⟩ | ⟨_, hx⟩
    · exact ⟨hc, fun e => hne (Handle.ref.inj e)⟩
    · cases hx

theorem foldl_makePermanent_temp {ps : List Handle} {h : Heap} {j : Nat} {s : Bytes} {m : Bool}
    (hc : (ps.foldl makePermanent h).slots[j]? = some (.temp s m)) :
    h.slots[j]? = some (.temp s m) ∧ .ref j ∉ ps := by
  induction ps generalizing h with
  | nil => exact ⟨hc, List.not_mem_nil⟩
  | cons p ps ih =>
    have ⟨h1, h2⟩ := ih hc
    have ⟨h3, h4⟩ := makePermanent_temp h1
    exact ⟨h3, fun hm => (List.mem_cons.mp hm).elim (fun e => h4 e.symm) h2⟩

theorem foldl_makePermanent_length (ps : List Handle) (h : Heap) :
    (ps.foldl makePermanent h).slots.length = h.slots.length := by
  induction ps generalizing h with
  | nil => rfl
  | cons p ps ih => rw [List.foldl_cons, ih, makePermanent_length]

theorem inv_foldl_makePermanent {h : Heap} (hi : Inv h) (ps : List Handle) :
    Inv (ps.foldl makePermanent h) := by
  induction ps generalizing h with
  | nil => exact hi
  | cons p ps ih => exact ih (inv_makePermanent hi p)

theorem inv_allocModuleRef {h : Heap} (hi : Inv h) (ps : List Handle)
    (hok : ∀ p ∈ ps, HandleOk h p) : Inv (allocModuleRef h ps).1 := by
  unfold allocModuleRef
  split
  · exact hi
  · -- registering changes `modRefs` only, and `modPerm` is the one field that reads it; the new
    -- entry meets it because the fold has made every part permanent and kept the table's length
    refine { inv_foldl_makePermanent hi ps with modPerm := fun parts hparts id hid => ?_ }
    rcases List.mem_append.mp hparts with hparts | hparts
    · exact (inv_foldl_makePermanent hi ps).modPerm parts hparts id hid
    · cases List.mem_singleton.mp hparts
      exact ⟨(foldl_makePermanent_length ps h).symm ▸ hok _ hid,
        fun s m hc => (foldl_makePermanent_temp hc).2 hid⟩

theorem findIdx_some_mem {l : List (List Handle)} {ps : List Handle} {k i : Nat}
    (hf : findIdx l ps k = some i) : ps ∈ l := by
  induction l generalizing k with
  | nil => cases hf
  | cons x xs ih =>
    rw [findIdx] at hf
    split at hf
    · exact ‹x = ps› ▸ .head _
    · exact .tail _ (ih hf)

theorem mem_modRefs_allocModuleRef (h : Heap) (ps : List Handle) :
    ps ∈ (allocModuleRef h ps).1.modRefs := by
  unfold allocModuleRef
  split
  · exact findIdx_some_mem ‹_›
  · exact List.mem_append_right _ (List.mem_singleton_self _)

theorem addUnmarked_slots (h : Heap) (m : Nat) : (addUnmarked h m).slots = h.slots := by
  unfold addUnmarked; split <;> rfl

theorem inv_addUnmarked {h : Heap} (hi : Inv h) (m : Nat) : Inv (addUnmarked h m) := by
  unfold addUnmarked; split
  · exact hi
  · exact { hi with }

theorem popUnmarked_some {h h' : Heap} {c : Option Nat} (hp : popUnmarked h c = some h') :
    ∃ u, h' = { h with unmarked := u } ∧ ∀ m, c = some m → u = h.unmarked.filter (· ≠ m) := by
  unfold popUnmarked at hp
  split at hp <;> split at hp <;> cases hp
  · exact ⟨h.unmarked, rfl, nofun⟩
  · exact ⟨_, rfl, fun _ e => Option.some.inj e ▸ rfl⟩

theorem step_popUnmarked (h : Heap) (c : Option Nat) :
    ∃ u, step h (.popUnmarked c) = { h with unmarked := u } := by
  simp only [step]
  cases hp : popUnmarked h c with
  | none => exact ⟨h.unmarked, rfl⟩
  | some h' => obtain ⟨u, rfl, _⟩ := popUnmarked_some hp; exact ⟨u, rfl⟩

theorem inv_popUnmarked {h h' : Heap} (hi : Inv h) (c : Option Nat)
    (hp : popUnmarked h c = some h') : Inv h' := by
  obtain ⟨u, rfl, _⟩ := popUnmarked_some hp
  exact { hi with }

theorem allocString_slot {h : Heap} {id : Nat} {sl : Slot} (s : Bytes)
    (hsl : h.slots[id]? = some sl) : (allocString h s).1.slots[id]? = some sl := by
  fun_cases allocString h s with
  | case1 | case2 | case3 => exact hsl
  | case4 => exact getElem?_append_of_some _ hsl

theorem makePermanent_slot (h : Heap) (p : Handle) (id : Nat) (sl : Slot)
    (hsl : h.slots[id]? = some sl) :
    (makePermanent h p).slots[id]? = some sl ∨
      ∃ s m, sl = .temp s m ∧ (makePermanent h p).slots[id]? = some (.perm s) := by
  rcases makePermanent_cases h p with ⟨he, _⟩ | ⟨id', s', m', _, hsl', he⟩ <;> rw [he]
  · exact .inl hsl
  · exact (getElem?_set_of_some _ hsl' hsl).imp_right fun ⟨e, h'⟩ => ⟨s', m', e, h'⟩

theorem allocStatic_slot {h : Heap} (hi : Inv h) {id : Nat} {sl : Slot} (s : Bytes)
    (hsl : h.slots[id]? = some sl) :
    (allocStatic h s).1.slots[id]? = some sl ∨
      ∃ t m, sl = .temp t m ∧ (allocStatic h s).1.slots[id]? = some (.perm t) := by
  rw [allocStatic_eq hi]
  exact makePermanent_slot _ _ id sl (allocString_slot s hsl)

theorem foldl_makePermanent_slot (ps : List Handle) (h : Heap) (id : Nat) (sl : Slot)
    (hsl : h.slots[id]? = some sl) :
    (ps.foldl makePermanent h).slots[id]? = some sl ∨
      ∃ s m, sl = .temp s m ∧ (ps.foldl makePermanent h).slots[id]? = some (.perm s) := by
  induction ps generalizing h sl with
  | nil => exact .inl hsl
  | cons p ps ih =>
    rw [List.foldl_cons]
    rcases makePermanent_slot h p id sl hsl with h1 | ⟨s, m, rfl, h1⟩
    · exact ih _ sl h1
    · rcases ih _ _ h1 with h2 | ⟨_, _, hc, _⟩
      · exact .inr ⟨s, m, rfl, h2⟩
      · cases hc

theorem allocModuleRef_slot {h : Heap} {id : Nat} {sl : Slot} (ps : List Handle)
    (hsl : h.slots[id]? = some sl) :
    (allocModuleRef h ps).1.slots[id]? = some sl ∨
      ∃ s m, sl = .temp s m ∧ (allocModuleRef h ps).1.slots[id]? = some (.perm s) := by
  unfold allocModuleRef
  split
  · exact .inl hsl
  · exact foldl_makePermanent_slot ps h id sl hsl

theorem mark_slot {h : Heap} {id : Nat} {sl : Slot} (p : Handle) (hsl : h.slots[id]? = some sl) :
    (mark h p).slots[id]? = some sl ∨
      ∃ s m, sl = .temp s m ∧ (mark h p).slots[id]? = some (.temp s true) := by
  rcases mark_cases h p with ⟨he, _⟩ | ⟨id', s', m', _, hsl', he⟩ <;> rw [he]
  · exact .inl hsl
  · exact (getElem?_set_of_some _ hsl' hsl).imp_right fun ⟨e, h'⟩ => ⟨s', m', e, h'⟩

theorem step_slot {h : Heap} (hi : Inv h) (op : Op) (hns : ∀ w, op ≠ .sweep w) {id : Nat}
    {sl : Slot} (hsl : h.slots[id]? = some sl) :
    (step h op).slots[id]? = some sl ∨
      ∃ s m, sl = .temp s m ∧ ((step h op).slots[id]? = some (.perm s) ∨
        (step h op).slots[id]? = some (.temp s true)) := by
  cases op with
  | allocString s => exact .inl (allocString_slot s hsl)
  | allocStatic s => exact (allocStatic_slot hi s hsl).imp_right fun ⟨t, m, e, h'⟩ => ⟨t, m, e, .inl h'⟩
  | allocTemp n => exact .inl (getElem?_append_of_some _ hsl)
  | allocModuleRef ps =>
    exact (allocModuleRef_slot ps hsl).imp_right fun ⟨s, m, e, h'⟩ => ⟨s, m, e, .inl h'⟩
  | addUnmarked m => exact .inl ((congrArg (·[id]?) (addUnmarked_slots h m)).trans hsl)
  | popUnmarked c => obtain ⟨u, e⟩ := step_popUnmarked h c; rw [e]; exact .inl hsl
  | mark p => exact (mark_slot p hsl).imp_right fun ⟨s, m, e, h'⟩ => ⟨s, m, e, .inr h'⟩
  | sweep w => exact absurd rfl (hns w)
  | syncTemp t => exact .inl (getElem?_append_of_some _ hsl)

theorem inv_step {h : Heap} (hi : Inv h) (op : Op) (hok : OpOk h op) : Inv (step h op) := by
  cases op with
  | allocString s => exact inv_allocString hi s
  | allocStatic s => exact inv_allocStatic hi s
  | allocTemp n => exact inv_allocTemp hi n
  | allocModuleRef ps => exact inv_allocModuleRef hi ps hok
  | addUnmarked m => exact inv_addUnmarked hi m
  | popUnmarked c => obtain ⟨u, e⟩ := step_popUnmarked h c; rw [e]; exact { hi with }
  | mark p => exact inv_mark hi p
  | sweep w => exact inv_sweep hi w
  | syncTemp t => exact inv_syncTempCounter hi t

/-- The slot holds the string `s`, so a handle to it reads `s`. -/
def SlotLive (sl : Slot) (s : Bytes) : Prop := sl = .perm s ∨ ∃ m, sl = .temp s m

theorem read_ref_iff (h : Heap) (id : Nat) (s : Bytes) :
    read h (.ref id) = some s ↔ ∃ sl, h.slots[id]? = some sl ∧ SlotLive sl s := by
  simp only [read, SlotLive]
  cases h.slots[id]? with
  | none => simp
  | some sl =>
    cases sl with
    | perm t => simp
    | temp t m => cases m <;> simp
    | dead => simp

/-- A read is kept by a change of the heap that keeps each slot or turns a temporary into a slot
that still holds its string, which is what `makePermanent_slot` and `mark_slot` say of their steps. -/
theorem read_of_slots_kept {h h' : Heap} {q : Handle} {s : Bytes}
    (hk : ∀ (id : Nat) (sl : Slot), h.slots[id]? = some sl → h'.slots[id]? = some sl ∨
      ∃ t m sl', sl = .temp t m ∧ h'.slots[id]? = some sl' ∧ SlotLive sl' t)
    (hr : read h q = some s) : read h' q = some s := by
  cases q with
  | inl a => exact hr
  | ref j =>
    obtain ⟨sl, hsl, hl⟩ := (read_ref_iff h j s).mp hr
    rcases hk j sl hsl with h1 | ⟨t, m, sl', rfl, h1, hl'⟩
    · exact (read_ref_iff _ j s).mpr ⟨sl, h1, hl⟩
    · -- a live `temp t m` holds `t`, so `t = s`
      rcases hl with hc | ⟨_, hc⟩ <;> cases hc
      exact (read_ref_iff _ j s).mpr ⟨sl', h1, hl'⟩

/-- `make_string_permanent` keeps every read. -/
theorem makePermanent_reads {h : Heap} (p : Handle) {q : Handle} {s : Bytes}
    (hr : read h q = some s) : read (makePermanent h p) q = some s :=
  read_of_slots_kept (fun id sl hsl => (makePermanent_slot h p id sl hsl).imp_right
    fun ⟨t, m, e, h1⟩ => ⟨t, m, _, e, h1, .inl rfl⟩) hr

theorem mark_read (h : Heap) (p q : Handle) (s : Bytes) (hr : read h q = some s) :
    read (mark h p) q = some s :=
  read_of_slots_kept (fun _ _ hsl => (mark_slot p hsl).imp_right
    fun ⟨t, m, e, h1⟩ => ⟨t, m, _, e, h1, .inr ⟨true, rfl⟩⟩) hr

theorem read_of_slots_eq {h h' : Heap} (e : h'.slots = h.slots) (q : Handle) :
    read h' q = read h q := by
  cases q with
  | inl a => rfl
  | ref j => simp only [read, e]

end SamVerif.Heap
