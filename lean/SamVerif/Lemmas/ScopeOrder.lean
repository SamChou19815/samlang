import SamVerif.Lemmas.Scope
import SamVerif.Lemmas.ScopeSig
import SamVerif.Lemmas.ScopeNest
/-!
Order-insensitivity of the scope analysis (C13): the scope machine observes its scopes only through
lookups (`step_eq`), hoisting distinct toplevel names yields lookup-equivalent base scopes in any
order (`hoist_eq`), and a toplevel block defines nothing at the level it starts at
(`visitToplevel_closed`), so it restores the context it started in.
-/
namespace SamVerif.Scope
open SamVerif.Sig (lookup_foldl_insert_perm)

variable {α : Type} [DecidableEq α]

/-- two hash maps with the same content -/
def ScopeEq (s1 s2 : List (α × Nat)) : Prop := ∀ n, lookupKV n s1 = lookupKV n s2

def CtxEq : List (Scope α) → List (Scope α) → Prop
  | [], [] => True
  | a :: as, b :: bs => ScopeEq a b ∧ CtxEq as bs
  | _, _ => False

/-- tables `Location ↦ HashMap` with the same keys in the same order and equal-content values -/
def TabEq : List (Nat × Scope α) → List (Nat × Scope α) → Prop
  | [], [] => True
  | a :: as, b :: bs => a.1 = b.1 ∧ ScopeEq a.2 b.2 ∧ TabEq as bs
  | _, _ => False

/-- two analysis states that differ only in the internal order of their hash maps (and in the order
in which definitions were recorded) -/
structure StEq (st1 st2 : St α) : Prop where
  locals : CtxEq st1.locals st2.locals
  captured : CtxEq st1.captured st2.captured
  unbound : st1.unbound = st2.unbound
  invalid : st1.invalid = st2.invalid
  useDef : st1.useDef = st2.useDef
  defLocs : st1.defLocs.Perm st2.defLocs
  scopedDefs : TabEq st1.scopedDefs st2.scopedDefs
  lambdaCaps : TabEq st1.lambdaCaps st2.lambdaCaps
  errors : st1.errors = st2.errors
  underflow : st1.underflow = st2.underflow

theorem ScopeEq.refl (s : List (α × Nat)) : ScopeEq s s := fun _ => rfl
theorem CtxEq.refl : ∀ (ls : List (Scope α)), CtxEq ls ls
  | [] => trivial
  | s :: ls => ⟨ScopeEq.refl s, CtxEq.refl ls⟩
theorem TabEq.refl : ∀ (t : List (Nat × Scope α)), TabEq t t
  | [] => trivial
  | e :: t => ⟨rfl, ScopeEq.refl e.2, TabEq.refl t⟩

theorem scopeEq_insert {s1 s2 : List (α × Nat)} (h : ScopeEq s1 s2) (n : α) (l : Nat) :
    ScopeEq (insertKV n l s1) (insertKV n l s2) := by
  intro k; rw [lookupKV_insertKV, lookupKV_insertKV, h k]

theorem CtxEq.nil_left {ls : List (Scope α)} (h : CtxEq [] ls) : ls = [] := by
  cases ls with
  | nil => rfl
  | cons b bs => exact False.elim h

theorem CtxEq.cons_left {a : Scope α} {as ls : List (Scope α)} (h : CtxEq (a :: as) ls) :
    ∃ b bs, ls = b :: bs ∧ ScopeEq a b ∧ CtxEq as bs := by
  cases ls with
  | nil => exact False.elim h
  | cons b bs => exact ⟨b, bs, rfl, h.1, h.2⟩

theorem lookupCtx_congr {ls1 ls2 : List (Scope α)} (h : CtxEq ls1 ls2) (n : α) :
    lookupCtx n ls1 = lookupCtx n ls2 := by
  induction ls1 generalizing ls2 with
  | nil => rw [h.nil_left]
  | cons a as ih =>
    obtain ⟨b, bs, rfl, hab, hrest⟩ := h.cons_left
    simp only [lookupCtx, hab n, ih hrest]

theorem previousDef_congr {ls1 ls2 : List (Scope α)} (h : CtxEq ls1 ls2) (n : α) :
    previousDef n ls1 = previousDef n ls2 := by
  induction ls1 generalizing ls2 with
  | nil => rw [h.nil_left]
  | cons a as ih =>
    obtain ⟨b, bs, rfl, hab, hrest⟩ := h.cons_left
    simp only [previousDef, hab n, ih hrest]

theorem insertLocal_congr {ls1 ls2 : List (Scope α)} (h : CtxEq ls1 ls2) (n : α) (l : Nat) :
    CtxEq (insertLocal n l ls1) (insertLocal n l ls2) := by
  cases ls1 with
  | nil => rw [h.nil_left]; exact CtxEq.refl _
  | cons a as =>
    obtain ⟨b, bs, rfl, hab, hrest⟩ := h.cons_left
    exact ⟨scopeEq_insert hab n l, hrest⟩

theorem recordCapture_congr {cs1 cs2 : List (Scope α)} (h : CtxEq cs1 cs2) (n : α) (l k : Nat) :
    CtxEq (recordCapture n l k cs1) (recordCapture n l k cs2) := by
  induction k generalizing cs1 cs2 with
  | zero => simpa [recordCapture] using h
  | succ k ih =>
    cases cs1 with
    | nil => rw [h.nil_left]; exact CtxEq.refl _
    | cons a as =>
      obtain ⟨b, bs, rfl, hab, hrest⟩ := h.cons_left
      exact ⟨scopeEq_insert hab n l, ih hrest⟩

theorem tabEq_insert {t1 t2 : List (Nat × Scope α)} (h : TabEq t1 t2) (k : Nat) {s1 s2 : Scope α}
    (hs : ScopeEq s1 s2) : TabEq (insertKV k s1 t1) (insertKV k s2 t2) := by
  have hf : TabEq (t1.filter fun e => e.1 ≠ k) (t2.filter fun e => e.1 ≠ k) := by
    induction t1 generalizing t2 with
    | nil => cases t2 <;> simp_all [TabEq]
    | cons a as ih =>
      cases t2 with
      | nil => simp [TabEq] at h
      | cons b bs =>
        obtain ⟨hk, hv, ht⟩ := h
        simp only [List.filter_cons, hk]
        by_cases hb : b.1 = k
        · simpa [hb] using ih ht
        · simp only [ne_eq, hb, not_false_eq_true, decide_true, if_true]
          exact ⟨hk, hv, ih ht⟩
  exact ⟨rfl, hs, hf⟩

/-- **The scope machine observes its hash maps only through lookups**: equal-content states stay
equal-content under every event. -/
theorem step_eq (st1 st2 : St α) (ev : Ev α) (h : StEq st1 st2) : StEq (step st1 ev) (step st2 ev) := by
  obtain ⟨l1, c1, u1, i1, ud1, d1, s1, lc1, e1, uf1⟩ := st1
  obtain ⟨l2, c2, u2, i2, ud2, d2, s2, lc2, e2, uf2⟩ := st2
  obtain rfl : u1 = u2 := h.unbound
  obtain rfl : i1 = i2 := h.invalid
  obtain rfl : ud1 = ud2 := h.useDef
  obtain rfl : e1 = e2 := h.errors
  obtain rfl : uf1 = uf2 := h.underflow
  have hl : CtxEq l1 l2 := h.locals
  have hc : CtxEq c1 c2 := h.captured
  -- below, `{ h with … }` names the fields an event changes; the others are those of `h`
  cases ev with
  | push => exact { h with locals := ⟨ScopeEq.refl _, hl⟩, captured := ⟨ScopeEq.refl _, hc⟩ }
  | pop k loc =>
    cases l1 with
    | nil =>
      obtain rfl := hl.nil_left
      exact { h with underflow := rfl }
    | cons a as =>
      obtain ⟨b, bs, rfl, hab, hl'⟩ := hl.cons_left
      cases c1 with
      | nil =>
        obtain rfl := hc.nil_left
        exact { h with underflow := rfl }
      | cons c cs =>
        obtain ⟨c', cs', rfl, hcc, hc'⟩ := hc.cons_left
        match k with
        | .discard => exact { h with locals := hl', captured := hc' }
        | .scoped =>
          exact { h with locals := hl', captured := hc', scopedDefs := tabEq_insert h.scopedDefs loc hab }
        | .lambda =>
          exact { h with locals := hl', captured := hc', scopedDefs := tabEq_insert h.scopedDefs loc hab,
                         lambdaCaps := tabEq_insert h.lambdaCaps loc hcc }
  | define n l =>
    simp only [step, defineId_eq, previousDef_congr hl n]
    exact { h with locals := insertLocal_congr hl n l, defLocs := h.defLocs.append_right _,
                   invalid := rfl, errors := rfl }
  | use n l ft =>
    simp only [step, useId, lookupCtx_congr hl n]
    cases lookupCtx n l2 with
    | none => exact { h with unbound := rfl, errors := rfl }
    | some r =>
      obtain ⟨k, l0⟩ := r
      cases ft with
      | false => exact { h with captured := recordCapture_congr hc n l0 k, useDef := rfl }
      | true => exact { h with useDef := rfl }

theorem run_eq (evs : List (Ev α)) (st1 st2 : St α) (h : StEq st1 st2) :
    StEq (run evs st1) (run evs st2) := by
  induction evs generalizing st1 st2 with
  | nil => exact h
  | cons ev evs ih => exact ih _ _ (step_eq st1 st2 ev h)

/-- the hoisting prefix of `visit_module` (lines 90-100): imported names, then toplevel names -/
def hoistDefs (m : Module α) : List (α × Nat) :=
  m.imports ++ m.toplevels.map (fun t => (t.name, t.nameLoc))

def hoistEvs (m : Module α) : List (Ev α) := (hoistDefs m).map fun d => Ev.define d.1 d.2

theorem visitModule_split (this : α) (m : Module α) :
    visitModule this m = hoistEvs m ++ m.toplevels.flatMap (visitToplevel this) := by
  simp [visitModule, hoistEvs, hoistDefs]

/-- hoisting pairwise distinct names: no diagnostic, and the base scope is the fold of inserts -/
theorem run_hoist (defs : List (α × Nat)) (acc : List (α × Nat)) (st : St α)
    (hst : st.locals = [acc]) (hnd : (names acc ++ names defs).Nodup) :
    run (defs.map fun d => Ev.define d.1 d.2) st =
      { st with locals := [defs.foldl (fun a d => insertKV d.1 d.2 a) acc],
                defLocs := st.defLocs ++ defs.map Prod.snd } := by
  induction defs generalizing acc st with
  | nil => cases st; simp_all [run]
  | cons d defs ih =>
    obtain ⟨l0, c0, u0, i0, ud0, d0, s0, lc0, e0, uf0⟩ := st
    simp only at hst
    subst hst
    have h' : (d.1 :: (names acc ++ names defs)).Nodup := List.perm_middle.nodup_iff.mp hnd
    have hnot : d.1 ∉ names acc := fun h => (List.nodup_cons.mp h').1 (List.mem_append_left _ h)
    have hp : previousDef d.1 [acc] = none := by
      rw [previousDef_none_iff]; simpa [ctxNames] using hnot
    have hnd' : (names (insertKV d.1 d.2 acc) ++ names defs).Nodup := by
      rw [insertKV_fresh d.2 hnot]; exact h'
    have := ih (insertKV d.1 d.2 acc)
      ⟨[insertKV d.1 d.2 acc], c0, u0, i0, ud0, d0 ++ [d.2], s0, lc0, e0, uf0⟩ rfl hnd'
    simp only [run] at this
    simp only [List.map_cons, run, List.foldl_cons, step, defineId, hp, insertLocal, this]
    simp [List.append_assoc]

theorem hoist_eq (m m' : Module α) (hi : m'.imports = m.imports)
    (hp : m.toplevels.Perm m'.toplevels) (hnd : (names (hoistDefs m)).Nodup) :
    StEq (run (hoistEvs m) init) (run (hoistEvs m') init) := by
  have hperm : (hoistDefs m).Perm (hoistDefs m') := by
    simp only [hoistDefs, hi]
    exact (hp.map _).append_left _
  have hnd' : (names (hoistDefs m')).Nodup := (hperm.map Prod.fst).nodup_iff.mp hnd
  rw [hoistEvs, hoistEvs, run_hoist (hoistDefs m) [] init rfl (by simpa [names] using hnd),
    run_hoist (hoistDefs m') [] init rfl (by simpa [names] using hnd')]
  exact {
    locals := ⟨fun k => lookup_foldl_insert_perm Prod.fst Prod.snd hperm hnd [] k, trivial⟩
    defLocs := by simpa [init] using hperm.map Prod.snd
    captured := CtxEq.refl _, scopedDefs := TabEq.refl _, lambdaCaps := TabEq.refl _
    unbound := rfl, invalid := rfl, useDef := rfl, errors := rfl, underflow := rfl }

theorem bal_visitList_nil (a : Nat) : Bal a a (visitList ([] : List (Node α))) := bal_of_depth rfl
theorem bal_usesList_nil (a : Nat) : Bal a a (usesList ([] : List (Node α))) := bal_of_depth rfl

theorem visitTParams_depth (tps : List (TParam α)) (d : Nat) : depthAfter d (visitTParams tps) = some d := by
  rw [visitTParams]
  have huses := depth_flatMap
    (fun tp : TParam α => match tp.bound with | some (n, l, _) => [Ev.use n l true] | none => [])
    (fun tp d => by cases tp.bound <;> rfl) tps d
  have hdefs := depth_map_define (fun tp : TParam α => tp.name) (fun tp => tp.loc) tps d
  have hargs := depth_flatMap
    (fun tp : TParam α => match tp.bound with | some (_, _, targs) => visitList targs | none => [])
    (fun tp d => by
      cases tp.bound with
      | none => rfl
      | some b => exact visitList_depth b.2.2 d) tps d
  exact (depth_append ((depth_append huses _).trans hdefs) _).trans hargs

theorem visitMember_depth (m : Member α) (d : Nat) : depthAfter d (visitMember m) = some d := by
  simp only [visitMember, List.append_assoc, List.cons_append, List.nil_append]
  rw [depthAfter, depth_append (visitTParams_depth _ _),
    depth_append (depth_flatMap _ (fun p : α × Nat × Node α => visit_depth p.2.2) _ _),
    depth_append (visit_depth _ _), depthAfter, depth_append (depth_map_define _ _ _ _)]
  cases m.body with
  | none => rfl
  | some b => exact (depth_append (visit_depth b _) _).trans rfl

theorem visitTypeDef_depth (t : TypeDef α) (d : Nat) : depthAfter d (visitTypeDef t) = some d := by
  cases t with
  | none => rfl
  | struct fields =>
    rw [visitTypeDef, depth_append (depth_flatMap _ (fun f : α × Nat × Node α => visit_depth f.2.2) _ _)]
    exact depth_map_define _ _ _ _
  | enum variants =>
    rw [visitTypeDef, depth_append (depth_flatMap _ (fun v : α × Nat × List (Node α) => visitList_depth v.2.2) _ _)]
    exact depth_map_define _ _ _ _

theorem visitMembers_depth (t : Toplevel α) (b : Bool) (d : Nat) : depthAfter d (visitMembers t b) = some d :=
  depth_flatMap _ visitMember_depth _ d

/-- A toplevel's block defines nothing at the level it starts at: the names of its supertypes are
uses, everything else happens inside the scope it opens first and closes last. -/
theorem visitToplevel_closed (this : α) (t : Toplevel α) :
    closedAt 0 (visitToplevel this t) = true ∧ endDepth 0 (visitToplevel this t) = 0 := by
  have hu : closedAt 0 (t.supers.map fun s => Ev.use s.1 s.2.1 true) = true ∧
      endDepth 0 (t.supers.map fun s => Ev.use s.1 s.2.1 true) = 0 := by
    induction t.supers with
    | nil => exact ⟨rfl, rfl⟩
    | cons x l ih => exact ih
  have hthis : ∀ d, depthAfter d (if t.isClass then [Ev.define this t.loc] else []) = some d := by
    intro d; cases t.isClass <;> rfl
  simp [visitToplevel, closedAt_append, endDepth_append, closedAt, endDepth, hu, endDepth_neutral,
    closedAt_neutral, hthis, visitTParams_depth, visitTypeDef_depth, visitMembers_depth, depth_flatMap,
    depth_map_define, visitList_depth]

theorem visitToplevel_restores (this : α) (t : Toplevel α) (st : St α) (hw : WF st) :
    (run (visitToplevel this t) st).locals = st.locals :=
  run_restores (visitToplevel_closed this t).1 (visitToplevel_closed this t).2 hw

theorem blocks_restore (this : α) (ts : List (Toplevel α)) (st : St α) (hw : WF st) :
    (run (ts.flatMap (visitToplevel this)) st).locals = st.locals := by
  induction ts generalizing st with
  | nil => rfl
  | cons t ts ih =>
    rw [List.flatMap_cons, run_append, ih _ (run_wf hw _)]
    exact visitToplevel_restores this t st hw

end SamVerif.Scope
