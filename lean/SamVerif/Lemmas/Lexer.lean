import SamVerif.Model.Lexer
/-! What each small function of the scanner model (`Model/Lexer.lean`) computes. -/
namespace SamVerif.Lexer

theorem isAlnum_plain {b : UInt8} (h : isAlnum b = true) : b.toNat < 128 ∧ b.toNat ≠ 10 := by
  simp [isAlnum, isUpper, isLower, isDigit] at h; omega

theorem isAsciiWs_lt {b : UInt8} (h : isAsciiWs b = true) : b.toNat < 128 := by
  simp [isAsciiWs] at h; omega

theorem ne_newline_of_not_ws {b : UInt8} (h : isAsciiWs b = false) : b.toNat ≠ 10 := by
  intro h10; simp [isAsciiWs, h10] at h

theorem isAlnum_of_digit {b : UInt8} (h : isDigit b = true) : isAlnum b = true := by
  simp only [isAlnum, h, Bool.or_true]

theorem bump_eq {bs : Bytes} {n : Nat} {r : Bytes} (h : bump bs n = some r) : r = bs.drop n := by
  unfold bump at h
  split at h
  · exact (Option.some.inj h).symm
  · cases h

theorem slice_eq {bs : Bytes} {a e : Nat} (h1 : a ≤ e) (h2 : e ≤ bs.length) :
    slice bs a e = some ((bs.take e).drop a) := if_pos ⟨h1, h2⟩

theorem ite_le {c : Prop} [Decidable c] {a b m : Nat} (ha : c → a ≤ m) (hb : b ≤ m) :
    (if c then a else b) ≤ m := by
  by_cases h : c
  · rw [if_pos h]; exact ha h
  · rw [if_neg h]; exact hb

theorem run_le (p : UInt8 → Bool) (bs : Bytes) : run p bs ≤ bs.length := by
  fun_induction run p bs with
  | case1 => exact Nat.le_refl 0
  | case2 b bs _ ih => exact Nat.succ_le_succ ih
  | case3 => exact Nat.zero_le _

theorem run_all (p : UInt8 → Bool) (bs : Bytes) : ∀ x ∈ bs.take (run p bs), p x = true := by
  fun_induction run p bs with
  | case1 => nofun
  | case2 b bs hb ih => exact List.forall_mem_cons.mpr ⟨hb, ih⟩
  | case3 => nofun

theorem run_succ_all {p q : UInt8 → Bool} (hp : ∀ x, p x = true → q x = true) {b : UInt8} (hb : q b = true)
    (bs : Bytes) :
    run p bs + 1 ≤ (b :: bs).length ∧ ∀ x ∈ (b :: bs).take (run p bs + 1), q x = true :=
  ⟨Nat.succ_le_succ (run_le p bs),
    List.forall_mem_cons.mpr ⟨hb, fun x hx => hp x (run_all p bs x hx)⟩⟩

theorem run_stop (p : UInt8 → Bool) (bs : Bytes) :
    run p bs = bs.length ∨ ∃ b, bs[run p bs]? = some b ∧ p b = false := by
  fun_induction run p bs with
  | case1 => exact .inl rfl
  | case2 b bs _ ih => exact ih.imp (congrArg (· + 1)) id
  | case3 b bs hp => exact .inr ⟨b, rfl, by simpa using hp⟩

theorem drop_run_head (p : UInt8 → Bool) (bs : Bytes) :
    bs.drop (run p bs) = [] ∨ ∃ b tl, bs.drop (run p bs) = b :: tl ∧ p b = false := by
  rcases run_stop p bs with h | ⟨b, hb, hp⟩
  · exact .inl (h ▸ List.drop_length)
  · obtain ⟨hlt, rfl⟩ := List.getElem?_eq_some_iff.mp hb
    exact .inr ⟨_, _, List.drop_eq_getElem_cons hlt, hp⟩

theorem strEnd_some {cs : Bytes} {esc pos n : Nat} (h : strEnd cs esc pos = some n) :
    ∃ i c, n = pos + (i + 1) ∧ cs[i]? = some c ∧ c.toNat = 34 ∧
      ∀ b ∈ cs.take (i + 1), b.toNat ≠ 10 := by
  fun_induction strEnd cs esc pos with
  | case1 => cases h
  | case2 c cs esc pos hq =>
    cases h
    refine ⟨0, c, rfl, rfl, hq.1, fun b hb => ?_⟩
    cases List.mem_singleton.mp hb
    omega
  | case3 => cases h
  | case4 c cs esc pos _ hn ih =>
    obtain ⟨i, q, rfl, hi, hq, hnl⟩ := ih h
    refine ⟨i + 1, q, by omega, hi, hq, fun b hb => ?_⟩
    rcases List.mem_cons.mp hb with rfl | hb
    · exact hn
    · exact hnl b hb

theorem blockEnd_some {cs : Bytes} {p : Pos} {n m : Nat} {q : Pos}
    (h : blockEnd cs p n = some (m, q)) :
    ∃ i d, m = n + (i + 2) ∧ cs[i + 1]? = some d ∧ d.toNat = 47 ∧
      q = advanceAll p (cs.take (i + 2)) := by
  fun_induction blockEnd cs p n with
  | case1 c d cs p n hq =>
    cases h
    refine ⟨0, d, rfl, rfl, hq.2, ?_⟩
    simp [advanceAll, advance, addCol, hq.1, hq.2]
  | case2 c d cs p n _ ih =>
    obtain ⟨i, e, rfl, hi, he, rfl⟩ := ih h
    exact ⟨i + 1, e, by omega, hi, he, rfl⟩
  | case3 => cases h

theorem isPrefixOf_take {k bs : Bytes} (h : k.isPrefixOf bs = true) :
    bs.take k.length = k ∧ k.length ≤ bs.length :=
  have hp := List.isPrefixOf_iff_prefix.mp h
  ⟨(List.prefix_iff_eq_take.mp hp).symm, hp.length_le⟩

theorem bestLit_take (table : List (Bytes × Bytes)) (rest : Bytes) :
    (bestLit table rest).1 = 0 ∨
      ∃ e ∈ table, rest.take (bestLit table rest).1 = e.1 ∧ (bestLit table rest).1 ≤ rest.length := by
  refine List.foldlRecOn (motive := fun (best : Nat × Bytes) => best.1 = 0 ∨
      ∃ e ∈ table, rest.take best.1 = e.1 ∧ best.1 ≤ rest.length) table _ (.inl rfl)
    fun best ih e he => ?_
  split
  · rename_i hc
    exact .inr ⟨e, he, isPrefixOf_take (Bool.and_eq_true _ _ ▸ hc).1⟩
  · exact ih

theorem bestLit_bytes {P : UInt8 → Prop} {table : List (Bytes × Bytes)}
    (ht : ∀ e ∈ table, ∀ b ∈ e.1, P b) (rest : Bytes) :
    (bestLit table rest).1 ≤ rest.length ∧ ∀ b ∈ rest.take (bestLit table rest).1, P b := by
  rcases bestLit_take table rest with h0 | ⟨e, he, ht', hl⟩
  · rw [h0]; exact ⟨Nat.zero_le _, nofun⟩
  · rw [ht']; exact ⟨hl, ht e he⟩

theorem regexMatch_spec (rest : Bytes) : (regexMatch rest).2 = 0 ∨
    (((regexMatch rest).1 = .upper ∨ (regexMatch rest).1 = .lower ∨ (regexMatch rest).1 = .int) ∧
      (regexMatch rest).2 ≤ rest.length ∧ ∀ x ∈ rest.take (regexMatch rest).2, isAlnum x = true) := by
  fun_cases regexMatch rest with
  | case1 => exact .inl rfl
  | case2 b bs hu =>
    exact .inr ⟨.inl rfl, run_succ_all (fun _ h => h) (by simp only [isAlnum, hu, Bool.true_or]) bs⟩
  | case3 b bs _ hl =>
    exact .inr ⟨.inr (.inl rfl),
      run_succ_all (fun _ h => h) (by simp only [isAlnum, hl, Bool.or_true, Bool.true_or]) bs⟩
  | case4 b bs _ _ hz =>
    refine .inr ⟨.inr (.inr rfl), Nat.succ_le_succ (Nat.zero_le _), fun x hx => ?_⟩
    cases List.mem_singleton.mp hx
    simp [isAlnum, isDigit, hz]
  | case5 b bs _ _ _ hd =>
    exact .inr ⟨.inr (.inr rfl), run_succ_all (p := isDigit) (fun _ => isAlnum_of_digit) (isAlnum_of_digit hd) bs⟩
  | case6 => exact .inl rfl

end SamVerif.Lexer
