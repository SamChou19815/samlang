import SamVerif.Model.CastInsert
/-! C03 §7: the operand `lowerFor` / `lowerPtr` emit has a type the validator accepts. -/
namespace SamVerif.CastInsert

theorem subTy_refl (t : WTy) : subTy t t = true := by cases t <;> simp [subTy]

theorem lowerFor_validates (Γ : Locals) (e : Expr) (target : WTy) (h : exprOk Γ e target) :
    subTy (opTy Γ (lowerFor Γ e target)) target = true := by
  -- `lowerFor`: a variable at a place `(ref t)` whose local is `(ref eq)` (cast); the same with another local
  -- (plain read); every other operand / place (`lowerPlain`)
  fun_cases lowerFor Γ e target with
  | case1 => exact subTy_refl _
  | case2 n occ t hnoteq =>
    rcases h.2 with h | ⟨h, _⟩
    · rw [opTy, h]; exact subTy_refl _
    · exact absurd h hnoteq
  | case3 =>
    cases e with
    | lit => rw [show target = .i32 from h]; rfl
    | var n occ =>
      rename_i hne
      rcases h.2 with h | ⟨_, t, rfl⟩
      · rw [lowerPlain, opTy, h]; exact subTy_refl _
      · exact (hne n occ t rfl rfl).elim

theorem lowerPtr_validates (Γ : Locals) (n t : Nat) (h : Γ n = .ref t ∨ Γ n = .eq) :
    subTy (opTy Γ (lowerPtr Γ n t)) (.ref t) = true := by
  rcases h with h | h <;> simp [lowerPtr, opTy, h, subTy]

end SamVerif.CastInsert
