import SamVerif.Model.OptKernel
/-!
The only place where C03 depends on C02's kernel model (`Model/OptKernel.lean`): the totality facts
C03 needs, under C03's own names.  Only `evalImpl` and `tripCount` are used: for `mergeBinary` C02 states
no totality theorem, and C03's `merge` tie only checks that the real kernel never aborts.
None of the kernels has a branch that answers `panic`, whatever its tests decide: `ite_ne` says so for the
one `if` of `div` / `mod`, the branches of `tripLT` are gone through one by one.
-/
namespace SamVerif.C03Opt
open SamVerif.Opt

theorem ite_ne {α : Type} {c : Prop} [Decidable c] {a b x : α} (ha : a ≠ x) (hb : b ≠ x) :
    (if c then a else b) ≠ x := by
  split <;> assumption

theorem evalImpl_total (op : Op) (a b : Int) : evalImpl op a b ≠ .panic := by
  cases op
  case div | mod => exact ite_ne nofun nofun
  all_goals exact FoldRes.noConfusion

theorem tripLT_ne_panic (i0 step bound maxFinal : Int) : tripLT i0 step bound maxFinal ≠ .panic := by
  -- each of the five branches answers `count _` or `unknown`
  fun_cases tripLT i0 step bound maxFinal <;> nofun

theorem tripCount_total (g : Guard) (i0 step bound : Int) : tripCount g i0 step bound ≠ .panic := by
  cases g <;> exact tripLT_ne_panic _ _ _ _

end SamVerif.C03Opt
