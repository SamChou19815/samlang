import SamVerif.Model.FmtFull
import SamVerif.Lemmas.Fmt
/-!
Helper lemmas for the full C08 fragment (`Model/FmtFull.lean`): the structure of `Lemmas/Fmt.lean`
(budgeted parser relations, rules of the recursive-descent parser, loop invariant `main`), extended
to argument lists, tuples, blocks, if-else, match and calls by mutual structural recursion. Here the
per-node facts that the printer's parenthesisation agrees with the parser's levels are proved for
every expression (`lvl_of_prec`), and `main` has a fourth component for a shortcut right operand,
which the parser folds into the parent's chain (`regroup`, `graftR`). After `main` and the budget
bound `B_le` come `frame`, the stability of all eight parser functions under a larger budget and an
appended continuation (behind `parseTop_mono`, `paren_top`, `mono_all`, `ext_all`), and the lemmas
that the tuple size check does not see regrouping (`sizeOk_regroup`).
-/
namespace SamVerif.FmtFull
open SamVerif.Fmt (BinOp UOp of_succ of_succ2 plevel_le4 head_ne_append ne_nil_of_some)

def PTop (n : Nat) (ts : List Tok) (e : Expr) (r : List Tok) : Prop :=
  ∀ f, n ≤ f → parseTop f ts = some (e, r)
def PBase (n : Nat) (ts : List Tok) (e : Expr) (r : List Tok) : Prop :=
  ∀ f, n ≤ f → parseBase f ts = some (e, r)
def PUn (n : Nat) (ts : List Tok) (e : Expr) (r : List Tok) : Prop :=
  ∀ f, n ≤ f → parseUnary f ts = some (e, r)
def PLevel (n k : Nat) (ts : List Tok) (e : Expr) (r : List Tok) : Prop :=
  ∀ f, n ≤ f → parseLevel f k ts = some (e, r)
def PLoop (n k : Nat) (acc : Expr) (ts : List Tok) (e : Expr) (r : List Tok) : Prop :=
  ∀ f, n ≤ f → parseLoop f k acc ts = some (e, r)
def PArgs (n : Nat) (ts : List Tok) (es : Args) (r : List Tok) : Prop :=
  ∀ f, n ≤ f → parseArgs f ts = some (es, r)
def PCases (n : Nat) (ts : List Tok) (cs : Cases) (r : List Tok) : Prop :=
  ∀ f, n ≤ f → parseCases f ts = some (cs, r)
def PStmts (n : Nat) (ts : List Tok) (b : Blk) (r : List Tok) : Prop :=
  ∀ f, n ≤ f → parseStmts f ts = some (b, r)

theorem PTop.mono {n n' ts e r} (h : PTop n ts e r) (hn : n ≤ n') : PTop n' ts e r :=
  fun f hf => h f (by omega)
theorem PBase.mono {n n' ts e r} (h : PBase n ts e r) (hn : n ≤ n') : PBase n' ts e r :=
  fun f hf => h f (by omega)
theorem PLevel.mono {n n' k ts e r} (h : PLevel n k ts e r) (hn : n ≤ n') : PLevel n' k ts e r :=
  fun f hf => h f (by omega)
theorem PLoop.mono {n n' k a ts e r} (h : PLoop n k a ts e r) (hn : n ≤ n') : PLoop n' k a ts e r :=
  fun f hf => h f (by omega)
theorem PArgs.mono {n n' ts e r} (h : PArgs n ts e r) (hn : n ≤ n') : PArgs n' ts e r :=
  fun f hf => h f (by omega)
theorem PCases.mono {n n' ts e r} (h : PCases n ts e r) (hn : n ≤ n') : PCases n' ts e r :=
  fun f hf => h f (by omega)
theorem PStmts.mono {n n' ts e r} (h : PStmts n ts e r) (hn : n ≤ n') : PStmts n' ts e r :=
  fun f hf => h f (by omega)

def notKw (ts : List Tok) : Prop := ∀ r, ts ≠ .kwIf :: r ∧ ts ≠ .kwMatch :: r
def startsBase (ts : List Tok) : Prop := ∀ r, ts ≠ .bang :: r ∧ ts ≠ .op .minus :: r
def notRp (ts : List Tok) : Prop := ∀ r, ts ≠ .rp :: r
def notRb (ts : List Tok) : Prop := ∀ r, ts ≠ .rb :: r

theorem ptop_level {n ts e r} (h : PLevel n 0 ts e r) (hk : notKw ts) : PTop (n + 1) ts e r := by
  refine of_succ fun f' hf' => ?_
  rw [parseTop]
  · exact h f' hf'
  · intro ts' he; exact (hk ts').2 he
  · intro ts' he; exact (hk ts').1 he

theorem ptop_if {n1 n2 n3 ts c t e r1 r2 r3} (h1 : PTop n1 ts c (.lb :: r1))
    (h2 : PStmts n2 r1 t (.kwElse :: .lb :: r2)) (h3 : PStmts n3 r2 e r3) :
    PTop (max n1 (max n2 n3) + 1) (.kwIf :: ts) (.ifElse c t e) r3 := by
  refine of_succ fun f' hf' => ?_
  simp [parseTop, h1 f' (by omega), h2 f' (by omega), h3 f' (by omega)]

theorem ptop_match {n1 n2 ts m cs r r'} (h1 : PTop n1 ts m (.lb :: r)) (h2 : PCases n2 r cs r') :
    PTop (max n1 n2 + 1) (.kwMatch :: ts) (.matchE m cs) r' :=
  of_succ2 h1 h2 fun f e1 e2 => by simp [parseTop, e1, e2]

theorem pcases_one {n ts b r} (k : Nat) (h : PTop n ts b (.comma :: .rb :: r)) :
    PCases (n + 1) (.pat k :: ts) (.one k b) r := by
  refine of_succ fun f' hf' => ?_
  simp [parseCases, h f' hf']

theorem pcases_last {n ts b r} (k : Nat) (h : PTop n ts b (.rb :: r)) :
    PCases (n + 1) (.pat k :: ts) (.one k b) r := by
  refine of_succ fun f' hf' => ?_
  simp [parseCases, h f' hf']

theorem pcases_cons {n1 n2 ts b r cs r'} (k : Nat) (h1 : PTop n1 ts b (.comma :: r)) (hr : notRb r)
    (h2 : PCases n2 r cs r') : PCases (max n1 n2 + 1) (.pat k :: ts) (.cons k b cs) r' := by
  refine of_succ2 h1 h2 fun f e1 e2 => ?_
  rw [parseCases, e1]
  split
  · rename_i heq; cases heq
  · rename_i heq; cases heq; exact absurd rfl (hr _)
  · rename_i heq; cases heq; rw [e2]
  · rename_i hx; exact absurd rfl (hx _ _)

theorem pargs_one {n ts e r} (h : PTop n ts e (.rp :: r)) : PArgs (n + 1) ts (.one e) r := by
  refine of_succ fun f' hf' => ?_
  simp [parseArgs, h f' hf']

theorem pargs_one_comma {n ts e r} (h : PTop n ts e (.comma :: .rp :: r)) :
    PArgs (n + 1) ts (.one e) r := by
  refine of_succ fun f' hf' => ?_
  simp [parseArgs, h f' hf']

theorem pargs_cons {n1 n2 ts e r es r'} (h1 : PTop n1 ts e (.comma :: r)) (hr : notRp r)
    (h2 : PArgs n2 r es r') : PArgs (max n1 n2 + 1) ts (.cons e es) r' := by
  refine of_succ2 h1 h2 fun f e1 e2 => ?_
  rw [parseArgs, e1]
  split
  · rename_i heq; cases heq
  · rename_i heq; cases heq; exact absurd rfl (hr _)
  · rename_i heq; cases heq; rw [e2]
  · rename_i hx; exact absurd rfl (hx _ _)

theorem pbase_atom (a : Nat) (r : List Tok) : PBase 1 (.atom a :: r) (.atom a) r := by
  refine of_succ fun f' _ => ?_
  simp [parseBase]

theorem pbase_paren {n ts e r} (h : PTop n ts e (.rp :: r)) : PBase (n + 1) (.lp :: ts) e r := by
  refine of_succ fun f' hf' => ?_
  simp [parseBase, h f' hf']

theorem pbase_paren_comma {n ts e r} (h : PTop n ts e (.comma :: .rp :: r)) :
    PBase (n + 1) (.lp :: ts) e r := by
  refine of_succ fun f' hf' => ?_
  simp [parseBase, h f' hf']

theorem pbase_tuple {n1 n2 ts e r es r'} (h1 : PTop n1 ts e (.comma :: r)) (hr : notRp r)
    (h2 : PArgs n2 r es r') : PBase (max n1 n2 + 1) (.lp :: ts) (.tuple e es) r' := by
  refine of_succ2 h1 h2 fun f e1 e2 => ?_
  rw [parseBase, e1]
  split
  · rename_i heq; cases heq
  · rename_i heq; cases heq; exact absurd rfl (hr _)
  · rename_i heq; cases heq; rw [e2]
  · rename_i hx; exact absurd rfl (hx _ _)

theorem pbase_block {n ts b r} (h : PStmts n ts b r) : PBase (n + 1) (.lb :: ts) (.block b) r := by
  refine of_succ fun f' hf' => ?_
  simp [parseBase, h f' hf']

theorem pbase_lam {n ts body r} (k : Nat) (h : PTop n ts body r) :
    PBase (n + 1) (.lam k :: ts) (.lambda k body) r := by
  refine of_succ fun f' hf' => ?_
  simp [parseBase, h f' hf']

/-- the input does not start with a token that `parse_block` dispatches on. -/
def exprStart (ts : List Tok) : Prop :=
  (∀ r, ts ≠ .rb :: r) ∧ (∀ r, ts ≠ .semi :: r) ∧ (∀ k r, ts ≠ .letK k :: r)

theorem pstmts_rb (r : List Tok) : PStmts 1 (.rb :: r) (.noFin .nil) r := by
  refine of_succ fun f' _ => ?_
  simp [parseStmts]

theorem pstmts_semi {n r b r'} (h : PStmts n r b r') : PStmts (n + 1) (.semi :: r) b r' := by
  refine of_succ fun f' hf' => ?_
  simp [parseStmts, h f' hf']

theorem pstmts_let {n1 n2 ts e r b r'} (k : Nat) (h1 : PTop n1 ts e (.semi :: r))
    (h2 : PStmts n2 r b r') : PStmts (max n1 n2 + 1) (.letK k :: ts) (b.consLet k e) r' :=
  of_succ2 h1 h2 fun f e1 e2 => by simp [parseStmts, e1, e2]

theorem pstmts_expr {n1 n2 ts e r b r'} (hs : exprStart ts) (h1 : PTop n1 ts e (.semi :: r))
    (h2 : PStmts n2 r b r') : PStmts (max n1 n2 + 1) ts (b.consExpr e) r' := by
  refine of_succ2 h1 h2 fun f e1 e2 => ?_
  rw [parseStmts]
  · simp [e1, e2]
  · exact hs.1
  · exact hs.2.1
  · exact hs.2.2

theorem pstmts_fin {n ts e r} (hs : exprStart ts) (h1 : PTop n ts e (.rb :: r)) :
    PStmts (n + 1) ts (.fin .nil e) r := by
  refine of_succ fun f' hf' => ?_
  rw [parseStmts]
  · simp [h1 f' (by omega)]
  · exact hs.1
  · exact hs.2.1
  · exact hs.2.2

theorem pun_not {n ts e r} (h : PLevel n 6 ts e r) : PUn (n + 1) (.bang :: ts) (.unary .not e) r := by
  refine of_succ fun f' hf' => ?_
  simp [parseUnary, h f' hf']

theorem pun_neg {n ts e r} (h : PLevel n 6 ts e r) :
    PUn (n + 1) (.op .minus :: ts) (.unary .neg e) r := by
  refine of_succ fun f' hf' => ?_
  simp [parseUnary, h f' hf']

theorem pun_other {n ts e r} (h : PLevel n 6 ts e r) (hs : startsBase ts) : PUn (n + 1) ts e r := by
  refine of_succ fun f' hf' => ?_
  rw [parseUnary]
  · exact h f' hf'
  · intro ts' he; exact (hs ts').1 he
  · intro ts' he; exact (hs ts').2 he

theorem plevel6 {n1 n2 k ts x e r1 r} (hk : 6 ≤ k) (h1 : PBase n1 ts x r1)
    (h2 : PLoop n2 6 x r1 e r) : PLevel (max n1 n2 + 1) k ts e r :=
  of_succ2 h1 h2 fun f e1 e2 => by simp [parseLevel, hk, e1, e2]

theorem plevel5 {n ts e r} (h : PUn n ts e r) : PLevel (n + 1) 5 ts e r := by
  refine of_succ fun f' hf' => ?_
  simp [parseLevel, h f' hf']

theorem plevel_step {n1 n2 k ts x e r1 r} (hk : k < 5) (h1 : PLevel n1 (k + 1) ts x r1)
    (h2 : PLoop n2 k x r1 e r) : PLevel (max n1 n2 + 1) k ts e r := by
  refine of_succ2 h1 h2 fun f e1 e2 => ?_
  have a : ¬ (6 ≤ k) := by omega
  have b : ¬ (k = 5) := by omega
  simp [parseLevel, a, b, e1, e2]

/-- the loop level that would consume the token, if any. -/
def bl : Tok → Option Nat
  | .op o => some o.plevel
  | .post _ _ => some 6
  | .lp => some 6
  | _ => none

/-- the leading token of `ts` is not consumed by the loop of any level ≥ `k`. -/
def stopsAbove (k : Nat) (ts : List Tok) : Prop :=
  ∀ t rest b, ts = t :: rest → bl t = some b → b < k

theorem bl_le6 {t : Tok} {b : Nat} (h : bl t = some b) : b ≤ 6 := by
  cases t with
  | op o => have := plevel_le4 o; simp [bl] at h; omega
  | post p fld => simp [bl] at h; omega
  | lp => simp [bl] at h; omega
  | _ => simp [bl] at h

theorem ploop_stop {k : Nat} {e : Expr} {ts : List Tok}
    (h : ∀ t rest, ts = t :: rest → bl t ≠ some k) : PLoop 1 k e ts e ts := by
  refine of_succ fun f' _ => ?_
  cases ts with
  | nil => simp [parseLoop]
  | cons t ts =>
    have ht := h t ts rfl
    cases t with
    | op o =>
      have : ¬ o.plevel = k := by simpa [bl] using ht
      simp [parseLoop, this]
    | post p fld =>
      have : ¬ k = 6 := by intro e; apply ht; simp [bl, e]
      simp [parseLoop, this]
    | lp =>
      have : ¬ k = 6 := by intro e; apply ht; simp [bl, e]
      simp [parseLoop, this]
    | _ => simp [parseLoop]

theorem ploop_stop_of {k k' : Nat} {e : Expr} {ts : List Tok} (h : stopsAbove k ts) (hk : k ≤ k') :
    PLoop 1 k' e ts e ts :=
  ploop_stop (fun t rest ht hb => by have := h t rest k' ht hb; omega)

theorem ploop_step {n1 n2 k o acc x e ts r1 r} (ho : BinOp.plevel o = k)
    (h1 : PLevel n1 (k + 1) ts x r1) (h2 : PLoop n2 k (.binary o acc x) r1 e r) :
    PLoop (max n1 n2 + 1) k acc (.op o :: ts) e r :=
  of_succ2 h1 h2 fun f e1 e2 => by simp [parseLoop, ho, e1, e2]

theorem ploop_post {n acc p fld e ts r} (hlt : fld = true → startsLt ts = false)
    (h : PLoop n 6 (.post acc p fld) ts e r) : PLoop (n + 1) 6 acc (.post p fld :: ts) e r := by
  refine of_succ fun f' hf' => ?_
  have : (fld && startsLt ts) = false := by
    cases fld <;> simp_all
  simp [parseLoop, h f' hf', this]

theorem ploop_call0 {n acc e r r'} (h : PLoop n 6 (.call0 acc) r e r') :
    PLoop (n + 1) 6 acc (.lp :: .rp :: r) e r' := by
  refine of_succ fun f' hf' => ?_
  simp [parseLoop, h f' hf']

theorem ploop_call {n1 n2 acc ts args e r r'} (hr : notRp ts) (h1 : PArgs n1 ts args r)
    (h2 : PLoop n2 6 (.call acc args) r e r') : PLoop (max n1 n2 + 1) 6 acc (.lp :: ts) e r' := by
  refine of_succ2 h1 h2 fun f e1 e2 => ?_
  rw [parseLoop, if_pos rfl, e1]
  · exact e2
  · exact fun r he => hr r he

/-- what follows does not turn a final member name into the start of type arguments. -/
def okAfter (e : Expr) (rest : List Tok) : Prop := lastField e = true → startsLt rest = false

theorem startsLt_of_stops0 {rest : List Tok} (h : stopsAbove 0 rest) : startsLt rest = false := by
  cases rest with
  | nil => rfl
  | cons t r =>
    cases t <;> try rfl
    rename_i o
    have := h (.op o) r o.plevel rfl rfl
    omega

theorem stopsAbove_mono {k k' : Nat} {ts : List Tok} (h : stopsAbove k ts) (hk : k ≤ k') :
    stopsAbove k' ts := fun t rest b ht hb => Nat.lt_of_lt_of_le (h t rest b ht hb) hk

theorem stopsAbove_of_none {k : Nat} {t : Tok} (T : List Tok) (h : bl t = none) :
    stopsAbove k (t :: T) := by
  intro t' rest b he hb; cases he; rw [h] at hb; cases hb

theorem stops_comma (T : List Tok) : stopsAbove 0 (.comma :: T) := stopsAbove_of_none T rfl
theorem stops_rb (T : List Tok) : stopsAbove 0 (.rb :: T) := stopsAbove_of_none T rfl
theorem stops_lb (T : List Tok) : stopsAbove 0 (.lb :: T) := stopsAbove_of_none T rfl
theorem stops_rp (T : List Tok) : stopsAbove 0 (.rp :: T) := stopsAbove_of_none T rfl
theorem stops_semi (T : List Tok) : stopsAbove 0 (.semi :: T) := stopsAbove_of_none T rfl

theorem stopsAbove_nil (k : Nat) : stopsAbove k [] := by
  intro t' rest b h; cases h

theorem stopsAbove_op {k : Nat} {o : BinOp} {t : List Tok} (h : o.plevel < k) :
    stopsAbove k (.op o :: t) := by
  intro t' rest b he hb; cases he; simp [bl] at hb; omega

theorem stopsAbove_7 (ts : List Tok) : stopsAbove 7 ts := by
  intro t rest b _ hb; have := bl_le6 hb; omega

/-- a result obtained at a tighter level is also the result at every looser level whose loops
all stop at the remaining input (crossing the unary level needs a non-unary first token). -/
theorem lift {n j : Nat} (hj : j ≤ 6) {ts : List Tok} {x : Expr} {r : List Tok}
    (h : PLevel n j ts x r) (hb : j = 6 → startsBase ts) {k : Nat} (hk : k ≤ j)
    (hs : stopsAbove k r) : PLevel (n + 2 * (j - k)) k ts x r := by
  -- downwards from `j`, by induction on the number `d` of levels crossed
  suffices H : ∀ d k, k + d = j → stopsAbove k r → PLevel (n + 2 * d) k ts x r from
    H (j - k) k (by omega) hs
  intro d
  induction d with
  | zero => intro k hk _; have : k = j := by omega
            subst this; exact h
  | succ d ih =>
    intro k hk hs
    have h1 : PLevel (n + 2 * d) (k + 1) ts x r := ih (k + 1) (by omega) (stopsAbove_mono hs (by omega))
    by_cases h5 : k = 5
    · subst h5
      have : j = 6 := by omega
      have hd : d = 0 := by omega
      subst hd
      exact (plevel5 (pun_other h1 (hb this))).mono (by omega)
    · exact (plevel_step (by omega) h1 (ploop_stop_of hs (Nat.le_refl k))).mono (by omega)

theorem plevel_of_base {n k : Nat} {ts : List Tok} {e : Expr} {r : List Tok} (hb : PBase n ts e r)
    (hsb : startsBase ts) (hk : k ≤ 6) (hs : stopsAbove k r) : PLevel (n + 14) k ts e r := by
  have h6 := plevel6 (Nat.le_refl 6) hb (ploop_stop_of (e := e) hs hk)
  exact (lift (Nat.le_refl 6) h6 (fun _ => hsb) hk hs).mono (by omega)

theorem paren_append (ts T : List Tok) : paren ts ++ T = .lp :: (ts ++ .rp :: T) := by
  simp [paren]

theorem shortcutOk_lt (r : Expr) : shortcutOk .lt r = false := by
  cases r <;> simp [shortcutOk]

theorem printE_binary (o : BinOp) (l r : Expr) :
    printE (.binary o l r) =
      (if lParen o l then paren (printE l) else printE l) ++
        .op o :: (if rParen o l r then paren (printE r) else printE r) := by
  simp only [printE, lParen, rParen, sub]
  by_cases h0 : o = .lt ∧ endsMember l = true
  · obtain ⟨rfl, hm⟩ := h0
    by_cases h1 : l.prec = 4 + BinOp.lt.pprec
    · simp [hm, h1]
    · simp [hm, h1, shortcutOk_lt]
  · by_cases h1 : l.prec = 4 + o.pprec
    · simp [h0, h1]
    · by_cases h2 : r.prec = 4 + o.pprec ∧ shortcutOk o r = true
      · simp [h0, h1, h2]
      · simp [h0, h1, h2]

theorem endsMember_of_lastField : (e : Expr) → lastField e = true → endsMember e = true := by
  intro e h
  -- the arms of `lastField` that can be `true`: a member access (case1), the bare operand of a
  -- unary (case3), the bare right operand of a binary (case5), a lambda body (case6)
  fun_induction lastField e with
  | case1 e p fld => simpa [endsMember] using h
  | case3 u a hp ih =>
    simp only [endsMember, Bool.and_eq_true, decide_eq_true_eq]
    refine ⟨?_, ih h⟩
    simp [needParen] at hp; omega
  | case5 o l r hp ih => exact ih h
  | case6 k b ih => exact ih h
  | _ => cases h

theorem lvl_le6 (e : Expr) : e.lvl ≤ 6 := by
  cases e with
  | binary o _ _ => have := plevel_le4 o; simp only [Expr.lvl]; omega
  | _ => simp [Expr.lvl]

theorem prec_le12 (e : Expr) : e.prec ≤ 12 := by
  cases e with
  | binary o _ _ => cases o <;> simp [Expr.prec, BinOp.pprec]
  | _ => simp [Expr.prec]

/-! ### per-node facts about the printer's table and the parser's level order -/

theorem plevel_mirror (o : BinOp) : o.plevel + o.pprec = 4 := by cases o <;> rfl

/-- The parser-side level of an operand is a function of its printer-side precedence: delimited and
postfix forms (0, 1) are read at level 6, a unary (2) at level 5, a binary operator of precedence
`p` at level `8 - p` (`plevel_mirror`); from 10 on the form is no operand. `post_ok`, `unary_ok`,
`left_ok` and `right_ok` are this, compared with the printer's `needParen` tests. -/
theorem lvl_of_prec (e : Expr) (h : e.prec < 10) :
    e.operandOk = true ∧ (e.prec ≤ 1 → e.lvl = 6) ∧ (e.prec = 2 → e.lvl = 5) ∧
      (3 ≤ e.prec → e.lvl + e.prec = 8) := by
  cases e with
  | binary o _ _ =>
    have := plevel_mirror o
    simp [Expr.prec, Expr.lvl, Expr.operandOk]; omega
  | ifElse _ _ _ | matchE _ _ | lambda _ _ => simp [Expr.prec] at h
  | _ => simp [Expr.prec, Expr.lvl, Expr.operandOk]

theorem post_ok (e : Expr) : needParen 1 false e = true ∨ (e.operandOk = true ∧ e.lvl = 6) := by
  by_cases h : e.prec > 1
  · exact .inl (by simp [needParen, h])
  · have := lvl_of_prec e (by omega)
    exact .inr ⟨this.1, by omega⟩

theorem unary_ok (e : Expr) : needParen 2 true e = true ∨ (e.operandOk = true ∧ e.lvl = 6) := by
  by_cases h : e.prec ≥ 2
  · exact .inl (by simp [needParen, h])
  · have := lvl_of_prec e (by omega)
    exact .inr ⟨this.1, by omega⟩

theorem lParen_true {o : BinOp} {l : Expr} (h : l.prec > 4 + o.pprec) : lParen o l = true := by
  unfold lParen
  split
  · rfl
  · simp [needParen, Nat.ne_of_gt h, Nat.le_of_lt h]

theorem left_ok (o : BinOp) (l : Expr) :
    lParen o l = true ∨ (l.operandOk = true ∧ l.lvl ≥ o.plevel ∧
      (l.prec ≠ 4 + o.pprec → l.lvl > o.plevel)) := by
  have := plevel_mirror o
  by_cases h : l.prec > 4 + o.pprec
  · exact .inl (lParen_true h)
  · have := lvl_of_prec l (by omega)
    exact .inr ⟨this.1, by omega, fun _ => by omega⟩

theorem rParen_true {o : BinOp} {l r : Expr} (h2 : r.prec ≥ 4 + o.pprec)
    (h3 : usesShortcut o l r = false) : rParen o l r = true := by
  unfold rParen
  by_cases hlq : l.prec = 4 + o.pprec
  · simp [hlq, needParen, h2]
  · simp only [hlq, if_false]
    by_cases hc : r.prec = 4 + o.pprec ∧ shortcutOk o r = true
    · simp [usesShortcut, hlq, hc.1, hc.2] at h3
    · simp [hc, needParen, h2]

theorem right_ok (o : BinOp) (l r : Expr) :
    rParen o l r = true ∨ usesShortcut o l r = true ∨ (r.operandOk = true ∧ r.lvl > o.plevel) := by
  have := plevel_mirror o
  by_cases hs : usesShortcut o l r = true
  · exact .inr (.inl hs)
  · by_cases h : r.prec ≥ 4 + o.pprec
    · exact .inl (rParen_true h (by simpa using hs))
    · have := lvl_of_prec r (by omega)
      exact .inr (.inr ⟨this.1, by omega⟩)

theorem lt_ok (l : Expr) (h : lParen .lt l = false) : lastField l = false := by
  by_cases hf : lastField l = true
  · have hm := endsMember_of_lastField l hf
    simp [lParen, hm] at h
  · simpa using hf

theorem shortcutOk_shape {o : BinOp} {e : Expr} (h : shortcutOk o e = true) :
    o ≠ .lt ∧ ∃ r1 r2, e = .binary o r1 r2 ∧ r1.prec ≠ 4 + o.pprec := by
  have hlt : o ≠ .lt := by
    intro e'; subst e'; rw [shortcutOk_lt] at h; cases h
  refine ⟨hlt, ?_⟩
  cases e <;> simp [shortcutOk] at h
  rename_i o' r1 r2
  obtain ⟨⟨_, rfl⟩, h5⟩ := h
  exact ⟨r1, r2, rfl, h5⟩

theorem shortcut_shape {o : BinOp} {l r : Expr} (h : usesShortcut o l r = true) :
    l.prec ≠ 4 + o.pprec ∧ o ≠ .lt ∧ rParen o l r = false ∧ shortcutOk o r = true := by
  simp only [usesShortcut, Bool.and_eq_true, bne_iff_ne, ne_eq, beq_iff_eq] at h
  obtain ⟨⟨h1, h2⟩, h3⟩ := h
  exact ⟨h1, (shortcutOk_shape h3).1, by simp [rParen, h1, h2, h3], h3⟩

def headBase (ts : List Tok) : Prop :=
  ∃ t r, ts = t :: r ∧ (t = .lp ∨ t = .lb ∨ ∃ a, t = .atom a)
def headOk (ts : List Tok) : Prop :=
  ∃ t r, ts = t :: r ∧ (t = .lp ∨ t = .lb ∨ (∃ a, t = .atom a) ∨ t = .bang ∨ t = .op .minus)

theorem headBase_append {ts : List Tok} (h : headBase ts) (T : List Tok) : headBase (ts ++ T) := by
  obtain ⟨t, r, rfl, ht⟩ := h; exact ⟨t, r ++ T, rfl, ht⟩
theorem headOk_append {ts : List Tok} (h : headOk ts) (T : List Tok) : headOk (ts ++ T) := by
  obtain ⟨t, r, rfl, ht⟩ := h; exact ⟨t, r ++ T, rfl, ht⟩
theorem headOk_of_base {ts : List Tok} (h : headBase ts) : headOk ts := by
  obtain ⟨t, r, rfl, ht⟩ := h
  refine ⟨t, r, rfl, ?_⟩
  rcases ht with h | h | h
  · exact .inl h
  · exact .inr (.inl h)
  · exact .inr (.inr (.inl h))
theorem headBase_paren (ts : List Tok) : headBase (paren ts) := ⟨.lp, ts ++ [.rp], rfl, .inl rfl⟩

theorem startsBase_of_headBase {ts : List Tok} (h : headBase ts) : startsBase ts := by
  obtain ⟨t, r, rfl, ht⟩ := h
  rcases ht with rfl | rfl | ⟨a, rfl⟩ <;> exact fun _ => ⟨nofun, nofun⟩
theorem notKw_of_headOk {ts : List Tok} (h : headOk ts) : notKw ts := by
  obtain ⟨t, r, rfl, ht⟩ := h
  rcases ht with rfl | rfl | ⟨a, rfl⟩ | rfl | rfl <;> exact fun _ => ⟨nofun, nofun⟩
theorem notRp_of_headOk {ts : List Tok} (h : headOk ts) : notRp ts := by
  obtain ⟨t, r, rfl, ht⟩ := h
  rcases ht with rfl | rfl | ⟨a, rfl⟩ | rfl | rfl <;> exact fun _ => nofun

theorem headBase_sub1 {e : Expr} (ih : e.operandOk = true → e.lvl = 6 → headBase (printE e)) :
    headBase (sub 1 false e (printE e)) := by
  simp only [sub]
  split
  · exact headBase_paren _
  · rename_i hp
    rcases post_ok e with h2 | h2
    · exact absurd h2 hp
    · exact ih h2.1 h2.2

theorem head_base : (e : Expr) → e.operandOk = true → e.lvl = 6 → headBase (printE e)
  | .atom a, _, _ => ⟨.atom a, [], rfl, .inr (.inr ⟨a, rfl⟩)⟩
  | .tuple e es, _, _ => ⟨.lp, printE e ++ .comma :: (printArgs es ++ [.rp]), by simp [printE], .inl rfl⟩
  | .block b, _, _ => ⟨.lb, printBody b, by simp [printE], .inr (.inl rfl)⟩
  | .post e p fld, _, _ => headBase_append (headBase_sub1 (head_base e)) _
  | .call0 e, _, _ => headBase_append (headBase_sub1 (head_base e)) _
  | .call e args, _, _ => headBase_append (headBase_sub1 (head_base e)) _
  | .unary u e, _, hl => by simp [Expr.lvl] at hl
  | .binary o l r, _, hl => by simp [Expr.lvl] at hl; have := plevel_le4 o; omega
  | .ifElse c t e, ho, _ => by simp [Expr.operandOk] at ho
  | .matchE m cs, ho, _ => by simp [Expr.operandOk] at ho
  | .lambda k b, ho, _ => by simp [Expr.operandOk] at ho

theorem head_ok : (e : Expr) → e.operandOk = true → headOk (printE e)
  | .atom a, ho => headOk_of_base (head_base _ ho rfl)
  | .tuple e es, ho => headOk_of_base (head_base _ ho rfl)
  | .block e, ho => headOk_of_base (head_base _ ho rfl)
  | .post e p fld, ho => headOk_of_base (head_base _ ho rfl)
  | .call0 e, ho => headOk_of_base (head_base _ ho rfl)
  | .call e a, ho => headOk_of_base (head_base _ ho rfl)
  | .unary u e, _ => by
    cases u
    · exact ⟨.bang, _, rfl, .inr (.inr (.inr (.inl rfl)))⟩
    · exact ⟨.op .minus, _, rfl, .inr (.inr (.inr (.inr rfl)))⟩
  | .binary o l r, _ => by
    rw [printE_binary]
    by_cases hp : lParen o l = true
    · simp only [hp, if_true]; exact headOk_append (headOk_of_base (headBase_paren _)) _
    · simp only [hp]
      rcases left_ok o l with h2 | h2
      · exact absurd h2 hp
      · exact headOk_append (head_ok l h2.1) _
  | .ifElse c t e, ho => by simp [Expr.operandOk] at ho
  | .matchE m cs, ho => by simp [Expr.operandOk] at ho
  | .lambda k b, ho => by simp [Expr.operandOk] at ho

theorem head_nonOperand {e : Expr} (ho : e.operandOk = false) :
    ∃ t r, printE e = t :: r ∧ (t = .kwIf ∨ t = .kwMatch ∨ ∃ k, t = .lam k) := by
  cases e with
  | ifElse c t e => exact ⟨_, _, by rw [printE], .inl rfl⟩
  | matchE m cs => exact ⟨_, _, by rw [printE], .inr (.inl rfl)⟩
  | lambda k b => exact ⟨_, _, by rw [printE], .inr (.inr ⟨k, rfl⟩)⟩
  | _ => cases ho

theorem head_notRp (e : Expr) (T : List Tok) : notRp (printE e ++ T) := by
  by_cases ho : e.operandOk = true
  · exact notRp_of_headOk (headOk_append (head_ok e ho) T)
  · obtain ⟨t, r, h, ht⟩ := head_nonOperand (by simpa using ho)
    rw [h]
    rcases ht with rfl | rfl | ⟨k, rfl⟩ <;> exact fun _ => nofun

mutual
/-- recursion budget sufficient for the printed form of `e` (linear in the number of tokens).
The increments are round upper bounds, not tight. Every parser rule costs 1 and `lift` costs 2 per
level crossed, at most 12: hence `+ 14` in `plevel_of_base` (`plevel6`, `lift`), `+ 16` in
`main_at`, `+ 20` in `main_top` (`main_at`, `ptop_level`) and `+ 40` wherever an operand is read
(`operand_paren`: `main_top`, `pbase_paren`, `plevel_of_base`). A list element or statement pays 40
for one `main_top` and its rule, a block 20 or 60 for its closing rule and final expression, a node
with one operand 100 for one `+ 40` wrapper and its own rules, `binary` and `ifElse` 160 for two. -/
def B : Expr → Nat
  | .atom _ => 4
  | .tuple e es => B e + BArgs es + 100
  | .block b => BBlk b + 100
  | .post e _ _ => B e + 100
  | .call0 f => B f + 100
  | .call f args => B f + BArgs args + 100
  | .unary _ e => B e + 100
  | .binary _ l r => B l + B r + 160
  | .ifElse c t e => B c + BBlk t + BBlk e + 160
  | .matchE m cs => B m + BCases cs + 100
  | .lambda _ b => B b + 100
def BArgs : Args → Nat
  | .one e => B e + 40
  | .cons e rest => B e + BArgs rest + 40
def BCases : Cases → Nat
  | .one _ b => B b + 40
  | .cons _ b rest => B b + BCases rest + 40
def BBlk : Blk → Nat
  | .fin ss e => BStmts ss + B e + 60
  | .noFin ss => BStmts ss + 20
def BStmts : Stmts → Nat
  | .nil => 0
  | .letS _ e rest => B e + BStmts rest + 40
  | .exprS e rest => B e + BStmts rest + 40
end

/-- prepend statements to a block. -/
def Stmts.push : Stmts → Blk → Blk
  | .nil, b => b
  | .letS k e rest, b => (rest.push b).consLet k e
  | .exprS e rest, b => (rest.push b).consExpr e

theorem push_fin : (ss : Stmts) → (x : Expr) → ss.push (.fin .nil x) = .fin ss x
  | .nil, x => rfl
  | .letS k e rest, x => by simp [Stmts.push, push_fin rest x, Blk.consLet]
  | .exprS e rest, x => by simp [Stmts.push, push_fin rest x, Blk.consExpr]

theorem push_noFin : (ss : Stmts) → ss.push (.noFin .nil) = .noFin ss
  | .nil => rfl
  | .letS k e rest => by simp [Stmts.push, push_noFin rest, Blk.consLet]
  | .exprS e rest => by simp [Stmts.push, push_noFin rest, Blk.consExpr]

/-- conclusion of the main lemma for one expression, by the place where it can stand: (1) not an
operand: read by `parseTop`; (2) a unary: read at level 5; (3) any other operand: read at its own
level, continuing that level's loop with `regroup e` as accumulator; (4) a shortcut right operand
of `o`, printed without parentheses after `acc o`: read inside the parent's loop at `o`'s level,
which continues with `graftR o acc e`, the tree the parser builds when it folds `e`'s operands into
the parent's chain. -/
def MainConcl (e : Expr) : Prop :=
  (e.operandOk = false → ∀ rest, stopsAbove 0 rest →
    PTop (B e) (printE e ++ rest) (regroup e) rest) ∧
  (e.operandOk = true → e.lvl = 5 → ∀ rest, stopsAbove 6 rest → okAfter e rest →
    PLevel (B e) 5 (printE e ++ rest) (regroup e) rest) ∧
  (e.operandOk = true → e.lvl ≠ 5 → ∀ rest x r1 m, stopsAbove (e.lvl + 1) rest → okAfter e rest →
    PLoop m e.lvl (regroup e) rest x r1 → PLevel (B e + m) e.lvl (printE e ++ rest) x r1) ∧
  (∀ o, shortcutOk o e = true → ∀ acc rest x r1 m, stopsAbove (o.plevel + 1) rest →
    okAfter e rest → PLoop m o.plevel (graftR o acc e) rest x r1 →
    PLoop (B e + m) o.plevel acc (.op o :: (printE e ++ rest)) x r1)

/-- What `main` says of the other four syntax classes. A printed argument list or case list is read
back up to its closing bracket, a printed block body up to and including its `}`. `parseStmts`
returns a whole block, so a printed statement prefix `ss` has the continuation form: whatever block
`b` the rest `T` yields, `printStmts ss ++ T` yields `rgStmts ss` pushed in front of `b`;
`mainBody` puts the final expression or `}` for `T` and folds with `push_fin` / `push_noFin`. -/
def MainArgs (es : Args) : Prop :=
  ∀ rest, PArgs (BArgs es) (printArgs es ++ .rp :: rest) (rgArgs es) rest
def MainCases (cs : Cases) : Prop :=
  ∀ rest, PCases (BCases cs) (printCases cs ++ .rb :: rest) (rgCases cs) rest
def MainBody (b : Blk) : Prop :=
  ∀ rest, PStmts (BBlk b) (printBody b ++ rest) (rgBlk b) rest
def MainStmts (ss : Stmts) : Prop :=
  ∀ T b r n, PStmts n T b r → PStmts (BStmts ss + n) (printStmts ss ++ T) ((rgStmts ss).push b) r

theorem MainConcl.top {e : Expr} (hm : MainConcl e) : e.operandOk = false → ∀ rest,
    stopsAbove 0 rest → PTop (B e) (printE e ++ rest) (regroup e) rest := hm.1
theorem MainConcl.lvl5 {e : Expr} (hm : MainConcl e) : e.operandOk = true → e.lvl = 5 → ∀ rest,
    stopsAbove 6 rest → okAfter e rest → PLevel (B e) 5 (printE e ++ rest) (regroup e) rest := hm.2.1
theorem MainConcl.loop {e : Expr} (hm : MainConcl e) : e.operandOk = true → e.lvl ≠ 5 →
    ∀ rest x r1 m, stopsAbove (e.lvl + 1) rest → okAfter e rest →
      PLoop m e.lvl (regroup e) rest x r1 → PLevel (B e + m) e.lvl (printE e ++ rest) x r1 := hm.2.2.1
theorem MainConcl.graft {e : Expr} (hm : MainConcl e) : ∀ o, shortcutOk o e = true →
    ∀ acc rest x r1 m, stopsAbove (o.plevel + 1) rest → okAfter e rest →
      PLoop m o.plevel (graftR o acc e) rest x r1 →
      PLoop (B e + m) o.plevel acc (.op o :: (printE e ++ rest)) x r1 := hm.2.2.2

theorem MainConcl.of_lvl6 {e : Expr} (ho : e.operandOk = true) (hl : e.lvl = 6)
    (hsc : ∀ o, shortcutOk o e = false)
    (h : ∀ rest x r1 m, okAfter e rest → PLoop m 6 (regroup e) rest x r1 →
      PLevel (B e + m) 6 (printE e ++ rest) x r1) : MainConcl e := by
  refine ⟨fun h0 => (nomatch ho.symm.trans h0), fun _ h5 => by omega,
    fun _ _ rest x r1 m _ hok hloop => ?_, fun o h0 => (nomatch (hsc o).symm.trans h0)⟩
  rw [hl] at hloop ⊢
  exact h rest x r1 m hok hloop

theorem MainConcl.of_top {e : Expr} (ho : e.operandOk = false) (hsc : ∀ o, shortcutOk o e = false)
    (h : ∀ rest, stopsAbove 0 rest → PTop (B e) (printE e ++ rest) (regroup e) rest) :
    MainConcl e :=
  ⟨fun _ => h, fun h0 => (nomatch ho.symm.trans h0), fun h0 => (nomatch ho.symm.trans h0),
    fun o h0 => (nomatch (hsc o).symm.trans h0)⟩

theorem MainConcl.loop6 {e : Expr} (hm : MainConcl e) (ho : e.operandOk = true) (hl : e.lvl = 6)
    {rest : List Tok} {x : Expr} {r1 : List Tok} {m : Nat} (hok : okAfter e rest)
    (hL : PLoop m 6 (regroup e) rest x r1) : PLevel (B e + m) 6 (printE e ++ rest) x r1 := by
  have := hm.loop ho (by omega) rest x r1 m (by rw [hl]; exact stopsAbove_7 _) hok
    (by rw [hl]; exact hL)
  rwa [hl] at this

/-- from the loop-invariant form to the plain form: at every level `k` not tighter than `e`'s
own, with the loops of all levels ≥ `k` stopping at `rest`. -/
theorem main_at {e : Expr} (hm : MainConcl e) (ho : e.operandOk = true)
    {k : Nat} (hk : k ≤ e.lvl) {rest : List Tok} (hs : stopsAbove k rest) (hok : okAfter e rest) :
    PLevel (B e + 16) k (printE e ++ rest) (regroup e) rest := by
  have h6 := lvl_le6 e
  by_cases h5 : e.lvl = 5
  · have := hm.lvl5 ho h5 rest (stopsAbove_mono hs (by omega)) hok
    exact (lift (by omega) this (by omega) (by omega) hs).mono (by omega)
  · have hl : PLoop 1 e.lvl (regroup e) rest (regroup e) rest := ploop_stop_of hs hk
    have := hm.loop ho h5 rest (regroup e) rest 1 (stopsAbove_mono hs (by omega)) hok hl
    refine (lift h6 this (fun h => ?_) hk hs).mono (by omega)
    exact startsBase_of_headBase (headBase_append (head_base e ho h) rest)

/-- the plain form at the top: any printed expression, before a rest at which all loops stop. -/
theorem main_top {e : Expr} (hm : MainConcl e) {rest : List Tok}
    (hs : stopsAbove 0 rest) : PTop (B e + 20) (printE e ++ rest) (regroup e) rest := by
  by_cases ho : e.operandOk = true
  · have h0 := main_at hm ho (Nat.zero_le _) hs (fun _ => startsLt_of_stops0 hs)
    exact (ptop_level h0 (notKw_of_headOk (headOk_append (head_ok e ho) rest))).mono (by omega)
  · exact (hm.top (by simpa using ho) rest hs).mono (by omega)

/-- a parenthesised expression is a base expression, read at every level whose loops stop after it. -/
theorem operand_paren {s : Expr} (hm : MainConcl s) {k : Nat} (hk6 : k ≤ 6)
    {T : List Tok} (hs : stopsAbove k T) :
    PLevel (B s + 40) k (paren (printE s) ++ T) (regroup s) T := by
  rw [paren_append]
  have h0 := main_top hm (stops_rp T)
  exact (plevel_of_base (pbase_paren h0) (fun _ => ⟨nofun, nofun⟩) hk6 hs).mono (by omega)

/-- an operand position of the printer: `a` in parentheses (`c`, by `operand_paren`) or bare and
then an operand of level `k` or tighter (by `main_at`) is read at level `k`. -/
theorem operand_read {a : Expr} (hm : MainConcl a) {c : Bool} {k : Nat} (hk : k ≤ 6)
    (hc : c = true ∨ (a.operandOk = true ∧ k ≤ a.lvl)) {T : List Tok} (hs : stopsAbove k T)
    (hok : c = false → okAfter a T) :
    PLevel (B a + 40) k ((if c then paren (printE a) else printE a) ++ T) (regroup a) T := by
  cases c
  · obtain h | h := hc
    · cases h
    · exact (main_at hm h.1 h.2 hs (hok rfl)).mono (by omega)
  · exact operand_paren hm hk hs

theorem regroup_atom (a : Nat) : regroup (.atom a) = .atom a := rfl
theorem regroup_tuple (e : Expr) (es : Args) :
    regroup (.tuple e es) = .tuple (regroup e) (rgArgs es) := by simp [regroup, rg, wrapCtx]
theorem regroup_block (b : Blk) : regroup (.block b) = .block (rgBlk b) := by
  simp [regroup, rg, wrapCtx]
theorem regroup_post (e : Expr) (p : Nat) (fld : Bool) :
    regroup (.post e p fld) = .post (regroup e) p fld := by simp [regroup, rg, wrapCtx]
theorem regroup_call0 (f : Expr) : regroup (.call0 f) = .call0 (regroup f) := by
  simp [regroup, rg, wrapCtx]
theorem regroup_call (f : Expr) (args : Args) :
    regroup (.call f args) = .call (regroup f) (rgArgs args) := by simp [regroup, rg, wrapCtx]
theorem regroup_unary (u : UOp) (e : Expr) : regroup (.unary u e) = .unary u (regroup e) := by
  simp [regroup, rg, wrapCtx]
theorem regroup_ifElse (c : Expr) (t e : Blk) :
    regroup (.ifElse c t e) = .ifElse (regroup c) (rgBlk t) (rgBlk e) := by
  simp [regroup, rg, wrapCtx]
theorem regroup_matchE (m : Expr) (cs : Cases) :
    regroup (.matchE m cs) = .matchE (regroup m) (rgCases cs) := by simp [regroup, rg, wrapCtx]
theorem regroup_lambda (k : Nat) (b : Expr) : regroup (.lambda k b) = .lambda k (regroup b) := by
  simp [regroup, rg, wrapCtx]
theorem rgArgs_one (e : Expr) : rgArgs (.one e) = .one (regroup e) := by simp [rgArgs, regroup]
theorem rgArgs_cons (e : Expr) (es : Args) :
    rgArgs (.cons e es) = .cons (regroup e) (rgArgs es) := by simp [rgArgs, regroup]
theorem rgCases_one (k : Nat) (b : Expr) : rgCases (.one k b) = .one k (regroup b) := by
  simp [rgCases, regroup]
theorem rgCases_cons (k : Nat) (b : Expr) (cs : Cases) :
    rgCases (.cons k b cs) = .cons k (regroup b) (rgCases cs) := by simp [rgCases, regroup]
theorem rgBlk_fin (ss : Stmts) (e : Expr) : rgBlk (.fin ss e) = .fin (rgStmts ss) (regroup e) := by
  simp [rgBlk, regroup]
theorem rgBlk_noFin (ss : Stmts) : rgBlk (.noFin ss) = .noFin (rgStmts ss) := by simp [rgBlk]
theorem rgStmts_letS (k : Nat) (e : Expr) (ss : Stmts) :
    rgStmts (.letS k e ss) = .letS k (regroup e) (rgStmts ss) := by simp [rgStmts, regroup]
theorem rgStmts_exprS (e : Expr) (ss : Stmts) :
    rgStmts (.exprS e ss) = .exprS (regroup e) (rgStmts ss) := by simp [rgStmts, regroup]

theorem regroup_binary (o : BinOp) (l r : Expr) :
    regroup (.binary o l r) =
      if usesShortcut o l r then graftR o (regroup l) r else .binary o (regroup l) (regroup r) := by
  simp [regroup, graftR, rg]

/-- the operator `o'` of the grafted node does not occur on the right: `rg (some (o, acc))` on a
`binary` node ignores the node's own operator, and `graftR` is only used where `o' = o`
(`shortcutOk_shape`). -/
theorem graftR_binary (o o' : BinOp) (acc a b : Expr) :
    graftR o acc (.binary o' a b) =
      if usesShortcut o a b then graftR o (.binary o acc (regroup a)) b
      else .binary o (.binary o acc (regroup a)) (regroup b) := by
  simp [regroup, graftR, rg]

/-- base of a postfix chain / callee: read at the postfix level, continuing its loop. -/
theorem chain_base {e : Expr} (hme : MainConcl e) {T : List Tok} {x : Expr} {r1 : List Tok} {m : Nat}
    (hT : startsLt T = false) (hL : PLoop m 6 (regroup e) T x r1) :
    PLevel (B e + m + 40) 6 (sub 1 false e (printE e) ++ T) x r1 := by
  simp only [sub]
  by_cases hp : needParen 1 false e = true
  · simp only [hp, if_true, paren_append]
    have hb := pbase_paren (main_top hme (stops_rp T))
    exact (plevel6 (Nat.le_refl 6) hb hL).mono (by omega)
  · simp only [hp]
    rcases post_ok e with h2 | h2
    · exact absurd h2 hp
    · exact (hme.loop6 h2.1 h2.2 (fun _ => hT) hL).mono (by omega)

theorem printArgs_notRp (es : Args) (T : List Tok) : notRp (printArgs es ++ T) := by
  cases es <;> simp only [printArgs, List.append_assoc] <;> exact head_notRp _ _

theorem printCases_notRb (cs : Cases) (T : List Tok) : notRb (printCases cs ++ T) := by
  cases cs <;> (simp only [printCases]; intro r he; cases he)

theorem exprStart_print (e : Expr) (T : List Tok) : exprStart (printE e ++ T) := by
  by_cases ho : e.operandOk = true
  · obtain ⟨t, r, h, ht⟩ := head_ok e ho
    rw [h]
    rcases ht with rfl | rfl | ⟨a, rfl⟩ | rfl | rfl <;>
      exact ⟨fun _ => nofun, fun _ => nofun, fun _ _ => nofun⟩
  · obtain ⟨t, r, h, ht⟩ := head_nonOperand (by simpa using ho)
    rw [h]
    rcases ht with rfl | rfl | ⟨k, rfl⟩ <;>
      exact ⟨fun _ => nofun, fun _ => nofun, fun _ _ => nofun⟩

theorem noSC {e : Expr} (h : ∀ o l r, e ≠ .binary o l r) (o : BinOp) : shortcutOk o e = false := by
  cases e with
  | binary o' l r => exact absurd rfl (h o' l r)
  | _ => rfl

mutual
/-- **Loop invariant of precedence climbing** for printed expressions (all expressions). -/
theorem main : (e : Expr) → MainConcl e
  | .atom a => .of_lvl6 rfl rfl (fun _ => rfl) fun rest x r1 m _ hloop => by
    rw [regroup_atom] at hloop
    simp only [printE, List.singleton_append]
    exact (plevel6 (Nat.le_refl 6) (pbase_atom a rest) hloop).mono (by simp only [B]; omega)
  | .tuple e es => .of_lvl6 rfl rfl (fun _ => rfl) fun rest x r1 m _ hloop => by
    rw [regroup_tuple] at hloop
    simp only [printE, List.cons_append, List.append_assoc]
    have hb := pbase_tuple (main_top (main e) (stops_comma (printArgs es ++ .rp :: rest)))
      (printArgs_notRp es (.rp :: rest)) (mainArgs es rest)
    exact (plevel6 (Nat.le_refl 6) hb hloop).mono (by simp only [B]; omega)
  | .block b => .of_lvl6 rfl rfl (fun _ => rfl) fun rest x r1 m _ hloop => by
    rw [regroup_block] at hloop
    simp only [printE, List.cons_append]
    exact (plevel6 (Nat.le_refl 6) (pbase_block (mainBody b rest)) hloop).mono
      (by simp only [B]; omega)
  | .post e p fld => .of_lvl6 rfl rfl (fun _ => rfl) fun rest x r1 m hok hloop => by
    rw [regroup_post] at hloop
    have hL : PLoop (m + 1) 6 (regroup e) (.post p fld :: rest) x r1 :=
      ploop_post (fun hf => hok (by simp [lastField, hf])) hloop
    simp only [printE, List.append_assoc, List.singleton_append]
    exact (chain_base (main e) rfl hL).mono (by simp only [B]; omega)
  | .call0 f => .of_lvl6 rfl rfl (fun _ => rfl) fun rest x r1 m _ hloop => by
    rw [regroup_call0] at hloop
    have hL : PLoop (m + 1) 6 (regroup f) (.lp :: .rp :: rest) x r1 := ploop_call0 hloop
    simp only [printE, List.append_assoc, List.cons_append, List.nil_append]
    exact (chain_base (main f) rfl hL).mono (by simp only [B]; omega)
  | .call f args => .of_lvl6 rfl rfl (fun _ => rfl) fun rest x r1 m _ hloop => by
    rw [regroup_call] at hloop
    have hL := ploop_call (acc := regroup f) (printArgs_notRp args (.rp :: rest))
      (mainArgs args rest) hloop
    simp only [printE, List.append_assoc, List.cons_append]
    exact (chain_base (main f) rfl hL).mono (by simp only [B]; omega)
  | .ifElse c t e => .of_top rfl (fun _ => rfl) fun rest _ => by
    rw [regroup_ifElse]
    simp only [printE, List.cons_append, List.append_assoc]
    exact (ptop_if (main_top (main c) (stops_lb _)) (mainBody t _) (mainBody e rest)).mono
      (by simp only [B]; omega)
  | .matchE m cs => .of_top rfl (fun _ => rfl) fun rest _ => by
    rw [regroup_matchE]
    simp only [printE, List.cons_append, List.append_assoc]
    exact (ptop_match (main_top (main m) (stops_lb _)) (mainCases cs rest)).mono
      (by simp only [B]; omega)
  | .lambda k body => .of_top rfl (fun _ => rfl) fun rest hs => by
    have hnp : needParen 12 false body = false := by
      have := prec_le12 body; simp [needParen]; omega
    rw [regroup_lambda]
    simp only [printE, sub, hnp, List.cons_append]
    have h0 := plevel_of_base (pbase_lam k (main_top (main body) hs)) (fun _ => ⟨nofun, nofun⟩)
      (Nat.zero_le 6) hs
    exact (ptop_level h0 fun _ => ⟨nofun, nofun⟩).mono (by simp only [B]; omega)
  | .unary u a => by
    refine ⟨fun ho => by simp [Expr.operandOk] at ho, fun _ _ rest hs hok => ?_,
      fun _ h5 => by simp [Expr.lvl] at h5, fun o h => by simp [shortcutOk] at h⟩
    rw [regroup_unary]
    have hb : PLevel (B a + 40) 6 (sub 2 true a (printE a) ++ rest) (regroup a) rest :=
      operand_read (main a) (Nat.le_refl 6)
        ((unary_ok a).imp_right fun h => ⟨h.1, Nat.le_of_eq h.2.symm⟩) hs
        fun hp hf => hok (by simp [lastField, hp, hf])
    simp only [printE, List.cons_append]
    cases u with
    | not => exact (plevel5 (pun_not hb)).mono (by simp only [B]; omega)
    | neg => exact (plevel5 (pun_neg hb)).mono (by simp only [B]; omega)
  | .binary o l r => by
    have hml := main l
    have hmr := main r
    have hj4 : o.plevel ≤ 4 := plevel_le4 o
    -- once the left part is accumulated in `acc`, the loop of `o`'s level reads `o r`: a shortcut
    -- `r` through its own component (4), any other `r` as one operand of the strict level
    have hTail : ∀ acc rest x r1 m, stopsAbove (o.plevel + 1) rest → okAfter (.binary o l r) rest →
        PLoop m o.plevel
          (if usesShortcut o l r then graftR o acc r else .binary o acc (regroup r)) rest x r1 →
        PLoop (B r + m + 41) o.plevel acc
          (.op o :: ((if rParen o l r then paren (printE r) else printE r) ++ rest)) x r1 := by
      intro acc rest x r1 m hs hok hloop
      have hokr : rParen o l r = false → okAfter r rest := fun hp hf =>
        hok (by simp [lastField, hp, hf])
      split at hloop
      · rename_i hsh
        obtain ⟨_, _, hrp, hscr⟩ := shortcut_shape hsh
        simp only [hrp, Bool.false_eq_true, if_false]
        exact (hmr.graft o hscr acc rest x r1 m hs (hokr hrp) hloop).mono (by omega)
      · rename_i hsh
        have hR := operand_read hmr (c := rParen o l r) (k := o.plevel + 1) (by omega)
          ((right_ok o l r).imp_right fun h => h.resolve_left hsh) hs hokr
        exact (ploop_step rfl hR hloop).mono (by omega)
    -- a bare left operand may be followed by `o`: only `<` turns a final member name into the
    -- start of type arguments, and `lParen .lt` parenthesises every `l` that ends in one
    have hokL : ∀ T, lParen o l = false → okAfter l (.op o :: T) := by
      intro T hp hf
      by_cases hlt : o = .lt
      · subst hlt; rw [lt_ok l hp] at hf; cases hf
      · cases o with
        | lt => exact absurd rfl hlt
        | _ => rfl
    have hso : ∀ T, stopsAbove (o.plevel + 1) (.op o :: T) := fun _ =>
      stopsAbove_op (Nat.lt_succ_self _)
    refine ⟨fun ho => by simp [Expr.operandOk] at ho,
      fun _ h5 => by simp [Expr.lvl] at h5; omega, fun _ _ rest x r1 m hs hok hloop => ?_,
      fun o2 hsc acc rest x r1 m hs hok hloop => ?_⟩
    -- (3): `l` is read at `o`'s level or tighter; on `o`'s own level its loop goes on with `o r`
    · simp only [Expr.lvl] at hs hloop ⊢
      rw [printE_binary, List.append_assoc, List.cons_append]
      rw [regroup_binary] at hloop
      have hL := hTail (regroup l) rest x r1 m hs hok hloop
      by_cases heq : lParen o l = false ∧ l.lvl = o.plevel
      · simp only [heq.1, Bool.false_eq_true, if_false]
        have h2 := (left_ok o l).resolve_left (by simp [heq.1])
        rw [← heq.2] at hL ⊢
        exact (hml.loop h2.1 (by omega) _ x r1 _ (heq.2 ▸ hso _) (hokL _ heq.1) hL).mono
          (by simp only [B]; omega)
      · refine (plevel_step (by omega) (operand_read hml (c := lParen o l) (by omega) ?_ (hso _)
          (hokL _)) hL).mono (by simp only [B]; omega)
        by_cases hp : lParen o l = true
        · exact .inl hp
        · have h2 := (left_ok o l).resolve_left hp
          exact .inr ⟨h2.1, by have : l.lvl ≠ o.plevel := fun e => heq ⟨by simpa using hp, e⟩; omega⟩
    -- (4): the node is itself a shortcut operand of a parent with the same operator: the parent's
    -- loop reads `l` strictly, steps to `.binary o acc (regroup l)` and goes on with `o r`
    · obtain ⟨hlt2, r1', r2', heq, hne1⟩ := shortcutOk_shape hsc
      cases heq
      rw [printE_binary, List.append_assoc, List.cons_append]
      rw [graftR_binary] at hloop
      have hL := hTail (.binary o acc (regroup l)) rest x r1 m hs hok hloop
      exact (ploop_step rfl (operand_read hml (c := lParen o l) (by omega)
        ((left_ok o l).imp_right fun h => ⟨h.1, h.2.2 hne1⟩) (hso _) (hokL _)) hL).mono
        (by simp only [B]; omega)
theorem mainArgs : (es : Args) → MainArgs es
  | .one e => by
    have hme := main e
    intro rest
    rw [rgArgs_one]
    simp only [printArgs]
    exact (pargs_one (main_top hme (stops_rp rest))).mono (by simp only [BArgs]; omega)
  | .cons e es => by
    have hme := main e
    have hms := mainArgs es
    intro rest
    rw [rgArgs_cons]
    simp only [printArgs, List.append_assoc, List.cons_append]
    exact (pargs_cons (main_top hme (stops_comma _)) (printArgs_notRp es (.rp :: rest))
      (hms rest)).mono (by simp only [BArgs]; omega)
theorem mainCases : (cs : Cases) → MainCases cs
  | .one k b => by
    have hmb := main b
    intro rest
    rw [rgCases_one]
    simp only [printCases, List.cons_append, List.append_assoc]
    exact (pcases_one k (main_top hmb (stops_comma _))).mono (by simp only [BCases]; omega)
  | .cons k b cs => by
    have hmb := main b
    have hms := mainCases cs
    intro rest
    rw [rgCases_cons]
    simp only [printCases, List.cons_append, List.append_assoc]
    exact (pcases_cons k (main_top hmb (stops_comma _)) (printCases_notRb cs (.rb :: rest))
      (hms rest)).mono (by simp only [BCases]; omega)
theorem mainBody : (b : Blk) → MainBody b
  | .fin ss e => by
    have hme := main e
    have hms := mainStmts ss
    intro rest
    rw [rgBlk_fin, show Blk.fin (rgStmts ss) (regroup e) = (rgStmts ss).push (.fin .nil (regroup e)) from
      (push_fin _ _).symm]
    simp only [printBody, List.append_assoc, List.singleton_append]
    have hbase := pstmts_fin (exprStart_print e _) (main_top hme (stops_rb rest))
    exact (hms _ _ _ _ hbase).mono (by simp only [BBlk]; omega)
  | .noFin ss => by
    have hms := mainStmts ss
    intro rest
    rw [rgBlk_noFin, show Blk.noFin (rgStmts ss) = (rgStmts ss).push (.noFin .nil) from (push_noFin _).symm]
    simp only [printBody, List.append_assoc, List.singleton_append]
    exact (hms _ _ _ _ (pstmts_rb rest)).mono (by simp only [BBlk]; omega)
theorem mainStmts : (ss : Stmts) → MainStmts ss
  | .nil => by
    intro T b r n h
    simpa [printStmts, rgStmts, Stmts.push, BStmts] using h
  | .letS k e rest => by
    have hme := main e
    have hms := mainStmts rest
    intro T b r n h
    rw [rgStmts_letS]
    simp only [printStmts, List.cons_append, List.append_assoc, Stmts.push]
    exact (pstmts_let k (main_top hme (stops_semi _)) (hms T b r n h)).mono
      (by simp only [BStmts]; omega)
  | .exprS e rest => by
    have hme := main e
    have hms := mainStmts rest
    intro T b r n h
    rw [rgStmts_exprS]
    simp only [printStmts, List.cons_append, List.append_assoc, Stmts.push]
    exact (pstmts_expr (exprStart_print e _) (main_top hme (stops_semi _)) (hms T b r n h)).mono
      (by simp only [BStmts]; omega)
end


/-! ### the budget of `parseE` suffices -/

theorem length_ite_paren (c : Bool) (ts : List Tok) :
    ts.length ≤ (if c then paren ts else ts).length := by
  cases c <;> simp [paren] <;> omega

theorem length_sub (p : Nat) (b : Bool) (e : Expr) (ts : List Tok) :
    ts.length ≤ (sub p b e ts).length :=
  length_ite_paren (needParen p b e) ts

mutual
theorem B_le : (e : Expr) → B e ≤ 160 * (printE e).length
  | .atom a => by simp [B, printE]
  | .tuple e es => by
    have := B_le e; have := BArgs_le es
    simp only [B, printE, List.length_cons, List.length_append, List.length_nil]; omega
  | .block b => by
    have := BBlk_le b
    simp only [B, printE, List.length_cons]; omega
  | .post e p fld => by
    have := B_le e; have := length_sub 1 false e (printE e)
    simp only [B, printE, List.length_append, List.length_cons, List.length_nil]; omega
  | .call0 f => by
    have := B_le f; have := length_sub 1 false f (printE f)
    simp only [B, printE, List.length_append, List.length_cons, List.length_nil]; omega
  | .call f args => by
    have := B_le f; have := BArgs_le args; have := length_sub 1 false f (printE f)
    simp only [B, printE, List.length_append, List.length_cons, List.length_nil]; omega
  | .unary u e => by
    have := B_le e; have := length_sub 2 true e (printE e)
    simp only [B, printE, List.length_cons]; omega
  | .binary o l r => by
    have := B_le l; have := B_le r
    rw [printE_binary]
    have h1 := length_ite_paren (lParen o l) (printE l)
    have h2 := length_ite_paren (rParen o l r) (printE r)
    simp only [B, List.length_append, List.length_cons]; omega
  | .ifElse c t e => by
    have := B_le c; have := BBlk_le t; have := BBlk_le e
    simp only [B, printE, List.length_cons, List.length_append]; omega
  | .matchE m cs => by
    have := B_le m; have := BCases_le cs
    simp only [B, printE, List.length_cons, List.length_append, List.length_nil]; omega
  | .lambda k b => by
    have := B_le b; have := length_sub 12 false b (printE b)
    simp only [B, printE, List.length_cons]; omega
theorem BArgs_le : (es : Args) → BArgs es ≤ 160 * (printArgs es).length + 40
  | .one e => by have := B_le e; simp only [BArgs, printArgs]; omega
  | .cons e rest => by
    have := B_le e; have := BArgs_le rest
    simp only [BArgs, printArgs, List.length_append, List.length_cons]; omega
theorem BCases_le : (cs : Cases) → BCases cs ≤ 160 * (printCases cs).length
  | .one k b => by
    have := B_le b
    simp only [BCases, printCases, List.length_cons, List.length_append, List.length_nil]; omega
  | .cons k b rest => by
    have := B_le b; have := BCases_le rest
    simp only [BCases, printCases, List.length_cons, List.length_append]; omega
theorem BBlk_le : (b : Blk) → BBlk b ≤ 160 * (printBody b).length
  | .fin ss e => by
    have := B_le e; have := BStmts_le ss
    simp only [BBlk, printBody, List.length_cons, List.length_append, List.length_nil]; omega
  | .noFin ss => by
    have := BStmts_le ss
    simp only [BBlk, printBody, List.length_cons, List.length_append, List.length_nil]; omega
theorem BStmts_le : (ss : Stmts) → BStmts ss ≤ 160 * (printStmts ss).length
  | .nil => by simp [BStmts]
  | .letS k e rest => by
    have := B_le e; have := BStmts_le rest
    simp only [BStmts, printStmts, List.length_cons, List.length_append]; omega
  | .exprS e rest => by
    have := B_le e; have := BStmts_le rest
    simp only [BStmts, printStmts, List.length_cons, List.length_append]; omega
end

theorem startsLt_append {T : List Tok} (hT : startsLt T = false) (ts : List Tok) :
    startsLt (ts ++ T) = startsLt ts := by
  cases ts with
  | nil => exact hT
  | cons t ts' =>
    cases t <;> try rfl
    rename_i o; cases o <;> rfl

theorem empty_none : ∀ f, parseTop f [] = none ∧ (∀ k, parseLevel f k [] = none) ∧
    parseUnary f [] = none ∧ parseBase f [] = none := by
  intro f
  induction f with
  | zero => simp [parseTop, parseLevel, parseUnary, parseBase]
  | succ f ih =>
    obtain ⟨h1, h2, h3, h4⟩ := ih
    refine ⟨?_, ?_, ?_, ?_⟩
    · rw [parseTop]; exact h2 0
      all_goals (intro _ he; cases he)
    · intro k
      rw [parseLevel]
      by_cases hk : k ≥ 6
      · simp [hk, h4]
      · by_cases h5 : k = 5
        · simp [h5, h3]
        · simp [hk, h5, h2]
    · rw [parseUnary]; exact h2 6
      all_goals (intro _ he; cases he)
    · simp [parseBase]

theorem parseArgs_nil (f : Nat) : parseArgs f [] = none := by
  cases f with
  | zero => simp [parseArgs]
  | succ f => unfold parseArgs; simp [(empty_none f).1]

theorem parseCases_nil (f : Nat) : parseCases f [] = none := by
  cases f <;> simp [parseCases]

/-- One frame property for all eight parser functions: `T = []` is monotonicity in the budget
(`parseTop_mono`), `T = [)]` one more closing parenthesis (`paren_top`). -/
structure Frame (T : List Tok) (f : Nat) : Prop where
  top : ∀ {ts e r}, parseTop f ts = some (e, r) → PTop f (ts ++ T) e (r ++ T)
  cases : ∀ {ts cs r}, parseCases f ts = some (cs, r) → PCases f (ts ++ T) cs (r ++ T)
  args : ∀ {ts es r}, parseArgs f ts = some (es, r) → PArgs f (ts ++ T) es (r ++ T)
  base : ∀ {ts e r}, parseBase f ts = some (e, r) → PBase f (ts ++ T) e (r ++ T)
  unary : ∀ {ts e r}, parseUnary f ts = some (e, r) → PUn f (ts ++ T) e (r ++ T)
  level : ∀ {k ts e r}, parseLevel f k ts = some (e, r) → PLevel f k (ts ++ T) e (r ++ T)
  loop : ∀ {k a ts e r}, parseLoop f k a ts = some (e, r) → PLoop f k a (ts ++ T) e (r ++ T)
  stmts : ∀ {ts b r}, parseStmts f ts = some (b, r) → PStmts f (ts ++ T) b (r ++ T)

theorem frame {T : List Tok} (hT : stopsAbove 0 T) (F : Nat) : Frame T F := by
  induction F using Nat.strongRecOn with
  | _ F ih =>
  have hlt : startsLt T = false := startsLt_of_stops0 hT
  refine ⟨?_, ?_, ?_, ?_, ?_, ?_, ?_, ?_⟩
  · intro ts e r
    fun_cases parseTop F ts
    -- `match` (case2), `if` (case5), any other token: level 0 (case9); the other cases fail
    case case2 f ts m r0 x1 cs r' x2 =>
      have IH := ih f (Nat.lt_succ_self f)
      intro h; cases h
      exact (ptop_match (IH.top x1) (IH.cases x2)).mono (by omega)
    case case5 f ts c r0 x1 t r2 x2 b r3 x3 =>
      have IH := ih f (Nat.lt_succ_self f)
      intro h; cases h
      exact (ptop_if (IH.top x1) (IH.stmts x2) (IH.stmts x3)).mono (by omega)
    case case9 f hm hi =>
      intro h
      have hne := ne_nil_of_some ((empty_none f).2.1 0) h
      exact ptop_level ((ih f (Nat.lt_succ_self f)).level h)
        fun r => ⟨head_ne_append hne hi T r, head_ne_append hne hm T r⟩
    all_goals nofun
  · intro ts cs r
    fun_cases parseCases F ts
    -- after `pat b`: `}` (case2), `, }` (case3), `,` and more cases (case4)
    case case2 f k ts b r0 x =>
      intro h; cases h
      exact pcases_last k ((ih f (Nat.lt_succ_self f)).top x)
    case case3 f k ts b r0 x =>
      intro h; cases h
      exact pcases_one k ((ih f (Nat.lt_succ_self f)).top x)
    case case4 f k ts b r0 hnr x cs' r' x2 =>
      have IH := ih f (Nat.lt_succ_self f)
      intro h; cases h
      exact (pcases_cons k (IH.top x) (head_ne_append (ne_nil_of_some (parseCases_nil f) x2) hnr T)
        (IH.cases x2)).mono (by omega)
    all_goals nofun
  · intro ts es r
    fun_cases parseArgs F ts
    -- after `e`: `)` (case2), `, )` (case3), `,` and more arguments (case4)
    case case2 f e r0 x =>
      intro h; cases h
      exact pargs_one ((ih f (Nat.lt_succ_self f)).top x)
    case case3 f e r0 x =>
      intro h; cases h
      exact pargs_one_comma ((ih f (Nat.lt_succ_self f)).top x)
    case case4 f e r0 hnr es' r' x2 x =>
      have IH := ih f (Nat.lt_succ_self f)
      intro h; cases h
      exact (pargs_cons (IH.top x) (head_ne_append (ne_nil_of_some (parseArgs_nil f) x2) hnr T)
        (IH.args x2)).mono (by omega)
    all_goals nofun
  · intro ts e r
    fun_cases parseBase F ts
    -- atom (case2), lambda (case3), block (case5), `( e )` (case7), `( e , )` (case8),
    -- tuple (case9)
    case case2 n a ts =>
      intro h; cases h
      exact (pbase_atom a _).mono (Nat.succ_le_succ (Nat.zero_le n))
    case case3 f k ts body r0 x =>
      intro h; cases h
      exact pbase_lam k ((ih f (Nat.lt_succ_self f)).top x)
    case case5 f ts b r0 x =>
      intro h; cases h
      exact pbase_block ((ih f (Nat.lt_succ_self f)).stmts x)
    case case7 f ts e' r0 x =>
      intro h; cases h
      exact pbase_paren ((ih f (Nat.lt_succ_self f)).top x)
    case case8 f ts e' r0 x =>
      intro h; cases h
      exact pbase_paren_comma ((ih f (Nat.lt_succ_self f)).top x)
    case case9 f ts e' r0 hnr x es r' x2 =>
      have IH := ih f (Nat.lt_succ_self f)
      intro h; cases h
      exact (pbase_tuple (IH.top x) (head_ne_append (ne_nil_of_some (parseArgs_nil f) x2) hnr T)
        (IH.args x2)).mono (by omega)
    all_goals nofun
  · intro ts e r
    fun_cases parseUnary F ts
    -- `!` (case2), `-` (case4), neither (case6)
    case case2 f ts body r0 x =>
      intro h; cases h
      exact pun_not ((ih f (Nat.lt_succ_self f)).level x)
    case case4 f ts body r0 x =>
      intro h; cases h
      exact pun_neg ((ih f (Nat.lt_succ_self f)).level x)
    case case6 f hb hm =>
      intro h
      have hne := ne_nil_of_some ((empty_none f).2.1 6) h
      exact pun_other ((ih f (Nat.lt_succ_self f)).level h)
        fun r => ⟨head_ne_append hne hb T r, head_ne_append hne hm T r⟩
    all_goals nofun
  · intro k ts e r
    fun_cases parseLevel F k ts
    -- `k ≥ 6`: base and postfix loop (case3), `k = 5`: unary (case4),
    -- `k < 5`: next level and loop (case6)
    case case3 f x r0 hk hx =>
      have IH := ih f (Nat.lt_succ_self f)
      intro h
      exact (plevel6 hk (IH.base hx) (IH.loop h)).mono (by omega)
    case case4 f _ =>
      intro h
      exact plevel5 ((ih f (Nat.lt_succ_self f)).unary h)
    case case6 f x r0 hk h5 hx =>
      have IH := ih f (Nat.lt_succ_self f)
      intro h
      exact (plevel_step (by omega) (IH.level hx) (IH.loop h)).mono (by omega)
    all_goals nofun
  · intro k a ts e r
    fun_cases parseLoop F k a ts
    -- operator of level `k`: step (case3), of another level: stop (case4); postfix item at `k = 6`:
    -- step (case6), else stop (case7); `(` at `k = 6`: `()` (case8), arguments (case9, failing:
    -- case10), else stop (case11); any other token or the end of `ts`, where `T` begins: stop
    -- (case12)
    case case3 f o ts x r0 hx =>
      have IH := ih f (Nat.lt_succ_self f)
      intro h
      exact (ploop_step rfl (IH.level hx) (IH.loop h)).mono (by omega)
    case case4 f o ts hne =>
      intro h; cases h
      exact (ploop_stop fun t rest he hb => by cases he; exact hne (Option.some.inj hb)).mono
        (Nat.succ_le_succ (Nat.zero_le f))
    case case6 f p fld ts hc =>
      intro h
      refine ploop_post (fun hf => ?_) ((ih f (Nat.lt_succ_self f)).loop h)
      show startsLt (ts ++ T) = false
      rw [startsLt_append hlt]; simpa [hf] using hc
    case case7 f p fld ts hk =>
      intro h; cases h
      exact (ploop_stop fun t rest he hb => by cases he; exact hk (Option.some.inj hb).symm).mono
        (Nat.succ_le_succ (Nat.zero_le f))
    case case8 f r0 =>
      intro h
      exact ploop_call0 ((ih f (Nat.lt_succ_self f)).loop h)
    case case9 f ts es r' x hnr =>
      have IH := ih f (Nat.lt_succ_self f)
      rw [x]; intro h
      exact (ploop_call (head_ne_append (ne_nil_of_some (parseArgs_nil f) x) hnr T) (IH.args x)
        (IH.loop h)).mono (by omega)
    case case10 x _ => rw [x]; nofun
    case case11 f ts hk =>
      intro h; cases h
      exact (ploop_stop fun t rest he hb => by cases he; exact hk (Option.some.inj hb).symm).mono
        (Nat.succ_le_succ (Nat.zero_le f))
    case case12 n h1 h2 h3 =>
      intro h; cases h
      refine (ploop_stop fun t rest he hb => ?_).mono (Nat.succ_le_succ (Nat.zero_le n))
      cases ts with
      | nil => exact absurd (hT t rest k he hb) (Nat.not_lt_zero k)
      | cons t' ts' =>
        cases he
        cases t with
        | op o => exact h1 _ _ rfl
        | post p fld => exact h2 _ _ _ rfl
        | lp => exact h3 _ rfl
        | _ => cases hb
    all_goals nofun
  · intro ts b r
    fun_cases parseStmts F ts
    -- `}` (case2), `;` (case3), `let` (case4), expression statement (case7), final expression (case9)
    case case2 n r0 =>
      intro h; cases h
      exact (pstmts_rb _).mono (Nat.succ_le_succ (Nat.zero_le n))
    case case3 f r0 =>
      intro h
      exact pstmts_semi ((ih f (Nat.lt_succ_self f)).stmts h)
    case case4 f k ts e r0 x b' r3 x2 =>
      have IH := ih f (Nat.lt_succ_self f)
      intro h; cases h
      exact (pstmts_let k (IH.top x) (IH.stmts x2)).mono (by omega)
    case case7 f e r0 b' r3 x2 h1 h2 h3 x =>
      have IH := ih f (Nat.lt_succ_self f)
      have hne := ne_nil_of_some (empty_none f).1 x
      intro h; cases h
      exact (pstmts_expr ⟨head_ne_append hne h1 T, head_ne_append hne h2 T,
        fun k => head_ne_append hne (h3 k) T⟩ (IH.top x) (IH.stmts x2)).mono (by omega)
    case case9 f e r0 h1 h2 h3 x =>
      have hne := ne_nil_of_some (empty_none f).1 x
      intro h; cases h
      exact pstmts_fin ⟨head_ne_append hne h1 T, head_ne_append hne h2 T,
        fun k => head_ne_append hne (h3 k) T⟩ ((ih f (Nat.lt_succ_self f)).top x)
    all_goals nofun

theorem parseTop_mono {f f' : Nat} {ts : List Tok} {r : Expr × List Tok}
    (h : parseTop f ts = some r) (hf : f ≤ f') : parseTop f' ts = some r := by
  simpa using (frame (stopsAbove_nil 0) f).top h f' hf

theorem paren_top {f : Nat} {ts : List Tok} {e : Expr} (h : parseTop f ts = some (e, [])) :
    PTop (f + 16) (paren ts) e [] := by
  have h1 : PTop f (ts ++ [.rp]) e [.rp] := (frame (stops_rp []) f).top h
  have h0 := plevel_of_base (pbase_paren h1) (fun _ => ⟨nofun, nofun⟩) (Nat.zero_le 6)
    (stopsAbove_nil 0)
  exact (ptop_level h0 fun _ => ⟨nofun, nofun⟩).mono (by omega)

theorem parseFuel_some {f : Nat} {ts : List Tok} {e : Expr} (h : parseFuel f ts = some e) :
    parseTop f ts = some (e, []) := by
  unfold parseFuel at h
  split at h
  · rename_i e' heq; cases h; exact heq
  · cases h

def MonoAt (f : Nat) : Prop :=
  (∀ ts r, parseTop f ts = some r → parseTop (f + 1) ts = some r) ∧
  (∀ ts r, parseCases f ts = some r → parseCases (f + 1) ts = some r) ∧
  (∀ ts r, parseArgs f ts = some r → parseArgs (f + 1) ts = some r) ∧
  (∀ ts r, parseBase f ts = some r → parseBase (f + 1) ts = some r) ∧
  (∀ ts r, parseUnary f ts = some r → parseUnary (f + 1) ts = some r) ∧
  (∀ k ts r, parseLevel f k ts = some r → parseLevel (f + 1) k ts = some r) ∧
  (∀ k e ts r, parseLoop f k e ts = some r → parseLoop (f + 1) k e ts = some r) ∧
  (∀ ts r, parseStmts f ts = some r → parseStmts (f + 1) ts = some r)

theorem mono_all : ∀ f, MonoAt f := fun f =>
  have F := frame (stopsAbove_nil 0) f
  have hf := Nat.le_succ f
  ⟨fun _ _ h => by simpa using F.top h _ hf, fun _ _ h => by simpa using F.cases h _ hf,
    fun _ _ h => by simpa using F.args h _ hf, fun _ _ h => by simpa using F.base h _ hf,
    fun _ _ h => by simpa using F.unary h _ hf, fun _ _ _ h => by simpa using F.level h _ hf,
    fun _ _ _ _ h => by simpa using F.loop h _ hf, fun _ _ h => by simpa using F.stmts h _ hf⟩

def ExtAt (f : Nat) : Prop :=
  (∀ ts e r, parseTop f ts = some (e, r) → parseTop f (ts ++ [.rp]) = some (e, r ++ [.rp])) ∧
  (∀ ts e r, parseCases f ts = some (e, r) → parseCases f (ts ++ [.rp]) = some (e, r ++ [.rp])) ∧
  (∀ ts e r, parseArgs f ts = some (e, r) → parseArgs f (ts ++ [.rp]) = some (e, r ++ [.rp])) ∧
  (∀ ts e r, parseBase f ts = some (e, r) → parseBase f (ts ++ [.rp]) = some (e, r ++ [.rp])) ∧
  (∀ ts e r, parseUnary f ts = some (e, r) → parseUnary f (ts ++ [.rp]) = some (e, r ++ [.rp])) ∧
  (∀ k ts e r, parseLevel f k ts = some (e, r) → parseLevel f k (ts ++ [.rp]) = some (e, r ++ [.rp])) ∧
  (∀ k a ts e r, parseLoop f k a ts = some (e, r) → parseLoop f k a (ts ++ [.rp]) = some (e, r ++ [.rp])) ∧
  (∀ ts e r, parseStmts f ts = some (e, r) → parseStmts f (ts ++ [.rp]) = some (e, r ++ [.rp]))

theorem ext_all : ∀ f, ExtAt f := fun f =>
  have F := frame (stops_rp []) f
  have hf := Nat.le_refl f
  ⟨fun _ _ _ h => F.top h f hf, fun _ _ _ h => F.cases h f hf, fun _ _ _ h => F.args h f hf,
    fun _ _ _ h => F.base h f hf, fun _ _ _ h => F.unary h f hf, fun _ _ _ _ h => F.level h f hf,
    fun _ _ _ _ _ h => F.loop h f hf, fun _ _ _ h => F.stmts h f hf⟩

/-! ### The tuple size check does not see regrouping -/

theorem len_rgArgs : (es : Args) → (rgArgs es).len = es.len
  | .one e => by simp [rgArgs, Args.len]
  | .cons e rest => by simp [rgArgs, Args.len, len_rgArgs rest]

mutual
/-- the size check in the two-component shape of `eval_rg`: `regroup` keeps it, and a grafted
right operand is checked like `acc o e`. -/
theorem sizeOk_rg : (e : Expr) → sizeOk (regroup e) = sizeOk e ∧
    ∀ o acc, shortcutOk o e = true → sizeOk (graftR o acc e) = (sizeOk acc && sizeOk e)
  | .atom a => ⟨by rw [regroup_atom], fun o acc h => by simp [shortcutOk] at h⟩
  | .tuple e es => by
    refine ⟨?_, fun o acc h => by simp [shortcutOk] at h⟩
    rw [regroup_tuple]; simp only [sizeOk]; rw [(sizeOk_rg e).1, sizeOkArgs_rg es, len_rgArgs]
  | .block b => by
    refine ⟨?_, fun o acc h => by simp [shortcutOk] at h⟩
    rw [regroup_block]; simp only [sizeOk]; rw [sizeOkBlk_rg b]
  | .post e p f => by
    refine ⟨?_, fun o acc h => by simp [shortcutOk] at h⟩
    rw [regroup_post]; simp only [sizeOk]; rw [(sizeOk_rg e).1]
  | .call0 f => by
    refine ⟨?_, fun o acc h => by simp [shortcutOk] at h⟩
    rw [regroup_call0]; simp only [sizeOk]; rw [(sizeOk_rg f).1]
  | .call f args => by
    refine ⟨?_, fun o acc h => by simp [shortcutOk] at h⟩
    rw [regroup_call]; simp only [sizeOk]; rw [(sizeOk_rg f).1, sizeOkArgs_rg args]
  | .unary u e => by
    refine ⟨?_, fun o acc h => by simp [shortcutOk] at h⟩
    rw [regroup_unary]; simp only [sizeOk]; rw [(sizeOk_rg e).1]
  | .ifElse c t e => by
    refine ⟨?_, fun o acc h => by simp [shortcutOk] at h⟩
    rw [regroup_ifElse]; simp only [sizeOk]; rw [(sizeOk_rg c).1, sizeOkBlk_rg t, sizeOkBlk_rg e]
  | .matchE m cs => by
    refine ⟨?_, fun o acc h => by simp [shortcutOk] at h⟩
    rw [regroup_matchE]; simp only [sizeOk]; rw [(sizeOk_rg m).1, sizeOkCases_rg cs]
  | .lambda k b => by
    refine ⟨?_, fun o acc h => by simp [shortcutOk] at h⟩
    rw [regroup_lambda]; simp only [sizeOk]; rw [(sizeOk_rg b).1]
  | .binary o l r => by
    have ihl := (sizeOk_rg l).1
    have ihr := sizeOk_rg r
    -- whatever is accumulated on the left, `o r` adds the check of `r`
    have hTail : ∀ acc, sizeOk (if usesShortcut o l r then graftR o acc r
        else .binary o acc (regroup r)) = (sizeOk acc && sizeOk r) := by
      intro acc
      split
      · exact ihr.2 o acc (shortcut_shape ‹_›).2.2.2
      · simp only [sizeOk]; rw [ihr.1]
    constructor
    · rw [regroup_binary, hTail, ihl]; simp only [sizeOk]
    · intro o2 acc hsc
      obtain ⟨_, r1, r2, heq, _⟩ := shortcutOk_shape hsc
      cases heq
      rw [graftR_binary, hTail]; simp only [sizeOk]
      rw [ihl, Bool.and_assoc]
theorem sizeOkArgs_rg : (es : Args) → sizeOkArgs (rgArgs es) = sizeOkArgs es
  | .one e => by rw [rgArgs_one]; simp only [sizeOkArgs]; rw [(sizeOk_rg e).1]
  | .cons e rest => by
    rw [rgArgs_cons]; simp only [sizeOkArgs]; rw [(sizeOk_rg e).1, sizeOkArgs_rg rest]
theorem sizeOkCases_rg : (cs : Cases) → sizeOkCases (rgCases cs) = sizeOkCases cs
  | .one k b => by rw [rgCases_one]; simp only [sizeOkCases]; rw [(sizeOk_rg b).1]
  | .cons k b rest => by
    rw [rgCases_cons]; simp only [sizeOkCases]; rw [(sizeOk_rg b).1, sizeOkCases_rg rest]
theorem sizeOkBlk_rg : (b : Blk) → sizeOkBlk (rgBlk b) = sizeOkBlk b
  | .fin ss e => by
    rw [rgBlk_fin]; simp only [sizeOkBlk]; rw [(sizeOk_rg e).1, sizeOkStmts_rg ss]
  | .noFin ss => by rw [rgBlk_noFin]; simp only [sizeOkBlk]; rw [sizeOkStmts_rg ss]
theorem sizeOkStmts_rg : (ss : Stmts) → sizeOkStmts (rgStmts ss) = sizeOkStmts ss
  | .nil => by simp [rgStmts]
  | .letS k e rest => by
    rw [rgStmts_letS]; simp only [sizeOkStmts]; rw [(sizeOk_rg e).1, sizeOkStmts_rg rest]
  | .exprS e rest => by
    rw [rgStmts_exprS]; simp only [sizeOkStmts]; rw [(sizeOk_rg e).1, sizeOkStmts_rg rest]
end

theorem sizeOk_regroup (e : Expr) : sizeOk (regroup e) = sizeOk e := (sizeOk_rg e).1

end SamVerif.FmtFull
