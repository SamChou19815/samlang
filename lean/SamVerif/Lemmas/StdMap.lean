import SamVerif.Model.StdMap
/-! Lemmas about `Model/StdMap.lean`, stated over `Lawful` (the compare realises a linear order), `Bal`
and `Ordered` (the enumeration `abs` ascends): the observers that other lemmas rest on, as list
functions of `abs` (`entriesHelper_eq`, `keysHelper_eq`, `isEmpty_iff`, `map_mapValues_refines`); what
`Bal` says of heights; the two node builders (`mkNode_spec`, `create_spec`); `balanced` repairs an
imbalance of at most 3 (`balanced_spec'`), on height arithmetic kept apart from the trees and shared
with `Lemmas/StdSet.lean`; then list facts about ascending enumerations. -/
namespace SamVerif.StdMap
set_option linter.unusedSectionVars false
variable {K V : Type} [DecidableEq K] [DecidableEq V] [LE K] [LT K] [Std.IsLinearOrder K] [Std.LawfulOrderLT K] [DecidableLT K]

/-- `cmp` (the key's `compare` method) realises the linear order `<` of the key type: negative
exactly on `<`, zero exactly on equal keys, positive exactly on `>`.  `Lawful.ofCmp`
(Props/C18.lean) shows that *every* compare that is zero only on equal keys, antisymmetric and
transitive is of this form. -/
structure Lawful (cmp : K → K → Int) : Prop where
  lt : ∀ a b, cmp a b < 0 ↔ a < b
  eq : ∀ a b, cmp a b = 0 ↔ a = b
  gt : ∀ a b, cmp a b > 0 ↔ b < a

def Ordered (t : Tree K V) : Prop :=
  (abs t).Pairwise (fun a b => a.1 < b.1)

theorem entriesHelper_eq (t : Tree K V) (acc : List (K × V)) : entriesHelper t acc = abs t ++ acc := by
  induction t generalizing acc with
  | empty => rfl
  | leaf k v => rfl
  | node h k v l r ihl ihr => simp [entriesHelper, abs, ihl, ihr]

theorem keysHelper_eq (t : Tree K V) (acc : List K) : keysHelper t acc = (abs t).map Prod.fst ++ acc := by
  induction t generalizing acc with
  | empty => rfl
  | leaf k v => rfl
  | node h k v l r ihl ihr => simp [keysHelper, abs, ihl, ihr]

theorem isEmpty_iff (t : Tree K V) : isEmpty t = true ↔ abs t = [] := by
  cases t <;> simp [isEmpty, abs]

theorem map_mapValues_refines (f : K → V → V) (t : Tree K V) :
    abs (mapValues f t) = (abs t).map (fun kv => (kv.1, f kv.1 kv.2)) := by
  induction t with
  | empty => rfl
  | leaf k v => rfl
  | node h k v l r ihl ihr => simp [mapValues, abs, ihl, ihr]

theorem abs_ne_nil_of_not_isEmpty (t : Tree K V) (h : isEmpty t = false) : abs t ≠ [] := by
  cases t <;> simp_all [isEmpty, abs]

@[simp] theorem height_empty : height (Tree.empty : Tree K V) = 0 := rfl
@[simp] theorem height_leaf (k : K) (v : V) : height (Tree.leaf k v) = 1 := rfl
@[simp] theorem height_node (h : Int) (k : K) (v : V) (l r : Tree K V) : height (Tree.node h k v l r) = h := rfl

theorem ite_ge_eq_max (a b : Int) : (if a ≥ b then a else b) = Max.max a b := by
  split <;> omega

theorem ite_succ_max (a b : Int) : (if a ≥ b then a + 1 else b + 1) = Max.max a b + 1 := by
  split <;> omega

theorem bal_node_iff {h : Int} {k : K} {v : V} {l r : Tree K V} :
    Bal (.node h k v l r) ↔ Bal l ∧ Bal r ∧ h = Max.max (height l) (height r) + 1 ∧
      height l ≤ height r + 2 ∧ height r ≤ height l + 2 ∧ h ≥ 2 := by
  simp only [Bal, ite_succ_max]

theorem bal_node_ge {h : Int} {k : K} {v : V} {l r : Tree K V} (hb : Bal (.node h k v l r)) : 2 ≤ h :=
  (bal_node_iff.1 hb).2.2.2.2.2

theorem height_nonneg (t : Tree K V) (hb : Bal t) : 0 ≤ height t := by
  cases t with
  | empty => exact Int.le_refl 0
  | leaf k v => exact Int.zero_le_ofNat 1
  | node n k v l r => have := bal_node_ge hb; simp only [height_node]; omega

theorem height_zero (t : Tree K V) (hb : Bal t) (h0 : height t = 0) : t = .empty := by
  cases t with
  | empty => rfl
  | leaf k v => simp at h0
  | node n k v l r => have := bal_node_ge hb; simp only [height_node] at h0; omega

theorem height_one (t : Tree K V) (h : Bal t) (h0 : height t = 1) : ∃ k v, t = .leaf k v := by
  cases t with
  | empty => simp at h0
  | leaf k v => exact ⟨k, v, rfl⟩
  | node n k v l r => have := bal_node_ge h; simp only [height_node] at h0; omega

theorem bal_node {h : Int} {k : K} {v : V} {l r : Tree K V} (hb : Bal (.node h k v l r)) :
    Bal l ∧ Bal r ∧ h = Max.max (height l) (height r) + 1 ∧ height l ≤ height r + 2 ∧
      height r ≤ height l + 2 ∧ 0 ≤ height l ∧ 0 ≤ height r := by
  obtain ⟨bl, br, hh, d1, d2, _⟩ := bal_node_iff.1 hb
  exact ⟨bl, br, hh, d1, d2, height_nonneg l bl, height_nonneg r br⟩

theorem mkNode_spec (l r : Tree K V) (k : K) (v : V) (hl : Bal l) (hr : Bal r)
    (h1 : height l ≤ height r + 2) (h2 : height r ≤ height l + 2) (hne : 1 ≤ height l ∨ 1 ≤ height r) :
    Bal (mkNode l k v r) ∧ abs (mkNode l k v r) = abs l ++ (k, v) :: abs r ∧
      height (mkNode l k v r) = Max.max (height l) (height r) + 1 :=
  have e := ite_succ_max (height l) (height r)
  ⟨bal_node_iff.2 ⟨hl, hr, e, h1, h2, by rw [e]; omega⟩, rfl, e⟩

theorem create_spec (l r : Tree K V) (k : K) (v : V) (hl : Bal l) (hr : Bal r)
    (h1 : height l ≤ height r + 2) (h2 : height r ≤ height l + 2) :
    Bal (create l k v r) ∧ abs (create l k v r) = abs l ++ (k, v) :: abs r ∧
      height (create l k v r) = Max.max (height l) (height r) + 1 := by
  have nl := height_nonneg l hl
  have nr := height_nonneg r hr
  by_cases h0 : Max.max (height l) (height r) = 0
  · obtain rfl := height_zero l hl (by omega)
    obtain rfl := height_zero r hr (by omega)
    exact ⟨trivial, rfl, rfl⟩
  · have e : create l k v r = mkNode l k v r := by
      simp only [create, mkNode, ite_succ_max]; rw [if_neg]; omega
    rw [e]; exact mkNode_spec l r k v hl hr h1 h2 (by omega)

/-! ### AVL height arithmetic

The variables are heights.  A tall child of stored height `n = max o i + 1` (outer and inner
grandchild) stands over a sibling of height `s` with `n = s + 3`.  Each lemma hands out, in the order
in which a rotation is assembled, the side conditions of `create` / `mkNode` and finally the bounds
on the height `t` of the new root.  In `rot_double` the inner grandchild is itself a `Node`, over
children of heights `p` and `q` (`hi`, `e`, `e'`).  `x` (and `y`) are the heights of the nodes that
`create` builds under the new root: in `rot_single` `x` stands over the inner grandchild and the
sibling, in `rot_double` `x` over `o` and `p`, `y` over `q` and `s`. -/

theorem rot_single {o i s n : Int} (hn : n = Max.max o i + 1) (d : i ≤ o) (d' : o ≤ i + 2)
    (c : s + 2 < n) (h : n ≤ s + 3) (ni : 0 ≤ i) :
    (i ≤ s + 2 ∧ s ≤ i + 2) ∧ ∀ x, x = Max.max i s + 1 →
      (o ≤ x + 2 ∧ x ≤ o + 2 ∧ 1 ≤ x) ∧ ∀ t, t = Max.max o x + 1 → n ≤ t ∧ t ≤ n + 1 := by
  obtain ⟨rfl, rfl⟩ : o = s + 2 ∧ n = s + 3 := by omega
  clear hn c h
  refine ⟨by omega, fun x hx => ?_⟩
  obtain rfl : x = i + 1 := by omega
  exact ⟨by omega, fun t ht => by omega⟩

theorem rot_double {o i s n p q : Int} (hn : n = Max.max o i + 1) (d : o < i) (d' : i ≤ o + 2)
    (c : s + 2 < n) (h : n ≤ s + 3) (hi : i = Max.max p q + 1) (e : p ≤ q + 2) (e' : q ≤ p + 2)
    (no : 0 ≤ o) :
    (o ≤ p + 2 ∧ p ≤ o + 2) ∧ (q ≤ s + 2 ∧ s ≤ q + 2) ∧ ∀ x y, x = Max.max o p + 1 → y = Max.max q s + 1 →
      (x ≤ y + 2 ∧ y ≤ x + 2 ∧ 1 ≤ x) ∧ ∀ t, t = Max.max x y + 1 → n ≤ t ∧ t ≤ n + 1 := by
  obtain ⟨rfl, rfl⟩ : i = s + 2 ∧ n = s + 3 := by omega
  have bpq : p ≤ s + 1 ∧ q ≤ s + 1 ∧ (p = s + 1 ∨ q = s + 1) := by omega
  clear hn hi c h
  refine ⟨by omega, by omega, fun x y hx hy => ?_⟩
  have bx : s + 1 ≤ x ∧ o + 1 ≤ x ∧ x ≤ s + 2 ∧ (p = s + 1 → x = s + 2) := by omega
  have by' : s + 1 ≤ y ∧ y ≤ s + 2 ∧ (q = s + 1 → y = s + 2) := by omega
  clear hx hy
  exact ⟨by omega, fun t ht => by omega⟩

/-- A child of height `a` under a node of height `h` (sibling height `r`) is replaced by one of height
`x` within one of `a`, and `balanced` answers with height `t` (`b1`–`b3` are its guarantees): the node
keeps its height or follows the child by one. -/
theorem rebalance_arith {h a x r t : Int} (hh : h = Max.max a r + 1) (d1 : a ≤ r + 2) (d2 : r ≤ a + 2)
    (g1 : a - 1 ≤ x) (g2 : x ≤ a + 1) (b1 : t ≤ Max.max x r + 1) (b2 : Max.max x r ≤ t)
    (b3 : x ≤ r + 2 → r ≤ x + 2 → t = Max.max x r + 1) :
    (a ≤ x → h ≤ t ∧ t ≤ h + 1) ∧ (x ≤ a → h - 1 ≤ t ∧ t ≤ h) := by
  omega

/-- The left-heavy half takes its arithmetic from `rot_single` (outer grandchild at least as high as
the inner one) or `rot_double`; the right-heavy half is its mirror image and uses the same two lemmas
with left and right exchanged (`Int.max_comm`). -/
theorem balanced_spec' (l r : Tree K V) (k : K) (v : V) (hl : Bal l) (hr : Bal r)
    (h1 : height l ≤ height r + 3) (h2 : height r ≤ height l + 3) :
    ∃ t, balanced l k v r = some t ∧ Bal t ∧ abs t = abs l ++ (k, v) :: abs r ∧
      height t ≤ Max.max (height l) (height r) + 1 ∧ Max.max (height l) (height r) ≤ height t ∧
      (height l ≤ height r + 2 → height r ≤ height l + 2 →
        height t = Max.max (height l) (height r) + 1) := by
  by_cases c1 : height l > height r + 2
  · cases l with
    | empty => have := height_nonneg r hr; simp only [height_empty] at c1; omega
    | leaf a b => have := height_nonneg r hr; simp only [height_leaf] at c1; omega
    | node lh lk lv ll lr =>
      obtain ⟨bll, blr, hh, d1, d2, nll, nlr⟩ := bal_node hl
      simp only [height_node] at c1 h1 ⊢
      by_cases c2 : height ll ≥ height lr
      · obtain ⟨s1, f⟩ := rot_single hh c2 d1 c1 h1 nlr
        obtain ⟨b1, a1, e1⟩ := create_spec lr r k v blr hr s1.1 s1.2
        obtain ⟨s2, g⟩ := f _ e1
        obtain ⟨b2, a2, e2⟩ := mkNode_spec ll _ lk lv bll b1 s2.1 s2.2.1 (Or.inr s2.2.2)
        have := g _ e2
        exact ⟨_, by simp only [balanced, height_node, c1, c2, if_true], b2,
          by simp [a2, a1, abs], by omega⟩
      · cases lr with
        | empty => simp only [height_empty] at c2; omega
        | leaf a b => have := height_nonneg r hr; simp only [height_leaf] at c2 hh; omega
        | node lrh lrk lrv lrl lrr =>
          obtain ⟨blrl, blrr, hh2, d3, d4, _, _⟩ := bal_node blr
          simp only [height_node] at c2 hh d2
          obtain ⟨s1, s2, f⟩ := rot_double hh (Int.not_le.1 c2) d2 c1 h1 hh2 d3 d4 nll
          obtain ⟨b1, a1, e1⟩ := create_spec ll lrl lk lv bll blrl s1.1 s1.2
          obtain ⟨b3, a3, e3⟩ := create_spec lrr r k v blrr hr s2.1 s2.2
          obtain ⟨s3, g⟩ := f _ _ e1 e3
          obtain ⟨b2, a2, e2⟩ := mkNode_spec _ _ lrk lrv b1 b3 s3.1 s3.2.1 (Or.inl s3.2.2)
          have := g _ e2
          exact ⟨_, by simp only [balanced, height_node, c1, c2, if_true, if_false], b2,
            by simp [a2, a1, a3, abs], by omega⟩
  · by_cases c3 : height r > height l + 2
    · cases r with
      | empty => have := height_nonneg l hl; simp only [height_empty] at c3; omega
      | leaf a b => have := height_nonneg l hl; simp only [height_leaf] at c3; omega
      | node rh rk rv rl rr =>
        obtain ⟨brl, brr, hh, d1, d2, nrl, nrr⟩ := bal_node hr
        simp only [height_node] at c1 c3 h2 ⊢
        rw [Int.max_comm] at hh
        by_cases c2 : height rr ≥ height rl
        · obtain ⟨s1, f⟩ := rot_single hh c2 d2 c3 h2 nrl
          obtain ⟨b1, a1, e1⟩ := create_spec l rl k v hl brl s1.2 s1.1
          obtain ⟨s2, g⟩ := f _ (Int.max_comm _ _ ▸ e1)
          obtain ⟨b2, a2, e2⟩ := mkNode_spec _ rr rk rv b1 brr s2.2.1 s2.1 (Or.inl s2.2.2)
          have := g _ (Int.max_comm _ _ ▸ e2)
          exact ⟨_, by simp only [balanced, height_node, c1, c3, c2, if_true, if_false], b2,
            by simp [a2, a1, abs], by omega⟩
        · cases rl with
          | empty => simp only [height_empty] at c2; omega
          | leaf a b => have := height_nonneg l hl; simp only [height_leaf] at c2 hh; omega
          | node rlh rlk rlv rll rlr =>
            obtain ⟨brll, brlr, hh2, d3, d4, _, _⟩ := bal_node brl
            simp only [height_node] at c2 hh d1
            rw [Int.max_comm] at hh2
            obtain ⟨s1, s2, f⟩ := rot_double hh (Int.not_le.1 c2) d1 c3 h2 hh2 d4 d3 nrr
            obtain ⟨b1, a1, e1⟩ := create_spec l rll k v hl brll s2.2 s2.1
            obtain ⟨b3, a3, e3⟩ := create_spec rlr rr rk rv brlr brr s1.2 s1.1
            obtain ⟨s3, g⟩ := f _ _ (Int.max_comm _ _ ▸ e3) (Int.max_comm _ _ ▸ e1)
            obtain ⟨b2, a2, e2⟩ := mkNode_spec _ _ rlk rlv b1 b3 s3.2.1 s3.1 (Or.inr s3.2.2)
            have := g _ (Int.max_comm _ _ ▸ e2)
            exact ⟨_, by simp only [balanced, height_node, c1, c3, c2, if_true, if_false], b2,
              by simp [a2, a1, a3, abs], by omega⟩
    · obtain ⟨b1, a1, e1⟩ := create_spec l r k v hl hr (by omega) (by omega)
      exact ⟨_, by simp only [balanced, c1, c3, if_false], b1, a1, by omega⟩

theorem balanced_spec (l r : Tree K V) (k : K) (v : V) (hl : Bal l) (hr : Bal r)
    (h1 : height l ≤ height r + 3) (h2 : height r ≤ height l + 3) :
    ∃ t, balanced l k v r = some t ∧ Bal t ∧ abs t = abs l ++ (k, v) :: abs r ∧
      height t ≤ (if height l ≥ height r then height l else height r) + 1 ∧
      (if height l ≥ height r then height l else height r) ≤ height t ∧
      ((height l ≤ height r + 2 ∧ height r ≤ height l + 2) →
        height t = (if height l ≥ height r then height l else height r) + 1) := by
  obtain ⟨t, e, b, a, g1, g2, g3⟩ := balanced_spec' l r k v hl hr h1 h2
  rw [ite_ge_eq_max]
  exact ⟨t, e, b, a, g1, g2, fun x => g3 x.1 x.2⟩

/-- `balanced` after the left child, of height `a` under a balanced node of height `h`, has been
replaced by `l` whose height is within one of `a`. -/
theorem balanced_left {h a : Int} (l r : Tree K V) (k : K) (v : V) (hl : Bal l) (hr : Bal r)
    (hh : h = Max.max a (height r) + 1) (d1 : a ≤ height r + 2) (d2 : height r ≤ a + 2)
    (g1 : a - 1 ≤ height l) (g2 : height l ≤ a + 1) :
    ∃ t, balanced l k v r = some t ∧ Bal t ∧ abs t = abs l ++ (k, v) :: abs r ∧
      (a ≤ height l → h ≤ height t ∧ height t ≤ h + 1) ∧
      (height l ≤ a → h - 1 ≤ height t ∧ height t ≤ h) := by
  obtain ⟨t, e, b, ab, b1, b2, b3⟩ := balanced_spec' l r k v hl hr (by omega) (by omega)
  exact ⟨t, e, b, ab, rebalance_arith hh d1 d2 g1 g2 b1 b2 b3⟩

theorem balanced_right {h a : Int} (l r : Tree K V) (k : K) (v : V) (hl : Bal l) (hr : Bal r)
    (hh : h = Max.max (height l) a + 1) (d1 : height l ≤ a + 2) (d2 : a ≤ height l + 2)
    (g1 : a - 1 ≤ height r) (g2 : height r ≤ a + 1) :
    ∃ t, balanced l k v r = some t ∧ Bal t ∧ abs t = abs l ++ (k, v) :: abs r ∧
      (a ≤ height r → h ≤ height t ∧ height t ≤ h + 1) ∧
      (height r ≤ a → h - 1 ≤ height t ∧ height t ≤ h) := by
  obtain ⟨t, e, b, ab, b1, b2, b3⟩ := balanced_spec' l r k v hl hr (by omega) (by omega)
  rw [Int.max_comm] at hh b1 b2 b3
  exact ⟨t, e, b, ab, rebalance_arith hh d2 d1 g1 g2 b1 b2 (fun x y => b3 y x)⟩

theorem ordered_node {h : Int} {k : K} {v : V} {l r : Tree K V}
    (ho : Ordered (.node h k v l r)) :
    Ordered l ∧ Ordered r ∧ (∀ p ∈ abs l, p.1 < k) ∧ (∀ p ∈ abs r, k < p.1) := by
  simp only [Ordered, abs, List.pairwise_append, List.pairwise_cons] at ho
  obtain ⟨h1, ⟨h2, h3⟩, h4⟩ := ho
  exact ⟨h1, h3, fun p hp => h4 p hp (k, v) (by simp), h2⟩

theorem ordered_of_parts {α : Type} {f : α → K} {x : α} {a b : List α}
    (ha : a.Pairwise (fun p q => f p < f q)) (hb : b.Pairwise (fun p q => f p < f q))
    (h1 : ∀ p ∈ a, f p < f x) (h2 : ∀ p ∈ b, f x < f p) :
    (a ++ x :: b).Pairwise (fun p q => f p < f q) := by
  simp only [List.pairwise_append, List.pairwise_cons]
  refine ⟨ha, ⟨h2, hb⟩, fun p hp q hq => ?_⟩
  rcases List.mem_cons.1 hq with e | e
  · subst e; exact h1 p hp
  · exact Std.lt_trans (h1 p hp) (h2 q e)

theorem pairwise_drop_mid {α : Type} {R : α → α → Prop} {a b : List α} {x : α}
    (h : (a ++ x :: b).Pairwise R) : (a ++ b).Pairwise R :=
  h.sublist (List.Sublist.append (List.Sublist.refl a) (List.sublist_cons_self x b))

theorem pairwise_outer {α : Type} {R : α → α → Prop} {a m b : List α}
    (h : (a ++ m ++ b).Pairwise R) : a.Pairwise R ∧ b.Pairwise R :=
  ⟨(List.pairwise_append.1 (List.pairwise_append.1 h).1).1, (List.pairwise_append.1 h).2.1⟩

theorem mem_below {α : Type} {f : α → K} {l r : List α} {m x : α} (hr : ∀ p ∈ r, f m < f p)
    (h : f x < f m) : x ∈ l ++ m :: r ↔ x ∈ l := by
  simp only [List.mem_append, List.mem_cons]
  constructor
  · rintro (h' | rfl | h')
    · exact h'
    · exact (Std.lt_irrefl h).elim
    · exact (Std.lt_irrefl (Std.lt_trans h (hr x h'))).elim
  · exact Or.inl

theorem mem_above {α : Type} {f : α → K} {l r : List α} {m x : α} (hl : ∀ p ∈ l, f p < f m)
    (h : f m < f x) : x ∈ l ++ m :: r ↔ x ∈ r := by
  simp only [List.mem_append, List.mem_cons]
  constructor
  · rintro (h' | rfl | h')
    · exact (Std.lt_irrefl (Std.lt_trans (hl x h') h)).elim
    · exact (Std.lt_irrefl h).elim
    · exact h'
  · exact fun h' => Or.inr (Or.inr h')

/-- A list `a ++ x :: b` whose left part `a` is replaced by `a'`: if the members of `a'` are those of
`a` that satisfy `P` (what is kept) together with those satisfying `Q` (what is new), and `x` and all
of `b` satisfy `P`, the same holds of the whole list.  `mem_replace_right` replaces `b`. -/
theorem mem_replace_left {α : Type} {a a' b : List α} {x : α} {P Q : α → Prop}
    (m : ∀ p, p ∈ a' ↔ (p ∈ a ∧ P p) ∨ Q p) (hx : P x) (hb : ∀ p ∈ b, P p) (p : α) :
    p ∈ a' ++ x :: b ↔ (p ∈ a ++ x :: b ∧ P p) ∨ Q p := by
  simp only [List.mem_append, List.mem_cons, m]
  constructor
  · rintro ((⟨h, hp⟩ | h) | rfl | h)
    · exact Or.inl ⟨Or.inl h, hp⟩
    · exact Or.inr h
    · exact Or.inl ⟨Or.inr (Or.inl rfl), hx⟩
    · exact Or.inl ⟨Or.inr (Or.inr h), hb p h⟩
  · rintro (⟨h | h | h, hp⟩ | h)
    · exact Or.inl (Or.inl ⟨h, hp⟩)
    · exact Or.inr (Or.inl h)
    · exact Or.inr (Or.inr h)
    · exact Or.inl (Or.inr h)

theorem mem_replace_right {α : Type} {a b b' : List α} {x : α} {P Q : α → Prop}
    (m : ∀ p, p ∈ b' ↔ (p ∈ b ∧ P p) ∨ Q p) (hx : P x) (ha : ∀ p ∈ a, P p) (p : α) :
    p ∈ a ++ x :: b' ↔ (p ∈ a ++ x :: b ∧ P p) ∨ Q p := by
  simp only [List.mem_append, List.mem_cons, m]
  constructor
  · rintro (h | rfl | ⟨h, hp⟩ | h)
    · exact Or.inl ⟨Or.inl h, ha p h⟩
    · exact Or.inl ⟨Or.inr (Or.inl rfl), hx⟩
    · exact Or.inl ⟨Or.inr (Or.inr h), hp⟩
    · exact Or.inr h
  · rintro (⟨h | h | h, hp⟩ | h)
    · exact Or.inl h
    · exact Or.inr (Or.inl h)
    · exact Or.inr (Or.inr (Or.inl ⟨h, hp⟩))
    · exact Or.inr (Or.inr (Or.inr h))

end SamVerif.StdMap
