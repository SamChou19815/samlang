import SamVerif.Model.Imports
/-! What `insertImp` and its fold `organize` do to the module paths, to what is recorded for one
module (`fieldAt`) and to the comments (`flatComments`); the insertion sort permutes. -/
namespace SamVerif.Imports
open SamVerif.Doc
open SamVerif.CommentQueue (Comment Kind)

/-- What is recorded under `f` (the comment lists, the members) for module `p`. -/
def fieldAt {β : Type} (f : Group → List β) (p : Str) (gs : List Group) : List β :=
  match gs.find? (fun g => g.path = p) with
  | some g => f g
  | none => []

theorem fieldAt_cons {β : Type} (f : Group → List β) (p : Str) (g : Group) (gs : List Group) :
    fieldAt f p (g :: gs) = if g.path = p then f g else fieldAt f p gs := by
  by_cases h : g.path = p <;> simp [fieldAt, h]

section
variable {β : Type} {f : Group → List β} {fi : Import → List β}
  (hf : ∀ g imp, f ⟨g.path, g.comments ++ [imp.comments], g.members ++ imp.members⟩ = f g ++ fi imp)
  (hnew : ∀ imp, f ⟨imp.path, [imp.comments], imp.members⟩ = fi imp)
include hf hnew

/-- `hf`, `hnew`: `f` reads a merged resp. new group as `insertImp` builds it. -/
theorem fieldAt_insertImp (p : Str) (gs : List Group) (imp : Import) :
    fieldAt f p (insertImp gs imp) = fieldAt f p gs ++ (if imp.path = p then fi imp else []) := by
  fun_induction insertImp gs imp with
  | case1 imp => rw [fieldAt_cons, hnew]; rfl
  | case2 g rest imp hg =>  -- the line is merged into `g`
    rw [fieldAt_cons, fieldAt_cons, ← hg]
    split
    · exact hf g imp
    · exact (List.append_nil _).symm
  | case3 g rest imp hg ih =>  -- `g` is another module's
    rw [fieldAt_cons, fieldAt_cons, ih]
    split
    · rename_i hp
      rw [if_neg fun h => hg (hp.trans h.symm), List.append_nil]
    · rfl

theorem foldl_fieldAt (p : Str) (imps : List Import) (gs : List Group) :
    fieldAt f p (imps.foldl insertImp gs) =
      fieldAt f p gs ++ (imps.filter (fun i => i.path = p)).flatMap fi := by
  induction imps generalizing gs with
  | nil => simp
  | cons imp rest ih =>
    rw [List.foldl_cons, ih, fieldAt_insertImp hf hnew]
    by_cases h : imp.path = p <;> simp [List.filter, h]

theorem fieldAt_organize (p : Str) (imps : List Import) :
    fieldAt f p (organize imps) = (imps.filter (fun i => i.path = p)).flatMap fi :=
  foldl_fieldAt hf hnew p imps []

end

theorem paths_insertImp (gs : List Group) (imp : Import) :
    (insertImp gs imp).map (·.path) =
      gs.map (·.path) ++ (if imp.path ∈ gs.map (·.path) then [] else [imp.path]) := by
  fun_induction insertImp gs imp with
  | case1 imp => rfl
  | case2 g rest imp hg => simp [hg]
  | case3 g rest imp hg ih =>
    have hne : ¬ imp.path = g.path := fun h => hg h.symm
    simp only [List.map_cons, ih, List.mem_cons, hne, false_or, List.cons_append]

theorem nodup_insertImp (gs : List Group) (imp : Import) (h : (gs.map (·.path)).Nodup) :
    ((insertImp gs imp).map (·.path)).Nodup := by
  rw [paths_insertImp]
  split
  · rwa [List.append_nil]
  · rename_i hm
    exact List.nodup_append.mpr ⟨h, List.nodup_cons.mpr ⟨List.not_mem_nil, .nil⟩,
      fun a ha b hb hab => hm (List.mem_singleton.mp hb ▸ hab ▸ ha)⟩

theorem nodup_foldl (imps : List Import) (gs : List Group) (h : (gs.map (·.path)).Nodup) :
    ((imps.foldl insertImp gs).map (·.path)).Nodup := by
  induction imps generalizing gs with
  | nil => exact h
  | cons imp rest ih => exact ih _ (nodup_insertImp gs imp h)

theorem mem_paths_insertImp (p : Str) (gs : List Group) (imp : Import) :
    p ∈ (insertImp gs imp).map (·.path) ↔ p ∈ gs.map (·.path) ∨ p = imp.path := by
  rw [paths_insertImp, List.mem_append]
  split
  · rename_i hm
    simp only [List.not_mem_nil, or_false]
    exact ⟨.inl, fun h => h.elim id (· ▸ hm)⟩
  · rw [List.mem_singleton]

theorem mem_paths_foldl (p : Str) (imps : List Import) (gs : List Group) :
    p ∈ (imps.foldl insertImp gs).map (·.path) ↔ p ∈ gs.map (·.path) ∨ p ∈ imps.map (·.path) := by
  induction imps generalizing gs with
  | nil => simp
  | cons imp rest ih => rw [List.foldl_cons, ih, mem_paths_insertImp, List.map_cons, List.mem_cons, or_assoc]

theorem fieldAt_of_mem {β : Type} (f : Group → List β) {gs : List Group}
    (h : (gs.map (·.path)).Nodup) {g : Group} (hg : g ∈ gs) : fieldAt f g.path gs = f g := by
  induction gs with
  | nil => cases hg
  | cons x rest ih =>
    rw [List.map_cons, List.nodup_cons] at h
    rw [fieldAt_cons]
    rcases List.mem_cons.mp hg with rfl | hr
    · exact if_pos rfl
    · exact (if_neg fun he : x.path = g.path => h.1 (he ▸ List.mem_map_of_mem hr)).trans (ih h.2 hr)

theorem insertBy_perm {α : Type} (le : α → α → Bool) (x : α) (l : List α) :
    (insertBy le x l).Perm (x :: l) := by
  fun_induction insertBy le x l with
  | case1 => exact .refl _
  | case2 y ys h => exact .refl _
  | case3 y ys h ih => exact (List.Perm.cons y ih).trans (List.Perm.swap x y ys)

theorem sortBy_perm {α : Type} (le : α → α → Bool) (l : List α) : (sortBy le l).Perm l := by
  induction l with
  | nil => exact .refl _
  | cons x xs ih =>
    simp only [sortBy, List.foldr_cons]
    exact (insertBy_perm le x _).trans (List.Perm.cons x ih)

/-- Every comment printed in the import section: line comments of the merged lines, then the
comments of the members. -/
def groupComments (g : Group) : List Comment := g.comments.flatten ++ g.members.flatMap (·.comments)
def importComments (i : Import) : List Comment := i.comments ++ i.members.flatMap (·.comments)
def flatComments (gs : List Group) : List Comment := gs.flatMap groupComments

theorem flatComments_insertImp (gs : List Group) (imp : Import) :
    (flatComments (insertImp gs imp)).Perm (flatComments gs ++ importComments imp) := by
  fun_induction insertImp gs imp with
  | case1 imp => simp [flatComments, groupComments, importComments]
  | case2 g rest imp hg =>
    simp only [flatComments, groupComments, importComments, List.flatMap_cons, List.flatten_append,
      List.flatten_cons, List.flatten_nil, List.append_nil, List.flatMap_append, List.append_assoc]
    -- the line's comments now stand between `g`'s comments and `g`'s members, its members before
    -- `rest`: the same blocks in another order, which counting settles
    refine List.Perm.append_left _ ?_
    rw [List.perm_iff_count]
    intro a
    simp only [List.count_append]
    omega
  | case3 g rest imp hg ih =>
    simp only [flatComments, List.flatMap_cons, List.append_assoc] at ih ⊢
    exact List.Perm.append_left _ ih

theorem flatComments_foldl (imps : List Import) (gs : List Group) :
    (flatComments (imps.foldl insertImp gs)).Perm (flatComments gs ++ imps.flatMap importComments) := by
  induction imps generalizing gs with
  | nil => simp
  | cons imp rest ih =>
    simp only [List.foldl_cons, List.flatMap_cons]
    refine (ih _).trans ?_
    rw [← List.append_assoc]
    exact List.Perm.append_right _ (flatComments_insertImp gs imp)

theorem flatMap_perm_pointwise {α β : Type} (f g : α → List β) (l : List α)
    (h : ∀ x, (f x).Perm (g x)) : (l.flatMap f).Perm (l.flatMap g) := by
  induction l with
  | nil => exact .refl _
  | cons x xs ih => simp only [List.flatMap_cons]; exact (h x).append ih

theorem groupComments_sortMembers (g : Group) :
    (groupComments { g with members := sortBy (fun a b => strLe a.name b.name) g.members }).Perm
      (groupComments g) := by
  unfold groupComments
  exact List.Perm.append_left _ ((sortBy_perm _ g.members).flatMap_right _)

/-- Sorting the groups and the members keeps the groups (as a permutation) and their comments. -/
theorem sortedGroups_comments (imps : List Import) :
    (flatComments (sortedGroups imps)).Perm (flatComments (organize imps)) := by
  unfold sortedGroups flatComments
  rw [List.flatMap_map]
  exact (flatMap_perm_pointwise _ _ _ groupComments_sortMembers).trans
    ((sortBy_perm _ (organize imps)).flatMap_right _)

end SamVerif.Imports
