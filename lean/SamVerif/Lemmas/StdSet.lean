import SamVerif.Model.StdSet
import SamVerif.Lemmas.StdMap
/-! Lemmas about `Model/StdSet.lean`, on the plan and in the order of `Lemmas/StdMap.lean`/`StdMapOps.lean`.
`balanced_spec` comes from the maps through the embedding `toMap`; the other rebuilding operations
are specified again for this tree type (see `toMap`).  `intersection`, `diff` and `union` cut both sets
at a pivot (`pivot_combine`); `subset` runs over the weaker `Shape`; the histories (`set_ops_refine`)
rest on `step_refines`. -/
namespace SamVerif.StdSet
set_option linter.unusedSectionVars false
variable {E : Type} [DecidableEq E] [LE E] [LT E] [Std.IsLinearOrder E] [Std.LawfulOrderLT E] [DecidableLT E]

@[simp] theorem height_empty : height (STree.empty : STree E) = 0 := rfl
@[simp] theorem height_leaf (v : E) : height (STree.leaf v) = 1 := rfl
@[simp] theorem height_node (h : Int) (v : E) (l r : STree E) : height (STree.node h v l r) = h := rfl

/-- stored heights are right, sibling heights differ by at most 2, a `Node` has height ≥ 2 -/
def Bal : STree E → Prop
  | .empty => True
  | .leaf _ => True
  | .node h _ l r =>
    Bal l ∧ Bal r ∧ h = Max.max (height l) (height r) + 1 ∧
      height l ≤ height r + 2 ∧ height r ≤ height l + 2 ∧ h ≥ 2

/-- `cmp` realises the linear order `<` of the element type (as `StdMap.Lawful` does for keys). -/
structure Lawful (cmp : E → E → Int) : Prop where
  lt : ∀ a b, cmp a b < 0 ↔ a < b
  eq : ∀ a b, cmp a b = 0 ↔ a = b
  gt : ∀ a b, cmp a b > 0 ↔ b < a

def Ordered (t : STree E) : Prop := (abs t).Pairwise (fun a b => a < b)

def Inv (t : STree E) : Prop := Bal t ∧ Ordered t

theorem bal_leaf (v : E) : Bal (STree.leaf v) := trivial
theorem bal_empty : Bal (STree.empty : STree E) := trivial
theorem ord_empty : Ordered (STree.empty : STree E) := List.Pairwise.nil
theorem ord_leaf (v : E) : Ordered (STree.leaf v) := List.pairwise_singleton _ _
theorem inv_empty : Inv (STree.empty : STree E) := ⟨bal_empty, ord_empty⟩
theorem inv_leaf (v : E) : Inv (STree.leaf v) := ⟨bal_leaf v, ord_leaf v⟩

theorem elementsHelper_eq (t : STree E) (acc : List E) : elementsHelper t acc = abs t ++ acc := by
  induction t generalizing acc with
  | empty => rfl
  | leaf v => rfl
  | node h v l r ihl ihr => simp [elementsHelper, abs, ihl, ihr]

theorem isEmpty_iff (t : STree E) : isEmpty t = true ↔ abs t = [] := by
  cases t <;> simp [isEmpty, abs]

theorem abs_ne_nil_of_not_isEmpty (t : STree E) (h : isEmpty t = false) : abs t ≠ [] := by
  cases t <;> simp_all [isEmpty, abs]

theorem bal_node_ge {h : Int} {v : E} {l r : STree E} (hb : Bal (.node h v l r)) : 2 ≤ h :=
  hb.2.2.2.2.2

theorem height_nonneg (t : STree E) (hb : Bal t) : 0 ≤ height t := by
  cases t with
  | empty => exact Int.le_refl 0
  | leaf v => exact Int.zero_le_ofNat 1
  | node n v l r => have := bal_node_ge hb; simp only [height_node]; omega

theorem height_zero (t : STree E) (h : Bal t) (h0 : height t = 0) : t = .empty := by
  cases t with
  | empty => rfl
  | leaf v => simp at h0
  | node n v l r => have := bal_node_ge h; simp only [height_node] at h0; omega

theorem height_one (t : STree E) (h : Bal t) (h0 : height t = 1) : ∃ v, t = .leaf v := by
  cases t with
  | empty => simp at h0
  | leaf v => exact ⟨v, rfl⟩
  | node n v l r => have := bal_node_ge h; simp only [height_node] at h0; omega

theorem bal_node {h : Int} {v : E} {l r : STree E} (hb : Bal (.node h v l r)) :
    Bal l ∧ Bal r ∧ h = Max.max (height l) (height r) + 1 ∧ height l ≤ height r + 2 ∧
      height r ≤ height l + 2 ∧ 0 ≤ height l ∧ 0 ≤ height r := by
  obtain ⟨bl, br, hh, d1, d2, _⟩ := hb
  exact ⟨bl, br, hh, d1, d2, height_nonneg l bl, height_nonneg r br⟩

/-- The names cross: `create` of `std/set.sam` always builds a `Node`, as `node` (`StdMap.mkNode`) of
`std/map.sam` does, so this is `StdMap.mkNode_spec`; the maps' `create`, which may answer a `Leaf`, is
`unsafeNode` here (`unsafeNode_spec`). -/
theorem create_spec (l r : STree E) (v : E) (hl : Bal l) (hr : Bal r)
    (h1 : height l ≤ height r + 2) (h2 : height r ≤ height l + 2) (hne : 1 ≤ height l ∨ 1 ≤ height r) :
    Bal (create l v r) ∧ abs (create l v r) = abs l ++ v :: abs r ∧
      height (create l v r) = Max.max (height l) (height r) + 1 :=
  have e := StdMap.ite_succ_max (height l) (height r)
  ⟨⟨hl, hr, e, h1, h2, by rw [e]; omega⟩, rfl, e⟩

/-- `unsafeNode` reads the new height off the shapes of its arguments, nine arms, where
`StdMap.create` computes it from `height`; on `Bal` trees that are not both empty it is `create`. -/
theorem unsafeNode_eq (l r : STree E) (v : E) (hl : Bal l) (hr : Bal r)
    (hne : 1 ≤ height l ∨ 1 ≤ height r) : unsafeNode l v r = create l v r := by
  cases l with
  | empty =>
    cases r with
    | empty => simp at hne
    | leaf b => rfl
    | node h b x y =>
      have := bal_node_ge hr
      simp only [unsafeNode, create, height_empty, height_node]; congr 1; omega
  | leaf a =>
    cases r with
    | empty => rfl
    | leaf b => rfl
    | node h b x y =>
      have := bal_node_ge hr
      simp only [unsafeNode, create, height_leaf, height_node]; congr 1; omega
  | node h a x y =>
    have := bal_node_ge hl
    cases r with
    | empty => simp only [unsafeNode, create, height_empty, height_node]; congr 1; omega
    | leaf b => simp only [unsafeNode, create, height_leaf, height_node]; congr 1; omega
    | node h' b x' y' => rfl

theorem unsafeNode_spec (l r : STree E) (v : E) (hl : Bal l) (hr : Bal r)
    (h1 : height l ≤ height r + 2) (h2 : height r ≤ height l + 2) :
    Bal (unsafeNode l v r) ∧ abs (unsafeNode l v r) = abs l ++ v :: abs r ∧
      height (unsafeNode l v r) = Max.max (height l) (height r) + 1 := by
  have nl := height_nonneg l hl
  have nr := height_nonneg r hr
  by_cases h0 : Max.max (height l) (height r) = 0
  · obtain rfl := height_zero l hl (by omega)
    obtain rfl := height_zero r hr (by omega)
    exact ⟨trivial, rfl, rfl⟩
  · have hne : 1 ≤ height l ∨ 1 ≤ height r := by omega
    rw [unsafeNode_eq l r v hl hr hne]
    exact create_spec l r v hl hr h1 h2 hne

/-- A set as a map to `Unit`.  `balanced` is the one rebuilding operation with which this embedding
commutes (`toMap_balanced`), and only on `Bal` trees: off them `unsafeNode` and `StdMap.create` store
different heights.  `insert`, `join` and what is built on them shape their results differently in
`std/set.sam` and `std/map.sam` (which element becomes the root over a `Leaf`), so their
specifications are proved for each tree type. -/
def toMap : STree E → StdMap.Tree E Unit
  | .empty => .empty
  | .leaf v => .leaf v ()
  | .node h v l r => .node h v () (toMap l) (toMap r)

@[simp] theorem height_toMap (t : STree E) : StdMap.height (toMap t) = height t := by cases t <;> rfl

theorem abs_toMap (t : STree E) : (StdMap.abs (toMap t)).map Prod.fst = abs t := by
  induction t with
  | empty => rfl
  | leaf v => rfl
  | node h v l r ihl ihr => simp [toMap, StdMap.abs, abs, ihl, ihr]

theorem bal_toMap (t : STree E) : StdMap.Bal (toMap t) ↔ Bal t := by
  induction t with
  | empty => simp [toMap, StdMap.Bal, Bal]
  | leaf v => simp [toMap, StdMap.Bal, Bal]
  | node h v l r ihl ihr => simp [toMap, StdMap.bal_node_iff, Bal, ihl, ihr]

theorem toMap_create (l r : STree E) (v : E) : toMap (create l v r) = StdMap.mkNode (toMap l) v () (toMap r) := by
  simp [create, StdMap.mkNode, toMap]

theorem toMap_unsafeNode (l r : STree E) (v : E) (hl : Bal l) (hr : Bal r) :
    toMap (unsafeNode l v r) = StdMap.create (toMap l) v () (toMap r) := by
  have nl := height_nonneg l hl
  have nr := height_nonneg r hr
  by_cases h0 : Max.max (height l) (height r) = 0
  · obtain rfl := height_zero l hl (by omega)
    obtain rfl := height_zero r hr (by omega)
    rfl
  · rw [unsafeNode_eq l r v hl hr (by omega), toMap_create]
    simp only [StdMap.create, StdMap.mkNode, height_toMap, StdMap.ite_succ_max]
    rw [if_neg]; omega

/-- on `Bal` trees the two `balanced` functions make the same tests on the same heights and build with
`unsafeNode`/`create` where maps build with `create`/`mkNode` -/
theorem toMap_balanced (l r : STree E) (v : E) (hl : Bal l) (hr : Bal r) :
    (balanced l v r).map toMap = StdMap.balanced (toMap l) v () (toMap r) := by
  simp only [balanced, StdMap.balanced, height_toMap]
  split
  · cases l with
    | empty => rfl
    | leaf a => rfl
    | node lh lv ll lr =>
      obtain ⟨bll, blr, _⟩ := bal_node hl
      simp only [toMap, height_toMap]
      split
      · simp [toMap_create, toMap_unsafeNode, blr, hr]
      · cases lr with
        | empty => rfl
        | leaf a => rfl
        | node lrh lrv lrl lrr =>
          obtain ⟨b1, b2, _⟩ := bal_node blr
          simp [toMap, toMap_create, toMap_unsafeNode, bll, b1, b2, hr]
  · split
    · cases r with
      | empty => rfl
      | leaf a => rfl
      | node rh rv rl rr =>
        obtain ⟨brl, brr, _⟩ := bal_node hr
        simp only [toMap, height_toMap]
        split
        · simp [toMap_create, toMap_unsafeNode, brl, hl]
        · cases rl with
          | empty => rfl
          | leaf a => rfl
          | node rlh rlv rll rlr =>
            obtain ⟨b1, b2, _⟩ := bal_node brl
            simp [toMap, toMap_create, toMap_unsafeNode, brr, b1, b2, hl]
    · simp [toMap_unsafeNode, hl, hr]

theorem balanced_spec (l r : STree E) (v : E) (hl : Bal l) (hr : Bal r)
    (h1 : height l ≤ height r + 3) (h2 : height r ≤ height l + 3) :
    ∃ t, balanced l v r = some t ∧ Bal t ∧ abs t = abs l ++ v :: abs r ∧
      height t ≤ Max.max (height l) (height r) + 1 ∧ Max.max (height l) (height r) ≤ height t ∧
      (height l ≤ height r + 2 → height r ≤ height l + 2 → height t = Max.max (height l) (height r) + 1) := by
  obtain ⟨t', e, b, a, g⟩ := StdMap.balanced_spec' (toMap l) (toMap r) v () ((bal_toMap l).2 hl)
    ((bal_toMap r).2 hr) (by simpa using h1) (by simpa using h2)
  rw [← toMap_balanced l r v hl hr, Option.map_eq_some_iff] at e
  obtain ⟨t, e, rfl⟩ := e
  refine ⟨t, e, (bal_toMap t).1 b, ?_, by simpa using g⟩
  rw [← abs_toMap, a]; simp [abs_toMap]

theorem balanced_left {h a : Int} (l r : STree E) (v : E) (hl : Bal l) (hr : Bal r)
    (hh : h = Max.max a (height r) + 1) (d1 : a ≤ height r + 2) (d2 : height r ≤ a + 2)
    (g1 : a - 1 ≤ height l) (g2 : height l ≤ a + 1) :
    ∃ t, balanced l v r = some t ∧ Bal t ∧ abs t = abs l ++ v :: abs r ∧
      (a ≤ height l → h ≤ height t ∧ height t ≤ h + 1) ∧
      (height l ≤ a → h - 1 ≤ height t ∧ height t ≤ h) := by
  obtain ⟨t, e, b, ab, b1, b2, b3⟩ := balanced_spec l r v hl hr (by omega) (by omega)
  exact ⟨t, e, b, ab, StdMap.rebalance_arith hh d1 d2 g1 g2 b1 b2 b3⟩

theorem balanced_right {h a : Int} (l r : STree E) (v : E) (hl : Bal l) (hr : Bal r)
    (hh : h = Max.max (height l) a + 1) (d1 : height l ≤ a + 2) (d2 : a ≤ height l + 2)
    (g1 : a - 1 ≤ height r) (g2 : height r ≤ a + 1) :
    ∃ t, balanced l v r = some t ∧ Bal t ∧ abs t = abs l ++ v :: abs r ∧
      (a ≤ height r → h ≤ height t ∧ height t ≤ h + 1) ∧
      (height r ≤ a → h - 1 ≤ height t ∧ height t ≤ h) := by
  obtain ⟨t, e, b, ab, b1, b2, b3⟩ := balanced_spec l r v hl hr (by omega) (by omega)
  rw [Int.max_comm] at hh b1 b2 b3
  exact ⟨t, e, b, ab, StdMap.rebalance_arith hh d2 d1 g1 g2 b1 b2 (fun x y => b3 y x)⟩

theorem ordered_node {h : Int} {v : E} {l r : STree E}
    (ho : Ordered (.node h v l r)) :
    Ordered l ∧ Ordered r ∧ (∀ p ∈ abs l, p < v) ∧ (∀ p ∈ abs r, v < p) := by
  simp only [Ordered, abs, List.pairwise_append, List.pairwise_cons] at ho
  obtain ⟨h1, ⟨h2, h3⟩, h4⟩ := ho
  exact ⟨h1, h3, fun p hp => h4 p hp v (by simp), h2⟩

theorem addMinElement_spec (x : E) (t : STree E) (hb : Bal t) :
    ∃ t', addMinElement x t = some t' ∧ Bal t' ∧ abs t' = x :: abs t ∧
      height t ≤ height t' ∧ height t' ≤ height t + 1 := by
  induction t with
  | empty => exact ⟨.leaf x, rfl, bal_leaf x, rfl, by simp⟩
  | leaf v => exact ⟨.node 2 v (.leaf x) .empty, rfl, by (simp [Bal]; omega), rfl, by simp⟩
  | node h v l r ihl _ =>
    obtain ⟨bl, br, hh, d1, d2, _, _⟩ := bal_node hb
    obtain ⟨l', e, b1, a1, g1, g2⟩ := ihl bl
    obtain ⟨t', e2, b2, a2, g, _⟩ := balanced_left l' r v b1 br hh d1 d2 (by omega) g2
    exact ⟨t', by simp [addMinElement, e, e2], b2, by simp [a2, a1, abs], g g1⟩

theorem addMaxElement_spec (x : E) (t : STree E) (hb : Bal t) :
    ∃ t', addMaxElement x t = some t' ∧ Bal t' ∧ abs t' = abs t ++ [x] ∧
      height t ≤ height t' ∧ height t' ≤ height t + 1 := by
  induction t with
  | empty => exact ⟨.leaf x, rfl, bal_leaf x, rfl, by simp⟩
  | leaf v => exact ⟨.node 2 v .empty (.leaf x), rfl, by (simp [Bal]; omega), rfl, by simp⟩
  | node h v l r _ ihr =>
    obtain ⟨bl, br, hh, d1, d2, _, _⟩ := bal_node hb
    obtain ⟨r', e, b1, a1, g1, g2⟩ := ihr br
    obtain ⟨t', e2, b2, a2, g, _⟩ := balanced_right l r' v bl b1 hh d1 d2 (by omega) g2
    exact ⟨t', by simp [addMaxElement, e, e2], b2, by simp [a2, a1, abs], g g1⟩

/-- the recursive step of `join` into a tall left tree: `t` is the join of its right child with `r` -/
theorem join_left {lh : Int} {lv : E} {ll lr : STree E} (r t : STree E)
    (hl : Bal (.node lh lv ll lr)) (c : lh > height r + 2) (bt : Bal t)
    (g1 : Max.max (height lr) (height r) ≤ height t)
    (g2 : height t ≤ Max.max (height lr) (height r) + 1) :
    ∃ t', balanced ll lv t = some t' ∧ Bal t' ∧ abs t' = abs ll ++ lv :: abs t ∧
      Max.max lh (height r) ≤ height t' ∧ height t' ≤ Max.max lh (height r) + 1 := by
  obtain ⟨bll, blr, hh, d1, d2, _, _⟩ := bal_node hl
  have e : Max.max (height lr) (height r) = height lr := by omega
  rw [e] at g1 g2
  obtain ⟨t', e2, b2, a2, g, _⟩ := balanced_right ll t lv bll bt hh d1 d2 (by omega) g2
  exact ⟨t', e2, b2, a2, by have := g g1; omega⟩

/-- … and into a tall right tree: `t` is the join of `l` with its left child -/
theorem join_right {rh : Int} {rv : E} {rl rr : STree E} (l t : STree E)
    (hr : Bal (.node rh rv rl rr)) (c : rh > height l + 2) (bt : Bal t)
    (g1 : Max.max (height l) (height rl) ≤ height t)
    (g2 : height t ≤ Max.max (height l) (height rl) + 1) :
    ∃ t', balanced t rv rr = some t' ∧ Bal t' ∧ abs t' = abs t ++ rv :: abs rr ∧
      Max.max (height l) rh ≤ height t' ∧ height t' ≤ Max.max (height l) rh + 1 := by
  obtain ⟨brl, brr, hh, d1, d2, _, _⟩ := bal_node hr
  have e : Max.max (height l) (height rl) = height rl := by omega
  rw [e] at g1 g2
  obtain ⟨t', e2, b2, a2, g, _⟩ := balanced_left t rr rv bt brr hh d1 d2 (by omega) g2
  exact ⟨t', e2, b2, a2, by have := g g1; omega⟩

theorem join_create (l r : STree E) (v : E) (hl : Bal l) (hr : Bal r)
    (d1 : height l ≤ height r + 2) (d2 : height r ≤ height l + 2) (hne : 1 ≤ height l ∨ 1 ≤ height r) :
    Bal (create l v r) ∧ abs (create l v r) = abs l ++ v :: abs r ∧
      Max.max (height l) (height r) ≤ height (create l v r) ∧
      height (create l v r) ≤ Max.max (height l) (height r) + 1 := by
  obtain ⟨b1, a1, e1⟩ := create_spec l r v hl hr d1 d2 hne
  exact ⟨b1, a1, by omega⟩

theorem join_spec (l r : STree E) (v : E) (hl : Bal l) (hr : Bal r) :
    ∃ t, join l v r = some t ∧ Bal t ∧ abs t = abs l ++ v :: abs r ∧
      Max.max (height l) (height r) ≤ height t ∧ height t ≤ Max.max (height l) (height r) + 1 := by
  -- the arms of `join`, grouped as in `StdMap.join_spec`: 1-3 `addMin/MaxElement`; 4 the `Node` of two
  -- `Leaf`s; 7, 10, 15 stop at `create` (`join_create`); 6, 14 `join_right`; 9, 12 `join_left`;
  -- 5, 8, 11, 13 excluded by `ih`
  fun_induction join l v r
  case case1 v r =>
    obtain ⟨t, e, b, a, g1, g2⟩ := addMinElement_spec v r hr
    have := height_nonneg r hr
    exact ⟨t, e, b, a, by simp only [height_empty]; omega⟩
  case case2 a v =>
    obtain ⟨t, e, b, a, g1, g2⟩ := addMaxElement_spec v (.leaf a) hl
    exact ⟨t, e, b, by simp [a, abs], by simp only [height_empty, height_leaf] at *; omega⟩
  case case3 lh lv ll lr v =>
    obtain ⟨t, e, b, a, g1, g2⟩ := addMaxElement_spec v _ hl
    have := bal_node_ge hl
    exact ⟨t, e, b, by simp [a, abs], by simp only [height_empty, height_node] at *; omega⟩
  case case4 a v c => exact ⟨.node 2 v (.leaf a) (.leaf c), rfl, by simp [Bal], rfl, by simp⟩
  case case5 a v rh rv rl rr h x ih =>
    obtain ⟨t, e, _⟩ := ih hl (bal_node hr).1
    rw [e] at x; cases x
  case case6 a v rh rv rl rr h t' x ih =>
    obtain ⟨t, e, b1, a1, g1, g2⟩ := ih hl (bal_node hr).1
    rw [e] at x; cases x
    obtain ⟨t2, e2, b2, a2, g⟩ := join_right (.leaf a) t' hr h b1 g1 g2
    exact ⟨t2, e2, b2, by simp [a2, a1, abs], g⟩
  case case7 a v rh rv rl rr h =>
    have := bal_node_ge hr
    exact ⟨_, rfl, join_create _ _ _ hl hr (by simp only [height_leaf, height_node]; omega)
      (by simp only [height_leaf, height_node]; omega) (Or.inl (by simp))⟩
  case case8 lh lv ll lr v c h x ih =>
    obtain ⟨t, e, _⟩ := ih (bal_node hl).2.1 hr
    rw [e] at x; cases x
  case case9 lh lv ll lr v c h t' x ih =>
    obtain ⟨t, e, b1, a1, g1, g2⟩ := ih (bal_node hl).2.1 hr
    rw [e] at x; cases x
    obtain ⟨t2, e2, b2, a2, g⟩ := join_left (.leaf c) t' hl h b1 g1 g2
    exact ⟨t2, e2, b2, by simp [a2, a1, abs], g⟩
  case case10 lh lv ll lr v c h =>
    have := bal_node_ge hl
    exact ⟨_, rfl, join_create _ _ _ hl hr (by simp only [height_leaf, height_node]; omega)
      (by simp only [height_leaf, height_node]; omega) (Or.inr (by simp))⟩
  case case11 lh lv ll lr v rh rv rl rr h x ih =>
    obtain ⟨t, e, _⟩ := ih (bal_node hl).2.1 hr
    rw [e] at x; cases x
  case case12 lh lv ll lr v rh rv rl rr h t' x ih =>
    obtain ⟨t, e, b1, a1, g1, g2⟩ := ih (bal_node hl).2.1 hr
    rw [e] at x; cases x
    obtain ⟨t2, e2, b2, a2, g⟩ := join_left (.node rh rv rl rr) t' hl h b1 g1 g2
    exact ⟨t2, e2, b2, by simp [a2, a1, abs], g⟩
  case case13 lh lv ll lr v rh rv rl rr h1 h2 x ih =>
    obtain ⟨t, e, _⟩ := ih hl (bal_node hr).1
    rw [e] at x; cases x
  case case14 lh lv ll lr v rh rv rl rr h1 h2 t' x ih =>
    obtain ⟨t, e, b1, a1, g1, g2⟩ := ih hl (bal_node hr).1
    rw [e] at x; cases x
    obtain ⟨t2, e2, b2, a2, g⟩ := join_right (.node lh lv ll lr) t' hr h2 b1 g1 g2
    exact ⟨t2, e2, b2, by simp [a2, a1, abs], g⟩
  case case15 lh lv ll lr v rh rv rl rr h1 h2 =>
    have := bal_node_ge hl
    exact ⟨_, rfl, join_create _ _ _ hl hr (by simp only [height_node]; omega) (by simp only [height_node]; omega)
      (Or.inl (by simp only [height_node]; omega))⟩

theorem set_min_refines (t : STree E) : min t = (abs t).head? := by
  induction t with
  | empty => rfl
  | leaf v => rfl
  | node h v l r ihl ihr =>
    simp only [min, abs]
    cases hl : isEmpty l
    · have := abs_ne_nil_of_not_isEmpty l hl
      cases h' : abs l with
      | nil => exact absurd h' this
      | cons a as =>
        rw [ihl, h']
        simp
    · have : abs l = [] := (isEmpty_iff l).1 hl
      simp [this]

theorem set_max_refines (t : STree E) : max t = (abs t).getLast? := by
  induction t with
  | empty => rfl
  | leaf v => rfl
  | node h v l r ihl ihr =>
    simp only [max, abs]
    cases hr : isEmpty r
    · have := abs_ne_nil_of_not_isEmpty r hr
      cases h' : abs r with
      | nil => exact absurd h' this
      | cons a as =>
        rw [ihr, h']
        simp [List.getLast?_append, List.getLast?_cons]
    · have : abs r = [] := (isEmpty_iff r).1 hr
      simp [this]

theorem removeMin_spec (t : STree E) (hb : Bal t) (hne : abs t ≠ []) :
    ∃ t', removeMin t = some t' ∧ Bal t' ∧ abs t' = (abs t).tail ∧
      height t - 1 ≤ height t' ∧ height t' ≤ height t := by
  induction t with
  | empty => exact absurd rfl hne
  | leaf v => exact ⟨.empty, rfl, bal_empty, rfl, by simp⟩
  | node h v l r ihl _ =>
    obtain ⟨bl, br, hh, d1, d2, _, nr⟩ := bal_node hb
    cases l with
    | empty =>
      simp only [height_empty] at hh
      exact ⟨r, rfl, br, rfl, by simp only [height_node]; omega⟩
    | leaf a =>
      obtain ⟨t', e2, b2, a2, _, g⟩ := balanced_left .empty r v bal_empty br hh d1 d2 (by simp) (by simp)
      exact ⟨t', by simp [removeMin, e2], b2, by simp [a2, abs], g (by simp)⟩
    | node h' v' l' r' =>
      obtain ⟨l2, e, b1, a1, g1, g2⟩ := ihl bl (by simp [abs])
      obtain ⟨t', e2, b2, a2, _, g⟩ := balanced_left l2 r v b1 br hh d1 d2 g1
        (by simp only [height_node] at g2 ⊢; omega)
      refine ⟨t', by rw [removeMin]; simp only [e]; exact e2, b2, ?_, g g2⟩
      rw [a2, a1]
      show _ = (abs (STree.node h' v' l' r') ++ v :: abs r).tail
      rw [List.tail_append_of_ne_nil (by simp [abs])]

theorem min_tail (t : STree E) (hb : Bal t) (hne : abs t ≠ []) :
    ∃ m t', min t = some m ∧ removeMin t = some t' ∧ Bal t' ∧ abs t = m :: abs t' ∧
      height t - 1 ≤ height t' ∧ height t' ≤ height t := by
  obtain ⟨t', e, b, a, g1, g2⟩ := removeMin_spec t hb hne
  cases hx : abs t with
  | nil => exact absurd hx hne
  | cons m tl =>
    refine ⟨m, t', by rw [set_min_refines, hx]; rfl, e, b, ?_, g1, g2⟩
    rw [a, hx]; rfl

/-- `concat` and `internalMerge` of two non-empty sets take the minimum of the second one out and
hand the rest to `f` = `join` resp. `balanced`, whatever the shapes (`min`, `removeMin`).  In
`std/map.sam` only two `Node`s go this way (`StdMap.unsafeMin_spec`); a `Leaf` operand is added by
`addMinNode`/`addMaxNode`, so the proofs there go by the shapes of the operands. -/
theorem min_tail_bind (f : STree E → E → STree E → Option (STree E)) (t1 t2 : STree E) (h2 : Bal t2)
    (ne2 : t2 ≠ .empty) :
    ∃ m t2', (match min t2 with
        | none => none
        | some m => match removeMin t2 with
          | none => none
          | some o' => f t1 m o') = f t1 m t2' ∧
      Bal t2' ∧ abs t2 = m :: abs t2' ∧ height t2 - 1 ≤ height t2' ∧ height t2' ≤ height t2 := by
  obtain ⟨m, t2', em, er, b, a, g⟩ := min_tail t2 h2 (by cases t2 <;> simp_all [abs])
  exact ⟨m, t2', by rw [em, er], b, a, g⟩

theorem internalMerge_spec (t1 t2 : STree E) (h1 : Bal t1) (h2 : Bal t2)
    (d1 : height t1 ≤ height t2 + 2) (d2 : height t2 ≤ height t1 + 2) :
    ∃ t, internalMerge t1 t2 = some t ∧ Bal t ∧ abs t = abs t1 ++ abs t2 ∧
      Max.max (height t1) (height t2) ≤ height t ∧ height t ≤ Max.max (height t1) (height t2) + 1 := by
  have n1 := height_nonneg t1 h1
  have n2 := height_nonneg t2 h2
  by_cases c1 : t1 = .empty
  · subst c1; exact ⟨t2, rfl, h2, rfl, by simp only [height_empty]; omega⟩
  by_cases c2 : t2 = .empty
  · subst c2
    exact ⟨t1, by cases t1 <;> rfl, h1, by simp [abs], by simp only [height_empty]; omega⟩
  obtain ⟨m, t2', e, b1, a1, g1, g2⟩ := min_tail_bind balanced t1 t2 h2 c2
  obtain ⟨t, e2, b2, a2, _, g⟩ := balanced_right t1 t2' m h1 b1 rfl d1 d2 g1 (by omega)
  refine ⟨t, ?_, b2, by rw [a2, a1], by have := g g2; omega⟩
  rw [← e2, ← e]
  -- neither operand is `empty`, so `internalMerge` is at its third arm
  cases t2 with
  | empty => exact absurd rfl c2
  | leaf _ | node _ _ _ _ =>
    cases t1 with
    | empty => exact absurd rfl c1
    | leaf _ | node _ _ _ _ => rfl

theorem set_concat_refines (t1 t2 : STree E) (h1 : Bal t1) (h2 : Bal t2) :
    ∃ t, concat t1 t2 = some t ∧ Bal t ∧ abs t = abs t1 ++ abs t2 := by
  by_cases c1 : t1 = .empty
  · subst c1; exact ⟨t2, rfl, h2, rfl⟩
  by_cases c2 : t2 = .empty
  · subst c2; exact ⟨t1, by cases t1 <;> rfl, h1, by simp [abs]⟩
  obtain ⟨m, t2', e, b1, a1, _⟩ := min_tail_bind join t1 t2 h2 c2
  obtain ⟨t, e2, b2, a2, _⟩ := join_spec t1 t2' m h1 b1
  refine ⟨t, ?_, b2, by rw [a2, a1]⟩
  rw [← e2, ← e]
  -- neither operand is `empty`, so `concat` is at its third arm
  cases t2 with
  | empty => exact absurd rfl c2
  | leaf _ | node _ _ _ _ =>
    cases t1 with
    | empty => exact absurd rfl c1
    | leaf _ | node _ _ _ _ => rfl

/-- the element found by `split`, as a list -/
def midList (key : E) (pres : Bool) : List E := if pres then [key] else []

theorem split_spec {cmp : E → E → Int} (hc : Lawful cmp) (t : STree E) (key : E)
    (hb : Bal t) (ho : Ordered t) :
    ∃ l pres r, split cmp t key = some (l, pres, r) ∧ Bal l ∧ Bal r ∧
      abs t = abs l ++ midList key pres ++ abs r ∧
      (∀ p ∈ abs l, p < key) ∧ (∀ p ∈ abs r, key < p) := by
  induction t with
  | empty => exact ⟨.empty, false, .empty, rfl, hb, hb, by simp [abs, midList], by simp [abs], by simp [abs]⟩
  | leaf v =>
    have hlt := hc.lt key v; have heq := hc.eq key v; have hgt := hc.gt key v
    simp only [split]
    by_cases c0 : cmp key v = 0
    · obtain rfl : key = v := heq.1 c0
      exact ⟨.empty, true, .empty, by simp [c0], bal_empty, bal_empty, by simp [abs, midList],
        by simp [abs], by simp [abs]⟩
    · by_cases c1 : cmp key v < 0
      · exact ⟨.empty, false, .leaf v, by simp [c0, c1], bal_empty, hb, by simp [abs, midList],
          by simp [abs], by simp [abs]; exact hlt.1 c1⟩
      · exact ⟨.leaf v, false, .empty, by simp [c0, c1], hb, bal_empty, by simp [abs, midList],
          by simp [abs]; exact hgt.1 (by omega), by simp [abs]⟩
  | node h v l r ihl ihr =>
    have hlt := hc.lt key v; have heq := hc.eq key v; have hgt := hc.gt key v
    obtain ⟨ol, or, bl, br⟩ := ordered_node ho
    obtain ⟨bll, brr, hh, d1, d2, nl, nr⟩ := bal_node hb
    simp only [split]
    by_cases c0 : cmp key v = 0
    · obtain rfl : key = v := heq.1 c0
      exact ⟨l, true, r, by simp [c0], bll, brr, by simp [abs, midList], bl, br⟩
    · by_cases c1 : cmp key v < 0
      · have lt := hlt.1 c1
        obtain ⟨ll, pres, rl, e, b1, b2, a1, g1, g2⟩ := ihl bll ol
        obtain ⟨t2, e2, b3, a3, _⟩ := join_spec rl r v b2 brr
        refine ⟨ll, pres, t2, by simp [c0, c1, e, e2], b1, b3, by simp [abs, a1, a3], g1, ?_⟩
        rw [a3, List.forall_mem_append, List.forall_mem_cons]
        exact ⟨g2, lt, fun p hp => Std.lt_trans lt (br p hp)⟩
      · have gt := hgt.1 (by omega)
        obtain ⟨lr, pres, rr, e, b1, b2, a1, g1, g2⟩ := ihr brr or
        obtain ⟨t2, e2, b3, a3, _⟩ := join_spec l lr v bll b1
        refine ⟨t2, pres, rr, by simp [c0, c1, e, e2], b3, b2, by simp [abs, a1, a3], ?_, g2⟩
        rw [a3, List.forall_mem_append, List.forall_mem_cons]
        exact ⟨fun p hp => Std.lt_trans (bl p hp) gt, gt, g1⟩

theorem set_filter_refines (f : E → Bool) (t : STree E) (hb : Bal t) :
    ∃ t', filter f t = some t' ∧ Bal t' ∧ abs t' = (abs t).filter f := by
  induction t with
  | empty => exact ⟨.empty, rfl, hb, by simp [abs]⟩
  | leaf v =>
    simp only [filter]
    by_cases c : f v = true
    · exact ⟨.leaf v, by simp [c], hb, by simp [abs, c]⟩
    · exact ⟨.empty, by simp [c], bal_empty, by simp [abs, c]⟩
  | node h v l r ihl ihr =>
    obtain ⟨bll, brr, _⟩ := bal_node hb
    obtain ⟨newL, e1, b1, a1⟩ := ihl bll
    obtain ⟨newR, e2, b2, a2⟩ := ihr brr
    simp only [filter, e1, e2]
    by_cases c : f v = true
    · by_cases same : l = newL ∧ r = newR
      · obtain ⟨s1, s2⟩ := same
        subst s1; subst s2
        refine ⟨.node h v l r, by simp [c], hb, ?_⟩
        simp only [abs, List.filter_append, List.filter_cons, c, if_true, ← a1, ← a2]
      · obtain ⟨t', e3, b3, a3, _⟩ := join_spec newL newR v b1 b2
        exact ⟨t', by simp [c, same, e3], b3, by simp [a3, abs, a1, a2, c]⟩
    · obtain ⟨t', e3, b3, a3⟩ := set_concat_refines newL newR b1 b2
      exact ⟨t', by simp [c, e3], b3, by simp [a3, abs, a1, a2, c]⟩

theorem set_partition_refines (f : E → Bool) (t : STree E) (hb : Bal t) :
    ∃ a b, partition f t = some (a, b) ∧ Bal a ∧ Bal b ∧
      abs a = (abs t).filter f ∧ abs b = (abs t).filter (fun p => !f p) := by
  induction t with
  | empty => exact ⟨.empty, .empty, rfl, hb, hb, by simp [abs], by simp [abs]⟩
  | leaf v =>
    simp only [partition]
    by_cases c : f v = true
    · exact ⟨.leaf v, .empty, by simp [c], hb, bal_empty, by simp [abs, c], by simp [abs, c]⟩
    · exact ⟨.empty, .leaf v, by simp [c], bal_empty, hb, by simp [abs, c], by simp [abs, c]⟩
  | node h v l r ihl ihr =>
    obtain ⟨bll, brr, _⟩ := bal_node hb
    obtain ⟨lt, lf, e1, b1, b1', a1, a1'⟩ := ihl bll
    obtain ⟨rt, rf, e2, b2, b2', a2, a2'⟩ := ihr brr
    simp only [partition, e1, e2]
    by_cases c : f v = true
    · obtain ⟨x, e3, b3, a3, _⟩ := join_spec lt rt v b1 b2
      obtain ⟨y, e4, b4, a4⟩ := set_concat_refines lf rf b1' b2'
      exact ⟨x, y, by simp [c, e3, e4], b3, b4, by simp [a3, abs, a1, a2, c], by simp [a4, abs, a1', a2', c]⟩
    · obtain ⟨x, e3, b3, a3⟩ := set_concat_refines lt rt b1 b2
      obtain ⟨y, e4, b4, a4, _⟩ := join_spec lf rf v b1' b2'
      exact ⟨x, y, by simp [c, e3, e4], b3, b4, by simp [a3, abs, a1, a2, c], by simp [a4, abs, a1', a2', c]⟩

/-- Sets have no `update`: `insert` and `remove` each descend as `StdMap.update_spec` does.  Over a
`Leaf` this `insert` keeps the larger element at the root, where `StdMap.update` puts the new key. -/
theorem insert_spec {cmp : E → E → Int} (hc : Lawful cmp) (t : STree E) (x : E)
    (hb : Bal t) (ho : Ordered t) :
    ∃ t', insert cmp t x = some t' ∧ Bal t' ∧ Ordered t' ∧
      (∀ p, p ∈ abs t' ↔ (p = x ∨ p ∈ abs t)) ∧
      height t ≤ height t' ∧ height t' ≤ height t + 1 := by
  induction t with
  | empty => exact ⟨.leaf x, rfl, bal_leaf x, ord_leaf x, by simp [abs], by simp⟩
  | leaf v =>
    have hlt := hc.lt x v; have heq := hc.eq x v; have hgt := hc.gt x v
    simp only [insert]
    by_cases c0 : cmp x v = 0
    · obtain rfl : x = v := heq.1 c0
      exact ⟨.leaf x, by simp [c0], hb, ho, by simp [abs], by simp⟩
    · by_cases c1 : cmp x v < 0
      · refine ⟨.node 2 v (.leaf x) .empty, by simp [c0, c1, unsafeNode], by (simp [Bal]; omega), ?_, by simp [abs], by simp⟩
        simp [Ordered, abs]; exact hlt.1 c1
      · refine ⟨.node 2 x (.leaf v) .empty, by simp [c0, c1, unsafeNode], by (simp [Bal]; omega), ?_, ?_, by simp⟩
        · simp [Ordered, abs]; exact hgt.1 (by omega)
        · simp [abs]; intro p; exact or_comm
  | node h v l r ihl ihr =>
    have hlt := hc.lt x v; have heq := hc.eq x v; have hgt := hc.gt x v
    obtain ⟨ol, or, bl, br⟩ := ordered_node ho
    obtain ⟨bll, brr, hh, d1, d2, _, _⟩ := bal_node hb
    simp only [insert]
    by_cases c0 : cmp x v = 0
    · obtain rfl : x = v := heq.1 c0
      refine ⟨.node h x l r, by simp [c0], hb, ho, fun p => ?_, by simp only [height_node]; omega⟩
      simp only [abs, List.mem_append, List.mem_cons]
      exact ⟨Or.inr, fun h => h.elim (fun e => Or.inr (Or.inl e)) id⟩
    · by_cases c1 : cmp x v < 0
      · have lt := hlt.1 c1
        obtain ⟨ll, e, b1, o1, m1, g1, g2⟩ := ihl bll ol
        obtain ⟨t', e2, b2, a2, g, _⟩ := balanced_left ll r v b1 brr hh d1 d2 (by omega) g2
        have mem : ∀ p, p ∈ abs ll ++ v :: abs r ↔ (p = x ∨ p ∈ abs l ++ v :: abs r) := fun p => by
          simp only [List.mem_append, m1, or_assoc]
        by_cases same : l = ll
        · subst same
          exact ⟨.node h v l r, by simp [c0, c1, e], hb, ho, mem, by simp only [height_node]; omega⟩
        · refine ⟨t', by simp [c0, c1, e, same, e2], b2, ?_, by rw [a2]; exact mem, g g1⟩
          rw [Ordered, a2]
          refine StdMap.ordered_of_parts (f := id) o1 or (fun p hp => ?_) br
          rcases (m1 p).1 hp with rfl | hp
          · exact lt
          · exact bl p hp
      · have gt := hgt.1 (by omega)
        obtain ⟨rr, e, b1, o1, m1, g1, g2⟩ := ihr brr or
        obtain ⟨t', e2, b2, a2, g, _⟩ := balanced_right l rr v bll b1 hh d1 d2 (by omega) g2
        have mem : ∀ p, p ∈ abs l ++ v :: abs rr ↔ (p = x ∨ p ∈ abs l ++ v :: abs r) := fun p => by
          simp only [List.mem_append, List.mem_cons, m1, or_left_comm]
        by_cases same : r = rr
        · subst same
          exact ⟨.node h v l r, by simp [c0, c1, e], hb, ho, mem, by simp only [height_node]; omega⟩
        · refine ⟨t', by simp [c0, c1, e, same, e2], b2, ?_, by rw [a2]; exact mem, g g1⟩
          rw [Ordered, a2]
          refine StdMap.ordered_of_parts (f := id) ol o1 bl (fun p hp => ?_)
          rcases (m1 p).1 hp with rfl | hp
          · exact gt
          · exact br p hp

/-- `insert` never panics, keeps the invariant, and is `s ∪ {x}`. -/
theorem set_insert_refines {cmp : E → E → Int} (hc : Lawful cmp) (t : STree E)
    (x : E) (hi : Inv t) :
    ∃ t', insert cmp t x = some t' ∧ Inv t' ∧ ∀ p, p ∈ abs t' ↔ (p = x ∨ p ∈ abs t) := by
  obtain ⟨t', e, b, o, m, _⟩ := insert_spec hc t x hi.1 hi.2
  exact ⟨t', e, ⟨b, o⟩, m⟩

theorem remove_spec {cmp : E → E → Int} (hc : Lawful cmp) (t : STree E) (x : E)
    (hb : Bal t) (ho : Ordered t) :
    ∃ t', remove cmp t x = some t' ∧ Bal t' ∧ Ordered t' ∧
      (∀ p, p ∈ abs t' ↔ (p ∈ abs t ∧ p ≠ x)) ∧
      height t - 1 ≤ height t' ∧ height t' ≤ height t := by
  induction t with
  | empty => exact ⟨.empty, rfl, hb, ho, by simp [abs], by simp⟩
  | leaf v =>
    have heq := hc.eq x v
    simp only [remove]
    by_cases c0 : cmp x v = 0
    · obtain rfl : x = v := heq.1 c0
      exact ⟨.empty, by simp [c0], bal_empty, ord_empty, by simp [abs], by simp⟩
    · have nk : v ≠ x := fun e => c0 (heq.2 e.symm)
      refine ⟨.leaf v, by simp [c0], hb, ho, fun p => ?_, by simp⟩
      simp only [abs, List.mem_singleton]
      exact ⟨fun e => ⟨e, e ▸ nk⟩, fun h => h.1⟩
  | node h v l r ihl ihr =>
    have hlt := hc.lt x v; have heq := hc.eq x v; have hgt := hc.gt x v
    obtain ⟨ol, or, bl, br⟩ := ordered_node ho
    obtain ⟨bll, brr, hh, d1, d2, _, _⟩ := bal_node hb
    simp only [remove]
    by_cases c0 : cmp x v = 0
    · obtain rfl : x = v := heq.1 c0
      obtain ⟨t', e, b1, a1, g1, g2⟩ := internalMerge_spec l r bll brr d1 d2
      refine ⟨t', by simp [c0, e], b1, ?_, fun p => ?_, by simp only [height_node]; omega⟩
      · rw [Ordered, a1]; exact StdMap.pairwise_drop_mid ho
      · rw [a1]
        simp only [abs, List.mem_append, List.mem_cons]
        constructor
        · rintro (h1 | h1)
          · exact ⟨Or.inl h1, Std.ne_of_lt (bl p h1)⟩
          · exact ⟨Or.inr (Or.inr h1), (Std.ne_of_lt (br p h1)).symm⟩
        · rintro ⟨h1 | h1 | h1, ne⟩
          · exact Or.inl h1
          · exact absurd h1 ne
          · exact Or.inr h1
    · by_cases c1 : cmp x v < 0
      · have lt := hlt.1 c1
        obtain ⟨ll, e, b1, o1, m1, g1, g2⟩ := ihl bll ol
        obtain ⟨t', e2, b2, a2, _, g⟩ := balanced_left ll r v b1 brr hh d1 d2 g1 (by omega)
        -- `v` and all of `abs r` lie above `x`: only `abs l` loses a member, and nothing is new
        have mem : ∀ p, p ∈ abs ll ++ v :: abs r ↔ (p ∈ abs l ++ v :: abs r ∧ p ≠ x) := fun p => by
          simpa using StdMap.mem_replace_left (P := (· ≠ x)) (Q := fun _ => False) (by simpa using m1)
            (Std.ne_of_lt lt).symm
            (fun q hq => (Std.ne_of_lt (Std.lt_trans lt (br q hq))).symm) p
        by_cases same : l = ll
        · subst same
          exact ⟨.node h v l r, by simp [c0, c1, e], hb, ho, mem, by simp only [height_node]; omega⟩
        · refine ⟨t', by simp [c0, c1, e, same, e2], b2, ?_, by rw [a2]; exact mem, g g2⟩
          rw [Ordered, a2]
          exact StdMap.ordered_of_parts (f := id) o1 or (fun p hp => bl p ((m1 p).1 hp).1) br
      · have gt := hgt.1 (by omega)
        obtain ⟨rr, e, b1, o1, m1, g1, g2⟩ := ihr brr or
        obtain ⟨t', e2, b2, a2, _, g⟩ := balanced_right l rr v bll b1 hh d1 d2 g1 (by omega)
        -- `v` and all of `abs l` lie below `x`
        have mem : ∀ p, p ∈ abs l ++ v :: abs rr ↔ (p ∈ abs l ++ v :: abs r ∧ p ≠ x) := fun p => by
          simpa using StdMap.mem_replace_right (P := (· ≠ x)) (Q := fun _ => False) (by simpa using m1)
            (Std.ne_of_lt gt)
            (fun q hq => Std.ne_of_lt (Std.lt_trans (bl q hq) gt)) p
        by_cases same : r = rr
        · subst same
          exact ⟨.node h v l r, by simp [c0, c1, e], hb, ho, mem, by simp only [height_node]; omega⟩
        · refine ⟨t', by simp [c0, c1, e, same, e2], b2, ?_, by rw [a2]; exact mem, g g2⟩
          rw [Ordered, a2]
          exact StdMap.ordered_of_parts (f := id) ol o1 bl (fun p hp => br p ((m1 p).1 hp).1)

/-- `remove` never panics, keeps the invariant, and is `s \ {x}`. -/
theorem set_remove_refines {cmp : E → E → Int} (hc : Lawful cmp) (t : STree E)
    (x : E) (hi : Inv t) :
    ∃ t', remove cmp t x = some t' ∧ Inv t' ∧ ∀ p, p ∈ abs t' ↔ (p ∈ abs t ∧ p ≠ x) := by
  obtain ⟨t', e, b, o, m, _⟩ := remove_spec hc t x hi.1 hi.2
  exact ⟨t', e, ⟨b, o⟩, m⟩

theorem contains_spec {cmp : E → E → Int} (hc : Lawful cmp) (t : STree E)
    (ho : Ordered t) (x : E) : contains cmp t x = true ↔ x ∈ abs t := by
  induction t with
  | empty => simp [contains, abs]
  | leaf v =>
    have heq := hc.eq v x
    simp only [contains, abs, List.mem_singleton, decide_eq_true_eq]
    rw [heq]; exact eq_comm
  | node h v l r ihl ihr =>
    obtain ⟨ol, or, bl, br⟩ := ordered_node ho
    simp only [contains, Bool.or_eq_true, decide_eq_true_eq]
    by_cases c0 : cmp x v = 0
    · obtain rfl := (hc.eq x v).1 c0
      simp [c0, abs]
    · by_cases c1 : cmp x v < 0
      · simp only [c0, c1, if_true, false_or, ihl ol]
        exact (StdMap.mem_below (f := id) br ((hc.lt x v).1 c1)).symm
      · simp only [c0, c1, if_false, false_or, ihr or]
        exact (StdMap.mem_above (f := id) bl ((hc.gt x v).1 (by omega))).symm

theorem inv_join (x y : STree E) (v : E) (ix : Inv x) (iy : Inv y)
    (g1 : ∀ p ∈ abs x, p < v) (g2 : ∀ p ∈ abs y, v < p) :
    ∃ t, join x v y = some t ∧ Inv t ∧ ∀ p, p ∈ abs t ↔ (p ∈ abs x ∨ p = v ∨ p ∈ abs y) := by
  obtain ⟨t, e, b, a, _⟩ := join_spec x y v ix.1 iy.1
  refine ⟨t, e, ⟨b, ?_⟩, ?_⟩
  · simp only [Ordered, a]
    exact StdMap.ordered_of_parts (f := id) ix.2 iy.2 g1 g2
  · intro p; rw [a]; simp

theorem inv_concat (x y : STree E) (ix : Inv x) (iy : Inv y)
    (h : ∀ p ∈ abs x, ∀ q ∈ abs y, p < q) :
    ∃ t, concat x y = some t ∧ Inv t ∧ ∀ p, p ∈ abs t ↔ (p ∈ abs x ∨ p ∈ abs y) := by
  obtain ⟨t, e, b, a⟩ := set_concat_refines x y ix.1 iy.1
  refine ⟨t, e, ⟨b, ?_⟩, ?_⟩
  · simp only [Ordered, a, List.pairwise_append]
    exact ⟨ix.2, iy.2, h⟩
  · intro p; rw [a]; simp

/-- the two ways the set operations put their results around a pivot: `concat` drops it, `join`
keeps it (for maps `StdMap.glue_spec`, where the pivot's value is optional) -/
theorem inv_glue (x y : STree E) (v : E) (keep : Bool) (ix : Inv x) (iy : Inv y)
    (g1 : ∀ p ∈ abs x, p < v) (g2 : ∀ p ∈ abs y, v < p) :
    ∃ t, (if keep then join x v y else concat x y) = some t ∧ Inv t ∧
      ∀ p, p ∈ abs t ↔ (p ∈ abs x ∨ (keep = true ∧ p = v) ∨ p ∈ abs y) := by
  cases keep with
  | false =>
    simpa using inv_concat x y ix iy fun p hp q hq => Std.lt_trans (g1 p hp) (g2 q hq)
  | true => simpa using inv_join x y v ix iy g1 g2

theorem split_len {cmp : E → E → Int} (hc : Lawful cmp) (t : STree E) (key : E)
    (hi : Inv t) :
    ∃ l pres r, split cmp t key = some (l, pres, r) ∧ Inv l ∧ Inv r ∧
      (∀ p, p ∈ abs t ↔ (p ∈ abs l ∨ (pres = true ∧ p = key) ∨ p ∈ abs r)) ∧
      (∀ p ∈ abs l, p < key) ∧ (∀ p ∈ abs r, key < p) ∧
      (abs l).length ≤ (abs t).length ∧ (abs r).length ≤ (abs t).length := by
  obtain ⟨l, pres, r, e, b1, b2, a, g1, g2⟩ := split_spec hc t key hi.1 hi.2
  have ho := hi.2
  rw [Ordered, a] at ho
  obtain ⟨o1, o2⟩ : Ordered l ∧ Ordered r := StdMap.pairwise_outer ho
  have mem : ∀ p, p ∈ abs t ↔ (p ∈ abs l ∨ (pres = true ∧ p = key) ∨ p ∈ abs r) := fun p => by
    rw [a]; cases pres <;> simp [midList]
  have len : (abs t).length = (abs l).length + (midList key pres).length + (abs r).length := by
    rw [a, List.length_append, List.length_append]
  exact ⟨l, pres, r, e, ⟨b1, o1⟩, ⟨b2, o2⟩, mem, g1, g2, by omega, by omega⟩

theorem set_split_refines {cmp : E → E → Int} (hc : Lawful cmp) (t : STree E)
    (key : E) (hi : Inv t) :
    ∃ l pres r, split cmp t key = some (l, pres, r) ∧ Inv l ∧ Inv r ∧
      (∀ p, p ∈ abs t ↔ (p ∈ abs l ∨ (pres = true ∧ p = key) ∨ p ∈ abs r)) ∧
      (∀ p ∈ abs l, p < key) ∧ (∀ p ∈ abs r, key < p) := by
  obtain ⟨l, pres, r, e, i1, i2, m, g1, g2, _⟩ := split_len hc t key hi
  exact ⟨l, pres, r, e, i1, i2, m, g1, g2⟩

/-- Two sets cut at a pivot `v`: `p` is in `sᵢ` iff it is in the part `lᵢ` below `v`, or is `v` and
`cᵢ` holds, or is in the part `rᵢ` above.  A pointwise combination `op` of the two sets that is
false on two false arguments is cut the same way; `union`, `intersection` and `diff` recurse so.
(Maps are cut the same way, through lookups in place of membership: `StdMap.pivot_step`.) -/
theorem pivot_combine (op : Prop → Prop → Prop) (h0 : ¬ op False False) {p v : E}
    {s1 s2 l1 l2 c1 c2 r1 r2 : Prop}
    (h1 : s1 ↔ l1 ∨ (c1 ∧ p = v) ∨ r1) (h2 : s2 ↔ l2 ∨ (c2 ∧ p = v) ∨ r2)
    (hl1 : l1 → p < v) (hl2 : l2 → p < v) (hr1 : r1 → v < p) (hr2 : r2 → v < p) :
    op s1 s2 ↔ op l1 l2 ∨ (op c1 c2 ∧ p = v) ∨ op r1 r2 := by
  have irr := fun {a b : E} (h : a < b) (h' : b < a) => Std.lt_irrefl (Std.lt_trans h h')
  rcases Std.lt_trichotomy p v with c | c | c
  · obtain rfl : r1 = False := eq_false fun h => irr c (hr1 h)
    obtain rfl : r2 = False := eq_false fun h => irr c (hr2 h)
    simp only [Std.ne_of_lt c, and_false, or_false, false_or] at h1 h2 ⊢
    simp only [h1, h2, h0, or_false]
  · subst c
    obtain rfl : l1 = False := eq_false fun h => Std.lt_irrefl (hl1 h)
    obtain rfl : l2 = False := eq_false fun h => Std.lt_irrefl (hl2 h)
    obtain rfl : r1 = False := eq_false fun h => Std.lt_irrefl (hr1 h)
    obtain rfl : r2 = False := eq_false fun h => Std.lt_irrefl (hr2 h)
    simp only [and_true, or_false, false_or] at h1 h2 ⊢
    simp only [h1, h2, h0, or_false, false_or]
  · obtain rfl : l1 = False := eq_false fun h => irr c (hl1 h)
    obtain rfl : l2 = False := eq_false fun h => irr c (hl2 h)
    simp only [(Std.ne_of_lt c).symm, and_false, false_or] at h1 h2 ⊢
    simp only [h1, h2, h0, false_or]

theorem inv_node {h : Int} {v : E} {l r : STree E} (hi : Inv (.node h v l r)) :
    Inv l ∧ Inv r ∧ (∀ p ∈ abs l, p < v) ∧ (∀ p ∈ abs r, v < p) := by
  obtain ⟨ol, or, bl, br⟩ := ordered_node hi.2
  obtain ⟨bll, brr, _⟩ := bal_node hi.1
  exact ⟨⟨bll, ol⟩, ⟨brr, or⟩, bl, br⟩

/-- `union` answers the same for every fuel above the sum of the sizes: the induction is on that bound,
not on the fuel, so that the result `t` is chosen before the fuel.  (`StdMap.customizedUnion_mono`
says it of all trees, invariant or not, and so has to walk the definition.) -/
theorem union_total {cmp : E → E → Int} (hc : Lawful cmp) :
    ∀ (n : Nat) (a b : STree E), Inv a → Inv b → (abs a).length + (abs b).length < n →
      ∃ t, (∀ fuel, n ≤ fuel → union cmp fuel a b = some (some t)) ∧ Inv t ∧
        ∀ p, p ∈ abs t ↔ (p ∈ abs a ∨ p ∈ abs b) := by
  intro n
  induction n with
  | zero => intro a b _ _ h; omega
  | succ n ih =>
    intro a b ha hb hf
    -- a fuel from `n + 1` on is a successor, so `union` unfolds once
    suffices ∃ t, (∀ fuel, n ≤ fuel → union cmp (fuel + 1) a b = some (some t)) ∧ Inv t ∧
        ∀ p, p ∈ abs t ↔ (p ∈ abs a ∨ p ∈ abs b) by
      obtain ⟨t, e, r⟩ := this
      refine ⟨t, fun fuel h => ?_, r⟩
      obtain ⟨m, rfl⟩ : ∃ m, fuel = m + 1 := ⟨fuel - 1, by omega⟩
      exact e m (by omega)
    cases a with
    | empty => exact ⟨b, by simp [union], hb, by simp [abs]⟩
    | leaf v =>
      cases b with
      | empty => exact ⟨.leaf v, by simp [union], ha, by simp [abs]⟩
      | leaf v2 =>
        obtain ⟨t, e, i, m⟩ := set_insert_refines hc (.leaf v2) v hb
        exact ⟨t, by simp [union, e], i, by intro p; rw [m]; simp [abs]⟩
      | node h2 v2 l2 r2 =>
        obtain ⟨t, e, i, m⟩ := set_insert_refines hc (.node h2 v2 l2 r2) v hb
        exact ⟨t, by simp [union, e], i, by intro p; rw [m]; simp [abs]⟩
    | node h1 v1 l1 r1 =>
      cases b with
      | empty => exact ⟨.node h1 v1 l1 r1, by simp [union], ha, by simp [abs]⟩
      | leaf v2 =>
        obtain ⟨t, e, i, m⟩ := set_insert_refines hc (.node h1 v1 l1 r1) v2 ha
        exact ⟨t, by simp [union, e], i, by intro p; rw [m]; simp [abs]; exact or_comm⟩
      | node h2 v2 l2 r2 =>
        obtain ⟨il1, ir1, bl1, br1⟩ := inv_node ha
        obtain ⟨il2, ir2, bl2, br2⟩ := inv_node hb
        have la : (abs (STree.node h1 v1 l1 r1)).length = (abs l1).length + 1 + (abs r1).length := by
          simp [abs]; omega
        have lb : (abs (STree.node h2 v2 l2 r2)).length = (abs l2).length + 1 + (abs r2).length := by
          simp [abs]; omega
        by_cases c : h1 ≥ h2
        · by_cases c2 : h2 = 1
          · have := bal_node_ge hb.1
            omega
          · obtain ⟨ll2, pres, rr2, es, i1, i2, mb, g1, g2, n1, n2⟩ := split_len hc (.node h2 v2 l2 r2) v1 hb
            obtain ⟨x, ex, ix, mx⟩ := ih l1 ll2 il1 i1 (by omega)
            obtain ⟨y, ey, iy, my⟩ := ih r1 rr2 ir1 i2 (by omega)
            obtain ⟨t, et, it, mt⟩ := inv_join x y v1 ix iy
              (fun p hp => ((mx p).1 hp).elim (bl1 p) (g1 p))
              (fun p hp => ((my p).1 hp).elim (br1 p) (g2 p))
            refine ⟨t, fun fuel h => by simp [union, c, c2, es, ex fuel h, ey fuel h, et], it, fun p => ?_⟩
            rw [mt, mx, my]
            simpa using (pivot_combine Or (by simp) (c1 := True) (s1 := p ∈ abs (.node h1 v1 l1 r1))
              (by simp [abs]) (mb p) (bl1 p) (g1 p) (br1 p) (g2 p)).symm
        · by_cases c2 : h1 = 1
          · have := bal_node_ge ha.1
            omega
          · obtain ⟨ll1, pres, rr1, es, i1, i2, ma, g1, g2, n1, n2⟩ := split_len hc (.node h1 v1 l1 r1) v2 ha
            obtain ⟨x, ex, ix, mx⟩ := ih ll1 l2 i1 il2 (by omega)
            obtain ⟨y, ey, iy, my⟩ := ih rr1 r2 i2 ir2 (by omega)
            obtain ⟨t, et, it, mt⟩ := inv_join x y v2 ix iy
              (fun p hp => ((mx p).1 hp).elim (g1 p) (bl2 p))
              (fun p hp => ((my p).1 hp).elim (g2 p) (br2 p))
            refine ⟨t, fun fuel h => by simp [union, c, c2, es, ex fuel h, ey fuel h, et], it, fun p => ?_⟩
            rw [mt, mx, my]
            simpa using (pivot_combine Or (by simp) (c2 := True) (s2 := p ∈ abs (.node h2 v2 l2 r2))
              (ma p) (by simp [abs]) (g1 p) (bl2 p) (g2 p) (br2 p)).symm

/-- **`union`, total**: with fuel above the sum of the sizes the fuelled `union` returns a result
(never runs out of fuel, never panics) and that result is the set union. -/
theorem union_spec {cmp : E → E → Int} (hc : Lawful cmp) :
    ∀ (fuel : Nat) (a b : STree E), Inv a → Inv b →
      (abs a).length + (abs b).length < fuel →
      ∃ t, union cmp fuel a b = some (some t) ∧ Inv t ∧ ∀ p, p ∈ abs t ↔ (p ∈ abs a ∨ p ∈ abs b) := by
  intro fuel a b ha hb hf
  obtain ⟨t, e, r⟩ := union_total hc fuel a b ha hb hf
  exact ⟨t, e fuel (Nat.le_refl _), r⟩

theorem intersection_leaf (cmp : E → E → Int) (v : E) {b : STree E} (hb : b ≠ .empty) :
    intersection cmp (.leaf v) b = if contains cmp b v then some (.leaf v) else some .empty := by
  cases b with
  | empty => exact absurd rfl hb
  | leaf _ | node _ _ _ _ => simp only [intersection]

theorem intersection_node (cmp : E → E → Int) (h : Int) (v : E) (l r : STree E) {b : STree E}
    (hb : b ≠ .empty) :
    intersection cmp (.node h v l r) b =
      match split cmp b v with
      | none => none
      | some (l2, p, r2) =>
        match intersection cmp l l2 with
        | none => none
        | some a =>
          match intersection cmp r r2 with
          | none => none
          | some c => if p then join a v c else concat a c := by
  cases b with
  | empty => exact absurd rfl hb
  | leaf _ | node _ _ _ _ => rfl

theorem diff_leaf (cmp : E → E → Int) (v : E) {b : STree E} (hb : b ≠ .empty) :
    diff cmp (.leaf v) b = if contains cmp b v then some .empty else some (.leaf v) := by
  cases b with
  | empty => exact absurd rfl hb
  | leaf _ | node _ _ _ _ => simp only [diff]

theorem diff_node (cmp : E → E → Int) (h : Int) (v : E) (l r : STree E) {b : STree E}
    (hb : b ≠ .empty) :
    diff cmp (.node h v l r) b =
      match split cmp b v with
      | none => none
      | some (l2, p, r2) =>
        match diff cmp l l2 with
        | none => none
        | some a =>
          match diff cmp r r2 with
          | none => none
          | some c => if p then concat a c else join a v c := by
  cases b with
  | empty => exact absurd rfl hb
  | leaf _ | node _ _ _ _ => rfl

/-- **`intersection`**: no panic, invariant kept, and the result is the set intersection. -/
theorem set_intersection_refines {cmp : E → E → Int} (hc : Lawful cmp)
    (a b : STree E) (ha : Inv a) (hb : Inv b) :
    ∃ t, intersection cmp a b = some t ∧ Inv t ∧ ∀ p, p ∈ abs t ↔ (p ∈ abs a ∧ p ∈ abs b) := by
  induction a generalizing b with
  | empty => exact ⟨.empty, rfl, inv_empty, by simp [abs]⟩
  | leaf v =>
    have cs := contains_spec hc b hb.2 v
    by_cases e : b = .empty
    · subst e; exact ⟨.empty, rfl, inv_empty, by simp [abs]⟩
    · by_cases c : contains cmp b v = true
      · refine ⟨.leaf v, by rw [intersection_leaf cmp v e, if_pos c], ha, ?_⟩
        intro p; simp only [abs, List.mem_singleton]
        constructor
        · intro h; subst h; exact ⟨rfl, cs.1 c⟩
        · exact fun h => h.1
      · refine ⟨.empty, by rw [intersection_leaf cmp v e, if_neg c], inv_empty, ?_⟩
        intro p; simp only [abs, List.mem_singleton, List.not_mem_nil, false_iff]
        rintro ⟨h1, h2⟩; subst h1; exact c (cs.2 h2)
  | node h v l r ihl ihr =>
    by_cases e : b = .empty
    · subst e; exact ⟨.empty, rfl, inv_empty, by simp [abs]⟩
    obtain ⟨il, ir, bl, br⟩ := inv_node ha
    obtain ⟨l2, pres, r2, es, i1, i2, mb, g1, g2⟩ := set_split_refines hc b v hb
    obtain ⟨x, ex, ix, mx⟩ := ihl l2 il i1
    obtain ⟨y, ey, iy, my⟩ := ihr r2 ir i2
    have hx : ∀ p ∈ abs x, p < v := fun p hp => bl p ((mx p).1 hp).1
    have hy : ∀ p ∈ abs y, v < p := fun p hp => br p ((my p).1 hp).1
    obtain ⟨t, et, it, mt⟩ := inv_glue x y v pres ix iy hx hy
    refine ⟨t, by rw [intersection_node cmp h v l r e]; simpa only [es, ex, ey] using et, it, fun p => ?_⟩
    rw [mt, mx, my]
    simpa using (pivot_combine And (by simp) (c1 := True) (s1 := p ∈ abs (.node h v l r)) (by simp [abs])
      (mb p) (bl p) (g1 p) (br p) (g2 p)).symm

/-- **`diff`**: no panic, invariant kept, and the result is the set difference. -/
theorem set_diff_refines {cmp : E → E → Int} (hc : Lawful cmp)
    (a b : STree E) (ha : Inv a) (hb : Inv b) :
    ∃ t, diff cmp a b = some t ∧ Inv t ∧ ∀ p, p ∈ abs t ↔ (p ∈ abs a ∧ p ∉ abs b) := by
  induction a generalizing b with
  | empty => exact ⟨.empty, rfl, inv_empty, by simp [abs]⟩
  | leaf v =>
    have cs := contains_spec hc b hb.2 v
    by_cases e : b = .empty
    · subst e; exact ⟨.leaf v, rfl, ha, by simp [abs]⟩
    · by_cases c : contains cmp b v = true
      · refine ⟨.empty, by rw [diff_leaf cmp v e, if_pos c], inv_empty, ?_⟩
        intro p; simp only [abs, List.mem_singleton, List.not_mem_nil, false_iff]
        rintro ⟨h1, h2⟩; subst h1; exact h2 (cs.1 c)
      · refine ⟨.leaf v, by rw [diff_leaf cmp v e, if_neg c], ha, ?_⟩
        intro p; simp only [abs, List.mem_singleton]
        constructor
        · intro h; subst h; exact ⟨rfl, fun h2 => c (cs.2 h2)⟩
        · exact fun h => h.1
  | node h v l r ihl ihr =>
    by_cases e : b = .empty
    · subst e; exact ⟨.node h v l r, rfl, ha, by simp [abs]⟩
    obtain ⟨il, ir, bl, br⟩ := inv_node ha
    obtain ⟨l2, pres, r2, es, i1, i2, mb, g1, g2⟩ := set_split_refines hc b v hb
    obtain ⟨x, ex, ix, mx⟩ := ihl l2 il i1
    obtain ⟨y, ey, iy, my⟩ := ihr r2 ir i2
    have hx : ∀ p ∈ abs x, p < v := fun p hp => bl p ((mx p).1 hp).1
    have hy : ∀ p ∈ abs y, v < p := fun p hp => br p ((my p).1 hp).1
    obtain ⟨t, et, it, mt⟩ := inv_glue x y v (!pres) ix iy hx hy
    refine ⟨t, by rw [diff_node cmp h v l r e]; simp only [es, ex, ey]; cases pres <;> exact et, it, fun p => ?_⟩
    rw [mt, mx, my]
    simpa using (pivot_combine (fun a b => a ∧ ¬ b) (by simp) (c1 := True) (s1 := p ∈ abs (.node h v l r))
      (by simp [abs]) (mb p) (bl p) (g1 p) (br p) (g2 p)).symm

theorem fromList_spec {cmp : E → E → Int} (hc : Lawful cmp) (xs : List E) :
    ∀ (acc : STree E), Inv acc →
    ∃ t, fromList cmp xs acc = some t ∧ Inv t ∧ ∀ p, p ∈ abs t ↔ (p ∈ xs ∨ p ∈ abs acc) := by
  induction xs with
  | nil => intro acc hi; exact ⟨acc, rfl, hi, by simp⟩
  | cons x xs ih =>
    intro acc hi
    obtain ⟨t1, e1, i1, m1⟩ := set_insert_refines hc acc x hi
    obtain ⟨t2, e2, i2, m2⟩ := ih t1 i1
    refine ⟨t2, by simp [fromList, e1, e2], i2, ?_⟩
    intro p; rw [m2, m1]; simp only [List.mem_cons]
    constructor
    · rintro (h | h | h)
      · exact Or.inl (Or.inr h)
      · exact Or.inl (Or.inl h)
      · exact Or.inr h
    · rintro ((h | h) | h)
      · exact Or.inr (Or.inl h)
      · exact Or.inl h
      · exact Or.inr (Or.inr h)

theorem nodup_of_sorted {l : List E} (hl : l.Pairwise (fun a b => a < b)) : l.Nodup :=
  hl.imp Std.ne_of_lt

/-- two strictly ascending lists with the same members are equal -/
theorem sorted_ext :
    ∀ (xs ys : List E), xs.Pairwise (fun a b => a < b) → ys.Pairwise (fun a b => a < b) →
      (∀ x, x ∈ xs ↔ x ∈ ys) → xs = ys := by
  intro xs ys hx hy h
  -- strictly ascending lists have no duplicates, so equal members make them permutations of each other
  exact ((List.perm_ext_iff_of_nodup (nodup_of_sorted hx) (nodup_of_sorted hy)).mpr h).eq_of_pairwise
    (fun a b _ _ h1 h2 => (Std.lt_irrefl (Std.lt_trans h1 h2)).elim) hx hy

/-- shape facts `subset` relies on (weaker than `Bal`; preserved by the `unsafeNode` calls inside
`subset`, which build unbalanced trees): a `Node` has stored height ≥ 2 and a non-empty child. -/
def Shape : STree E → Prop
  | .empty => True
  | .leaf _ => True
  | .node h _ l r => Shape l ∧ Shape r ∧ h ≥ 2 ∧ (abs l ≠ [] ∨ abs r ≠ [])

theorem shape_of_bal (t : STree E) (hb : Bal t) : Shape t := by
  induction t with
  | empty => trivial
  | leaf v => trivial
  | node h v l r ihl ihr =>
    obtain ⟨bl, br, hh, d1, d2, nl, nr⟩ := bal_node hb
    have hge := bal_node_ge hb
    refine ⟨ihl bl, ihr br, hge, ?_⟩
    -- `2 ≤ h = max (height l) (height r) + 1` gives one child a height ≥ 1, and a tree with nothing to
    -- enumerate is `empty`, of height 0
    have h0 : ∀ t : STree E, abs t = [] → height t = 0 := fun t e => by
      cases t with
      | empty => rfl
      | leaf a => simp [abs] at e
      | node _ a _ _ => simp [abs] at e
    by_cases c : height l ≥ 1
    · exact Or.inl fun e => by have := h0 l e; omega
    · exact Or.inr fun e => by have := h0 r e; omega

theorem shape_unsafeNode_left (l : STree E) (v : E) (hs : Shape l) :
    Shape (unsafeNode l v .empty) ∧ abs (unsafeNode l v .empty) = abs l ++ [v] := by
  cases l with
  | empty => simp [unsafeNode, Shape, abs]
  | leaf a => simp [unsafeNode, Shape, abs]
  | node h a l' r' =>
    simp only [Shape] at hs
    simp [unsafeNode, Shape, abs, hs]
    omega

theorem shape_unsafeNode_right (r : STree E) (v : E) (hs : Shape r) :
    Shape (unsafeNode .empty v r) ∧ abs (unsafeNode .empty v r) = v :: abs r := by
  cases r with
  | empty => simp [unsafeNode, Shape, abs]
  | leaf a => simp [unsafeNode, Shape, abs]
  | node h a l' r' =>
    simp only [Shape] at hs
    simp [unsafeNode, Shape, abs, hs]
    omega

/-- **`subset`, total**: fuel above the sum of the sizes suffices and the answer is set inclusion. -/
theorem subset_spec {cmp : E → E → Int} (hc : Lawful cmp) :
    ∀ (fuel : Nat) (a b : STree E), Shape a → Ordered a → Shape b → Ordered b →
      (abs a).length + (abs b).length < fuel →
      ∃ r, subset cmp fuel a b = some r ∧ (r = true ↔ ∀ x ∈ abs a, x ∈ abs b) := by
  intro fuel
  induction fuel with
  | zero => intro a b _ _ _ _ h; omega
  | succ fuel ih =>
    intro a b sa oa sb ob hf
    cases a with
    | empty => exact ⟨true, by simp [subset], by simp [abs]⟩
    | leaf v1 =>
      cases b with
      | empty => exact ⟨false, by simp [subset], by simp [abs]⟩
      | leaf v2 =>
        refine ⟨decide (cmp v1 v2 = 0), by simp [subset], ?_⟩
        simp [abs, hc.eq v1 v2]
      | node h2 v2 l2 r2 =>
        obtain ⟨ol2, or2, bl2, br2⟩ := ordered_node ob
        simp only [Shape] at sb
        have lb : (abs (STree.node h2 v2 l2 r2)).length = (abs l2).length + 1 + (abs r2).length := by
          simp [abs]; omega
        by_cases c0 : cmp v1 v2 = 0
        · exact ⟨true, by simp [subset, c0], by simp [abs, (hc.eq v1 v2).1 c0]⟩
        · by_cases c1 : cmp v1 v2 < 0
          · obtain ⟨r, e, hr⟩ := ih (.leaf v1) l2 sa oa sb.1 ol2 (by simp [abs] at hf ⊢; omega)
            refine ⟨r, by simp [subset, c0, c1, e], hr.trans ?_⟩
            simpa [abs] using (StdMap.mem_below (f := id) br2 ((hc.lt v1 v2).1 c1)).symm
          · obtain ⟨r, e, hr⟩ := ih (.leaf v1) r2 sa oa sb.2.1 or2 (by simp [abs] at hf ⊢; omega)
            refine ⟨r, by simp [subset, c0, c1, e], hr.trans ?_⟩
            simpa [abs] using (StdMap.mem_above (f := id) bl2 ((hc.gt v1 v2).1 (by omega))).symm
    | node h1 v1 l1 r1 =>
      obtain ⟨ol1, or1, bl1, br1⟩ := ordered_node oa
      have sa' := sa
      simp only [Shape] at sa
      have la : (abs (STree.node h1 v1 l1 r1)).length = (abs l1).length + 1 + (abs r1).length := by
        simp [abs]; omega
      cases b with
      | empty =>
        refine ⟨false, by simp [subset], ?_⟩
        simp only [Bool.false_eq_true, false_iff]
        intro h; have := h v1 (by simp [abs]); simp [abs] at this
      | leaf v2 =>
        refine ⟨false, ?_, ?_⟩
        · have : h1 ≠ 1 := by omega
          simp [subset, this]
        · -- a second element `y` beside `v1` would be equal to it
          simp only [Bool.false_eq_true, false_iff, abs, List.mem_singleton]
          intro h
          have e2 := h v1 (by simp)
          rcases sa.2.2.2 with hne | hne
          · obtain ⟨y, hy⟩ := List.exists_mem_of_ne_nil _ hne
            exact Std.ne_of_lt (bl1 y hy) ((h y (by simp [hy])).trans e2.symm)
          · obtain ⟨y, hy⟩ := List.exists_mem_of_ne_nil _ hne
            exact Std.ne_of_lt (br1 y hy) (e2.trans (h y (by simp [hy])).symm)
      | node h2 v2 l2 r2 =>
        obtain ⟨ol2, or2, bl2, br2⟩ := ordered_node ob
        have sb' := sb
        simp only [Shape] at sb
        have hlt := hc.lt v1 v2; have heq := hc.eq v1 v2; have hgt := hc.gt v1 v2
        have lb : (abs (STree.node h2 v2 l2 r2)).length = (abs l2).length + 1 + (abs r2).length := by
          simp [abs]; omega
        -- in each case the operands of the recursive calls lie on one side of `v2`
        by_cases c0 : cmp v1 v2 = 0
        · obtain rfl := heq.1 c0
          obtain ⟨ra, ea, hra⟩ := ih l1 l2 sa.1 ol1 sb.1 ol2 (by omega)
          obtain ⟨rb, eb, hrb⟩ := ih r1 r2 sa.2.1 or1 sb.2.1 or2 (by omega)
          refine ⟨ra && rb, by cases ra <;> simp [subset, c0, ea, eb], ?_⟩
          have e1 : ∀ x ∈ abs l1, (x ∈ abs l2 ++ v1 :: abs r2 ↔ x ∈ abs l2) := fun x hx => StdMap.mem_below (f := id) br2 (bl1 x hx)
          have e2 : ∀ x ∈ abs r1, (x ∈ abs l2 ++ v1 :: abs r2 ↔ x ∈ abs r2) := fun x hx => StdMap.mem_above (f := id) bl2 (br1 x hx)
          rw [Bool.and_eq_true, hra, hrb, ← forall₂_congr e1, ← forall₂_congr e2]
          simp only [abs, List.forall_mem_append, List.forall_mem_cons]
          simp
        · by_cases c1 : cmp v1 v2 < 0
          · have lt := hlt.1 c1
            obtain ⟨su, au⟩ := shape_unsafeNode_left l1 v1 sa.1
            have ou : Ordered (unsafeNode l1 v1 .empty) := by
              simp only [Ordered, au, List.pairwise_append]
              exact ⟨ol1, by simp, fun x hx y hy => by simp at hy; rw [hy]; exact bl1 x hx⟩
            obtain ⟨ra, ea, hra⟩ := ih (unsafeNode l1 v1 .empty) l2 su ou sb.1 ol2 (by rw [au]; simp; omega)
            obtain ⟨rb, eb, hrb⟩ := ih r1 (.node h2 v2 l2 r2) sa.2.1 or1 sb' ob (by omega)
            refine ⟨ra && rb, by cases ra <;> simp [subset, c0, c1, ea, eb], ?_⟩
            have e1 : ∀ x ∈ abs l1 ++ [v1], (x ∈ abs l2 ++ v2 :: abs r2 ↔ x ∈ abs l2) := fun x hx =>
              StdMap.mem_below (f := id) br2 (by
                rcases List.mem_append.1 hx with h | h
                · exact Std.lt_trans (bl1 x h) lt
                · rw [List.mem_singleton.1 h]; exact lt)
            rw [Bool.and_eq_true, hra, hrb, au, ← forall₂_congr e1]
            simp only [abs, List.forall_mem_append, List.forall_mem_cons]
            simp [and_assoc]
          · have gt := hgt.1 (by omega)
            obtain ⟨su, au⟩ := shape_unsafeNode_right r1 v1 sa.2.1
            have ou : Ordered (unsafeNode .empty v1 r1) := by
              simp only [Ordered, au, List.pairwise_cons]
              exact ⟨br1, or1⟩
            obtain ⟨ra, ea, hra⟩ := ih (unsafeNode .empty v1 r1) r2 su ou sb.2.1 or2 (by rw [au]; simp; omega)
            obtain ⟨rb, eb, hrb⟩ := ih l1 (.node h2 v2 l2 r2) sa.1 ol1 sb' ob (by omega)
            refine ⟨ra && rb, by cases ra <;> simp [subset, c0, c1, ea, eb], ?_⟩
            have e1 : ∀ x ∈ v1 :: abs r1, (x ∈ abs l2 ++ v2 :: abs r2 ↔ x ∈ abs r2) := fun x hx =>
              StdMap.mem_above (f := id) bl2 (by
                rcases List.mem_cons.1 hx with h | h
                · rw [h]; exact gt
                · exact Std.lt_trans gt (br1 x h))
            rw [Bool.and_eq_true, hra, hrb, au, ← forall₂_congr e1]
            simp only [abs, List.forall_mem_append, List.forall_mem_cons]
            exact and_comm

theorem le_last (xs : List E) (hp : xs.Pairwise (fun a b => a < b)) (m : E)
    (hm : xs.getLast? = some m) : ∀ x ∈ xs, x ≤ m := by
  induction xs with
  | nil => simp
  | cons a as ih =>
    simp only [List.pairwise_cons] at hp
    cases as with
    | nil => simp at hm; subst hm; simp
    | cons b bs =>
      rw [List.getLast?_cons_cons] at hm
      intro x hx
      rcases List.mem_cons.1 hx with e | e
      · subst e
        have h1 := ih hp.2 hm b (by simp)
        have h2 := hp.1 b (by simp)
        exact Std.le_trans (Std.le_of_lt h2) h1
      · exact ih hp.2 hm x e

theorem head_le (xs : List E) (hp : xs.Pairwise (fun a b => a < b)) (m : E)
    (hm : xs.head? = some m) : ∀ x ∈ xs, m ≤ x := by
  cases xs with
  | nil => simp
  | cons a as =>
    simp at hm; subst hm
    simp only [List.pairwise_cons] at hp
    intro x hx
    rcases List.mem_cons.1 hx with e | e
    · subst e; exact Std.le_refl _
    · exact Std.le_of_lt (hp.1 x e)

theorem okLeft_spec {cmp : E → E → Int} (hc : Lawful cmp) (l : STree E) (v : E) (ol : Ordered l) :
    ∃ bl : Bool, okLeft cmp l v = some bl ∧ (bl = true → ∀ x ∈ abs l, x < v) := by
  unfold okLeft
  cases hl : isEmpty l
  · have ne := abs_ne_nil_of_not_isEmpty l hl
    rw [set_max_refines]
    cases hm : (abs l).getLast? with
    | none => simp [List.getLast?_eq_none_iff] at hm; exact absurd hm ne
    | some m =>
      refine ⟨decide (cmp m v < 0), by simp, ?_⟩
      intro hb x hx
      have le := le_last (abs l) ol m hm x hx
      have lt := (hc.lt m v).1 (by simpa using hb)
      exact Std.lt_of_le_of_lt le lt
  · refine ⟨true, by simp, ?_⟩
    intro _ x hx; rw [(isEmpty_iff l).1 hl] at hx; simp at hx

theorem okRight_spec {cmp : E → E → Int} (hc : Lawful cmp) (r : STree E) (v : E) (or : Ordered r) :
    ∃ br : Bool, okRight cmp r v = some br ∧ (br = true → ∀ x ∈ abs r, v < x) := by
  unfold okRight
  cases hr : isEmpty r
  · have ne := abs_ne_nil_of_not_isEmpty r hr
    rw [set_min_refines]
    cases hm : (abs r).head? with
    | none => simp at hm; exact absurd hm ne
    | some m =>
      refine ⟨decide (cmp v m < 0), by simp, ?_⟩
      intro hb x hx
      have le := head_le (abs r) or m hm x hx
      have lt := (hc.lt v m).1 (by simpa using hb)
      exact Std.lt_of_lt_of_le lt le
  · refine ⟨true, by simp, ?_⟩
    intro _ x hx; rw [(isEmpty_iff r).1 hr] at hx; simp at hx

/-- **`tryJoin`, total**: where `okLeft` and `okRight` both say `v` separates `l` from `r` it is
`join`; otherwise it falls back to `union l (insert r v)`, for which the fuel suffices because the
insertion adds at most one element.  Either way the result holds `l`, `v` and `r`. -/
theorem tryJoin_spec {cmp : E → E → Int} (hc : Lawful cmp) (fuel : Nat)
    (l r : STree E) (v : E) (il : Inv l) (ir : Inv r)
    (hf : (abs l).length + (abs r).length + 1 < fuel) :
    ∃ t, tryJoin cmp fuel l v r = some (some t) ∧ Inv t ∧
      ∀ y, y ∈ abs t ↔ (y ∈ abs l ∨ y = v ∨ y ∈ abs r) := by
  obtain ⟨bl, el, pl⟩ := okLeft_spec hc l v il.2
  obtain ⟨br, er, pr⟩ := okRight_spec hc r v ir.2
  by_cases hb : bl = true ∧ br = true
  · obtain ⟨t, et, it, mt⟩ := inv_join l r v il ir (pl hb.1) (pr hb.2)
    refine ⟨t, ?_, it, mt⟩
    simp only [tryJoin, el]
    obtain ⟨h1, h2⟩ := hb
    subst h1
    simp only [Bool.not_true, Bool.false_eq_true, if_false, er]
    subst h2
    simp [et]
  · obtain ⟨r', ei, ii, mi⟩ := set_insert_refines hc r v ir
    have lr' : (abs r').length ≤ (abs r).length + 1 :=
      (nodup_of_sorted ii.2).length_le_of_subset (l₂ := v :: abs r)
        (fun y hy => by rcases (mi y).1 hy with h | h <;> simp [h])
    obtain ⟨tu, eu, iu, mu⟩ := union_spec hc fuel l r' il ii (by omega)
    refine ⟨tu, ?_, iu, fun y => by rw [mu, mi]⟩
    simp only [tryJoin, el]
    cases bl with
    | false => simp [ei, eu]
    | true =>
      simp only [Bool.not_true, Bool.false_eq_true, if_false, er]
      cases br with
      | false => simp [ei, eu]
      | true => exact absurd ⟨rfl, rfl⟩ hb

/-- **`Set.map`, total**: fuel above the size suffices; the result is the image set. `refEq` is any
sound approximation of equality (the source uses reference equality). -/
theorem map_spec {cmp : E → E → Int} (hc : Lawful cmp) (refEq : E → E → Bool)
    (hre : ∀ a b, refEq a b = true → a = b) (f : E → E) (fuel : Nat) (t : STree E) (hi : Inv t)
    (hf : (abs t).length < fuel) :
    ∃ t', map cmp refEq f fuel t = some (some t') ∧ Inv t' ∧
      (∀ y, y ∈ abs t' ↔ ∃ x ∈ abs t, f x = y) ∧ (abs t').length ≤ (abs t).length := by
  induction t with
  | empty => exact ⟨.empty, rfl, hi, by simp [abs], by simp⟩
  | leaf v =>
    simp only [map]
    by_cases c : refEq (f v) v = true
    · have e := hre _ _ c
      exact ⟨.leaf v, by simp [c], hi, by simp [abs, e]; intro y; exact eq_comm, by simp⟩
    · exact ⟨.leaf (f v), by simp [c], inv_leaf _, by simp [abs]; intro y; exact eq_comm, by simp [abs]⟩
  | node h v l r ihl ihr =>
    obtain ⟨il, ir, bl, br⟩ := inv_node hi
    have la : (abs (STree.node h v l r)).length = (abs l).length + 1 + (abs r).length := by
      simp [abs]; omega
    obtain ⟨newL, e1, i1, m1, n1⟩ := ihl il (by omega)
    obtain ⟨newR, e2, i2, m2, n2⟩ := ihr ir (by omega)
    simp only [map, e1, e2]
    have img : ∀ y, (y ∈ abs newL ∨ y = f v ∨ y ∈ abs newR) ↔ ∃ x ∈ abs (STree.node h v l r), f x = y := by
      intro y
      rw [m1, m2]
      simp only [abs, List.mem_append, List.mem_cons]
      constructor
      · rintro (⟨x, hx, e⟩ | e | ⟨x, hx, e⟩)
        · exact ⟨x, Or.inl hx, e⟩
        · exact ⟨v, Or.inr (Or.inl rfl), e.symm⟩
        · exact ⟨x, Or.inr (Or.inr hx), e⟩
      · rintro ⟨x, hx | hx | hx, e⟩
        · exact Or.inl ⟨x, hx, e⟩
        · subst hx; exact Or.inr (Or.inl e.symm)
        · exact Or.inr (Or.inr ⟨x, hx, e⟩)
    by_cases same : l = newL ∧ refEq v (f v) = true ∧ r = newR
    · obtain ⟨s1, s2, s3⟩ := same
      subst s1; subst s3
      have ev := hre _ _ s2
      refine ⟨.node h v l r, by simp [s2], hi, ?_, by simp⟩
      intro y
      rw [← img y]
      simp only [abs, List.mem_append, List.mem_cons, ← ev]
    · obtain ⟨t', et, it, mt⟩ := tryJoin_spec hc fuel newL newR (f v) i1 i2 (by omega)
      refine ⟨t', by simp [same, et], it, fun y => by rw [mt, img], ?_⟩
      have : (abs t').length ≤ ((abs (STree.node h v l r)).map f).length :=
        (nodup_of_sorted it.2).length_le_of_subset (fun y hy => by
          obtain ⟨x, hx, e⟩ := ((mt y).trans (img y)).1 hy
          exact List.mem_map.2 ⟨x, hx, e⟩)
      simpa using this

/-- `t` represents the mathematical set `s` -/
def SRel (t : STree E) (s : E → Prop) : Prop := Inv t ∧ ∀ x, x ∈ abs t ↔ s x

theorem SRel.inv {t : STree E} {s : E → Prop} (h : SRel t s) : Inv t := h.1
theorem SRel.bal {t : STree E} {s : E → Prop} (h : SRel t s) : Bal t := h.1.1
theorem SRel.mem {t : STree E} {s : E → Prop} (h : SRel t s) (x : E) : x ∈ abs t ↔ s x := h.2 x

theorem srel_empty : SRel (STree.empty : STree E) (fun _ => False) :=
  ⟨inv_empty, fun x => by simp [abs]⟩

/-- one operation of a history: `d` is the register that receives the result, `s` (or `a`, `b`) the
register(s) the operands are read from -/
inductive SOp (E : Type) where
  | ins (d s : Nat) (x : E)
  | rem (d s : Nat) (x : E)
  | uni (d a b : Nat)
  | int (d a b : Nat)
  | dif (d a b : Nat)
  | fil (d s : Nat) (f : E → Bool)
  | parT (d s : Nat) (f : E → Bool)
  | parF (d s : Nat) (f : E → Bool)
  | splL (d s : Nat) (k : E)
  | splR (d s : Nat) (k : E)
  | frl (d : Nat) (xs : List E)
  | map (d s : Nat) (f : E → E)

def setReg {A : Type} (regs : Nat → A) (d : Nat) (x : A) : Nat → A := fun i => if i = d then x else regs i

/-- `union` with fuel computed from the operands (enough by `union_spec`) -/
def unionF (cmp : E → E → Int) (a b : STree E) : Option (STree E) :=
  match union cmp ((abs a).length + (abs b).length + 1) a b with
  | some r => r
  | none => none

/-- `map` with fuel computed from the operand (enough by `map_spec`); mapped functions allocate,
so the reference-equality shortcut never fires (`refEq = false`). -/
def mapF (cmp : E → E → Int) (f : E → E) (t : STree E) : Option (STree E) :=
  match map cmp (fun _ _ => false) f ((abs t).length + 1) t with
  | some r => r
  | none => none

def stepOp (cmp : E → E → Int) (regs : Nat → STree E) : SOp E → Option (Nat → STree E)
  | .ins d s x => (insert cmp (regs s) x).map (setReg regs d)
  | .rem d s x => (remove cmp (regs s) x).map (setReg regs d)
  | .uni d a b => (unionF cmp (regs a) (regs b)).map (setReg regs d)
  | .int d a b => (intersection cmp (regs a) (regs b)).map (setReg regs d)
  | .dif d a b => (diff cmp (regs a) (regs b)).map (setReg regs d)
  | .fil d s f => (filter f (regs s)).map (setReg regs d)
  | .parT d s f => (partition f (regs s)).map (fun p => setReg regs d p.1)
  | .parF d s f => (partition f (regs s)).map (fun p => setReg regs d p.2)
  | .splL d s k => (split cmp (regs s) k).map (fun p => setReg regs d p.1)
  | .splR d s k => (split cmp (regs s) k).map (fun p => setReg regs d p.2.2)
  | .frl d xs => (fromList cmp xs .empty).map (setReg regs d)
  | .map d s f => (mapF cmp f (regs s)).map (setReg regs d)

def specOp (ss : Nat → E → Prop) : SOp E → (Nat → E → Prop)
  | .ins d s x => setReg ss d (fun p => p = x ∨ ss s p)
  | .rem d s x => setReg ss d (fun p => ss s p ∧ p ≠ x)
  | .uni d a b => setReg ss d (fun p => ss a p ∨ ss b p)
  | .int d a b => setReg ss d (fun p => ss a p ∧ ss b p)
  | .dif d a b => setReg ss d (fun p => ss a p ∧ ¬ ss b p)
  | .fil d s f => setReg ss d (fun p => ss s p ∧ f p = true)
  | .parT d s f => setReg ss d (fun p => ss s p ∧ f p = true)
  | .parF d s f => setReg ss d (fun p => ss s p ∧ f p = false)
  | .splL d s k => setReg ss d (fun p => ss s p ∧ p < k)
  | .splR d s k => setReg ss d (fun p => ss s p ∧ k < p)
  | .frl d xs => setReg ss d (fun p => p ∈ xs)
  | .map d s f => setReg ss d (fun y => ∃ x, ss s x ∧ f x = y)

def runOps (cmp : E → E → Int) : (Nat → STree E) → List (SOp E) → Option (Nat → STree E)
  | regs, [] => some regs
  | regs, op :: ops =>
    match stepOp cmp regs op with
    | none => none
    | some regs' => runOps cmp regs' ops

def specOps : (Nat → E → Prop) → List (SOp E) → (Nat → E → Prop)
  | ss, [] => ss
  | ss, op :: ops => specOps (specOp ss op) ops

theorem srel_set {regs : Nat → STree E} {ss : Nat → E → Prop}
    (h : ∀ i, SRel (regs i) (ss i)) (d : Nat) {t : STree E} {s : E → Prop} (ht : SRel t s) :
    ∀ i, SRel (setReg regs d t i) (setReg ss d s i) := by
  intro i
  simp only [setReg]
  split
  · exact ht
  · exact h i

theorem srel_filter {t t' : STree E} {s : E → Prop} (g : E → Bool)
    (hr : SRel t s) (b : Bal t') (a : abs t' = (abs t).filter g) :
    SRel t' (fun p => s p ∧ g p = true) := by
  refine ⟨⟨b, ?_⟩, ?_⟩
  · simp only [Ordered, a]; exact hr.inv.2.sublist List.filter_sublist
  · intro p
    rw [a, List.mem_filter, hr.mem p]

theorem step_refines {cmp : E → E → Int} (hc : Lawful cmp)
    (regs : Nat → STree E) (ss : Nat → E → Prop) (h : ∀ i, SRel (regs i) (ss i)) (op : SOp E) :
    ∃ regs', stepOp cmp regs op = some regs' ∧ ∀ i, SRel (regs' i) (specOp ss op i) := by
  cases op with
  | ins d s x =>
    obtain ⟨t', e, i, m⟩ := set_insert_refines hc (regs s) x (h s).inv
    exact ⟨_, by simp [stepOp, e], srel_set h d ⟨i, fun p => by rw [m, (h s).mem]⟩⟩
  | rem d s x =>
    obtain ⟨t', e, i, m⟩ := set_remove_refines hc (regs s) x (h s).inv
    exact ⟨_, by simp [stepOp, e], srel_set h d ⟨i, fun p => by rw [m, (h s).mem]⟩⟩
  | uni d a b =>
    obtain ⟨t', e, i, m⟩ := union_spec hc _ (regs a) (regs b) (h a).inv (h b).inv (Nat.lt_succ_self _)
    exact ⟨_, by simp [stepOp, unionF, e], srel_set h d ⟨i, fun p => by rw [m, (h a).mem, (h b).mem]⟩⟩
  | int d a b =>
    obtain ⟨t', e, i, m⟩ := set_intersection_refines hc (regs a) (regs b) (h a).inv (h b).inv
    exact ⟨_, by simp [stepOp, e], srel_set h d ⟨i, fun p => by rw [m, (h a).mem, (h b).mem]⟩⟩
  | dif d a b =>
    obtain ⟨t', e, i, m⟩ := set_diff_refines hc (regs a) (regs b) (h a).inv (h b).inv
    exact ⟨_, by simp [stepOp, e], srel_set h d ⟨i, fun p => by rw [m, (h a).mem, (h b).mem]⟩⟩
  | fil d s f =>
    obtain ⟨t', e, b', a⟩ := set_filter_refines f (regs s) (h s).bal
    exact ⟨_, by simp [stepOp, e], srel_set h d (srel_filter f (h s) b' a)⟩
  | parT d s f =>
    obtain ⟨x, y, e, b1, b2, a1, a2⟩ := set_partition_refines f (regs s) (h s).bal
    exact ⟨_, by simp [stepOp, e], srel_set h d (srel_filter f (h s) b1 a1)⟩
  | parF d s f =>
    obtain ⟨x, y, e, b1, b2, a1, a2⟩ := set_partition_refines f (regs s) (h s).bal
    have r := srel_filter (fun p => !f p) (h s) b2 a2
    simp only [Bool.not_eq_true'] at r
    exact ⟨_, by simp [stepOp, e], srel_set h d r⟩
  | splL d s k =>
    obtain ⟨l, pres, r, e, i1, i2, m, g1, g2⟩ := set_split_refines hc (regs s) k (h s).inv
    refine ⟨_, by simp [stepOp, e], srel_set h d ⟨i1, fun p => ?_⟩⟩
    show p ∈ abs l ↔ (ss s p ∧ p < k)
    rw [← (h s).mem, m]
    constructor
    · intro hp; exact ⟨Or.inl hp, g1 p hp⟩
    · rintro ⟨hp | ⟨_, hp⟩ | hp, lt⟩
      · exact hp
      · exact (Std.lt_irrefl (hp ▸ lt)).elim
      · exact (Std.lt_irrefl (Std.lt_trans (g2 p hp) lt)).elim
  | splR d s k =>
    obtain ⟨l, pres, r, e, i1, i2, m, g1, g2⟩ := set_split_refines hc (regs s) k (h s).inv
    refine ⟨_, by simp [stepOp, e], srel_set h d ⟨i2, fun p => ?_⟩⟩
    show p ∈ abs r ↔ (ss s p ∧ k < p)
    rw [← (h s).mem, m]
    constructor
    · intro hp; exact ⟨Or.inr (Or.inr hp), g2 p hp⟩
    · rintro ⟨hp | ⟨_, hp⟩ | hp, lt⟩
      · exact (Std.lt_irrefl (Std.lt_trans lt (g1 p hp))).elim
      · exact (Std.lt_irrefl (hp ▸ lt)).elim
      · exact hp
  | frl d xs =>
    obtain ⟨t', e, i, m⟩ := fromList_spec hc xs .empty inv_empty
    exact ⟨_, by simp [stepOp, e], srel_set h d ⟨i, fun p => by rw [m]; simp [abs]⟩⟩
  | map d s f =>
    obtain ⟨t', e, i, m, _⟩ := map_spec hc (fun _ _ => false) (by simp) f _ (regs s) (h s).inv (Nat.lt_succ_self _)
    refine ⟨_, by simp [stepOp, mapF, e], srel_set h d ⟨i, fun y => ?_⟩⟩
    rw [m]
    constructor
    · rintro ⟨x, hx, e⟩; exact ⟨x, ((h s).mem x).1 hx, e⟩
    · rintro ⟨x, hx, e⟩; exact ⟨x, ((h s).mem x).2 hx, e⟩

/-- **`ops_refine` (sets)**: every finite history mixing `insert`, `remove`, `union`,
`intersection`, `diff`, `filter`, `partition`, `split`, `fromList`, `map` over any number of set registers
never panics (and `union` never runs out of its internally computed fuel), keeps the invariant and
ends in states representing exactly the sets obtained by the same history on mathematical sets. -/
theorem set_ops_refine {cmp : E → E → Int} (hc : Lawful cmp)
    (ops : List (SOp E)) (regs : Nat → STree E) (ss : Nat → E → Prop)
    (h : ∀ i, SRel (regs i) (ss i)) :
    ∃ regs', runOps cmp regs ops = some regs' ∧ ∀ i, SRel (regs' i) (specOps ss ops i) := by
  induction ops generalizing regs ss with
  | nil => exact ⟨regs, rfl, h⟩
  | cons op ops ih =>
    obtain ⟨r1, e1, h1⟩ := step_refines hc regs ss h op
    obtain ⟨r2, e2, h2⟩ := ih r1 _ h1
    exact ⟨r2, by simp [runOps, e1, e2], h2⟩

/-- the elements an enumeration still has to deliver, in order -/
def Enum.toList : Enum E → List E
  | .done => []
  | .more v r e => v :: (abs r ++ Enum.toList e)

theorem Enum.toList_cons (t : STree E) (e : Enum E) : (Enum.cons t e).toList = abs t ++ e.toList := by
  induction t generalizing e with
  | empty => simp [Enum.cons, abs]
  | leaf v => simp [Enum.cons, Enum.toList, abs]
  | node h v l r ihl _ => simp [Enum.cons, ihl, Enum.toList, abs]

/-- lexicographic comparison of two ascending enumerations (`cmp`, then the extra comparator `f`) -/
def lexCmp (cmp : E → E → Int) (f : E → E → Int) : List E → List E → Int
  | [], [] => 0
  | [], _ :: _ => -1
  | _ :: _, [] => 1
  | v1 :: t1, v2 :: t2 =>
    if cmp v1 v2 ≠ 0 then cmp v1 v2
    else if f v1 v2 ≠ 0 then f v1 v2 else lexCmp cmp f t1 t2

/-- pointwise equality of two enumerations -/
def eqList (cmp : E → E → Int) (f : E → E → Bool) : List E → List E → Bool
  | [], [] => true
  | [], _ :: _ => false
  | _ :: _, [] => false
  | v1 :: t1, v2 :: t2 => cmp v1 v2 = 0 && f v1 v2 && eqList cmp f t1 t2

theorem compareHelper_refines (cmp : E → E → Int) (f : E → E → Int) (e1 e2 : Enum E) :
    compareHelper cmp f e1 e2 = lexCmp cmp f e1.toList e2.toList := by
  -- each step conses the right subtree onto the rest, which is the tail of the enumeration
  -- (`Enum.toList_cons`); the arms then agree with those of `lexCmp`
  fun_induction compareHelper cmp f e1 e2 <;>
    simp_all +zetaDelta [Enum.toList, lexCmp, Enum.toList_cons]

theorem equalHelper_refines (cmp : E → E → Int) (f : E → E → Bool) (e1 e2 : Enum E) :
    equalHelper cmp f e1 e2 = eqList cmp f e1.toList e2.toList := by
  fun_induction equalHelper cmp f e1 e2 <;>
    simp_all [Enum.toList, eqList, Enum.toList_cons]

end SamVerif.StdSet
