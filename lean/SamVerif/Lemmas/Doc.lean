import SamVerif.Model.Doc
/-! Lemmas about the layout engine for `Props/C09.lean`: what `genBest` collects (`Lin`,
`genBest_spec`), what rendering does to non-whitespace characters, and the calculus `Reads` for
documents whose `Union`s agree. -/
namespace SamVerif.Doc
open Doc

variable {α : Type}

/-- The content of collected tokens under `k`: the token-side counterpart of `val`. -/
def tval (k : Key α) (ts : List Tok) : List α := ts.flatMap k.tok

theorem tval_append (k : Key α) (a b : List Tok) : tval k (a ++ b) = tval k a ++ tval k b := by
  simp [tval]

theorem tval_singleton (k : Key α) (t : Tok) : tval k [t] = k.tok t := by simp [tval]

/-- `Lin i d ts`: `ts` is what `d` prints to at indentation `i` for *some* choice of one branch
per `Union` (no leaf invented, dropped, duplicated or reordered; every line break carries the
indentation accumulated from the enclosing `Nest`s). -/
inductive Lin : Nat → Doc → List Tok → Prop
  | nil (i) : Lin i .nil []
  | concat {i a b ta tb} : Lin i a ta → Lin i b tb → Lin i (.concat a b) (ta ++ tb)
  | nest {i n d t} : Lin (i + n) d t → Lin i (.nest n d) t
  | text (i s) : Lin i (.text s) [.text s]
  | nstext (i s) : Lin i (.nstext s) [.nstext s]
  | line (i) : Lin i .line [.line i false]
  | lineNil (i) : Lin i .lineNil [.line i false]
  | lineHard (i) : Lin i .lineHard [.line i true]
  | unionL {i a b t} : Lin i a t → Lin i (.union a b) t
  | unionR {i a b t} : Lin i b t → Lin i (.union a b) t

theorem Lin.tval (k : Key α) {i : Nat} {d : Doc} {ts : List Tok} (h : Lin i d ts)
    (ha : Agree k d) : tval k ts = val k d := by
  induction h with
  | nil => rfl
  | concat _ _ iha ihb => rw [tval_append, iha ha.1, ihb ha.2]; rfl
  | nest _ ih => exact ih ha
  | unionL _ ih => exact ih ha.2.1
  | unionR _ ih => exact (ih ha.2.2).trans ha.1.symm
  | text | nstext | line | lineNil | lineHard => exact tval_singleton k _

/-- `Lin` for the work list: the members' linearisations, concatenated. -/
inductive LinL : List (Nat × Doc) → List Tok → Prop
  | nil : LinL [] []
  | cons {i d rest t ts} : Lin i d t → LinL rest ts → LinL ((i, d) :: rest) (t ++ ts)

/-- Invariant of `generate_best_doc`: the collector only grows (so `truncate(prev_length)` restores
it after a failed attempt), and a successful call has appended a linearisation of the work list. -/
theorem genBest_spec (w : Nat) (col : List Tok) (c : Nat) (e : Bool) (l : List (Nat × Doc)) :
    ∃ ts, (genBest w col c e l).2 = col ++ ts ∧ ((genBest w col c e l).1 = true → LinL l ts) := by
  fun_induction genBest w col c e l
  -- cases 1-3: the empty work list and the failed budget check; 4-11: the arms of `genBest` in the
  -- order of `Doc`'s constructors; 12, 13: a `Union` whose first branch fits resp. does not
  case case1 | case3 => exact ⟨[], (List.append_nil _).symm, fun h => nomatch h⟩
  case case2 => exact ⟨[], (List.append_nil _).symm, fun _ => .nil⟩
  case case4 ih =>
    obtain ⟨ts, h1, h2⟩ := ih
    exact ⟨ts, h1, fun h => .cons (.nil _) (h2 h)⟩
  case case5 ih =>
    obtain ⟨ts, h1, h2⟩ := ih
    refine ⟨ts, h1, fun h => ?_⟩
    cases h2 h with
    | cons ha h3 =>
      cases h3 with
      | cons hb h4 => rw [← List.append_assoc]; exact .cons (.concat ha hb) h4
  case case6 ih =>
    obtain ⟨ts, h1, h2⟩ := ih
    refine ⟨ts, h1, fun h => ?_⟩
    cases h2 h with
    | cons ha h3 => exact .cons (.nest ha) h3
  case case7 ih | case8 ih | case9 ih | case10 ih | case11 ih =>
    obtain ⟨ts, h1, h2⟩ := ih
    exact ⟨[_] ++ ts, by rw [h1, List.append_assoc], fun h => .cons (by constructor) (h2 h)⟩
  case case12 r hr ih =>
    obtain ⟨ts, h1, h2⟩ := ih
    refine ⟨ts, h1, fun _ => ?_⟩
    cases h2 hr with
    | cons ha h3 => exact .cons (.unionL ha) h3
  case case13 r _ ih1 ih2 =>
    -- the failed first attempt left `col ++ t`; truncation gives `col` back
    obtain ⟨t, ht, _⟩ := ih1
    rw [show r.snd = _ from ht, List.take_left] at ih2 ⊢
    obtain ⟨ts, h1, h2⟩ := ih2
    refine ⟨ts, h1, fun h => ?_⟩
    cases h2 h with
    | cons hb h3 => exact .cons (.unionR hb) h3

/-- Without `enforce` the budget is never checked, a line break switches `enforce` off, and a `Union`
whose first attempt fails continues with the caller's `enforce`: the top-level call cannot fail. -/
theorem genBest_true (w : Nat) (col : List Tok) (c : Nat) (e : Bool) (l : List (Nat × Doc))
    (he : e = false) : (genBest w col c e l).1 = true := by
  fun_induction genBest w col c e l
  case case1 h | case3 h => simp [he] at h
  case case2 => rfl
  case case4 ih | case5 ih | case6 ih | case7 ih | case8 ih => exact ih he
  case case9 ih | case10 ih | case11 ih => exact ih rfl
  case case12 r hr ih => exact hr
  case case13 r hr ih1 ih2 => exact ih2 he

theorem isWs_space : isWs ' ' = true := by decide
theorem isWs_newline : isWs '\n' = true := by decide

theorem nonWs_append (a b : Str) : nonWs (a ++ b) = nonWs a ++ nonWs b := List.filter_append a b

theorem nonWs_cons_ws {c : Char} (h : isWs c = true) (s : Str) : nonWs (c :: s) = nonWs s := by
  simp [nonWs, h]

theorem filter_dropWhile_not {β : Type} (p : β → Bool) (l : List β) :
    (l.dropWhile p).filter (fun c => !p c) = l.filter (fun c => !p c) := by
  induction l with
  | nil => rfl
  | cons x xs ih =>
    by_cases hx : p x
    · simp [List.dropWhile, hx, ih]
    · simp [List.dropWhile, hx]

theorem nonWs_trimEnd (s : Str) : nonWs (trimEnd s) = nonWs s := by
  unfold trimEnd nonWs
  rw [List.filter_reverse, filter_dropWhile_not, List.filter_reverse, List.reverse_reverse]

theorem nonWs_newline_indent (n : Nat) : nonWs ('\n' :: List.replicate n ' ') = [] := by
  simp [nonWs, isWs_newline, isWs_space]

theorem renderStep_nonWs (st : Str × Bool) (t : Tok) :
    nonWs (renderStep st t).1 = nonWs st.1 ++ textKey.tok t := by
  cases t with
  | text s => exact nonWs_append _ _
  | nstext s => exact nonWs_append _ _
  | line i h =>
    simp only [renderStep, Key.tok, List.append_nil]
    rw [nonWs_append, nonWs_newline_indent, List.append_nil]
    split
    · exact nonWs_trimEnd _
    · rfl

theorem foldl_renderStep_nonWs (toks : List Tok) (st : Str × Bool) :
    nonWs (toks.foldl renderStep st).1 = nonWs st.1 ++ tval textKey toks := by
  induction toks generalizing st with
  | nil => exact (List.append_nil _).symm
  | cons t ts ih =>
    rw [List.foldl_cons, ih, renderStep_nonWs, List.append_assoc]
    rfl

theorem render_nonWs (toks : List Tok) : nonWs (render toks) = tval textKey toks :=
  foldl_renderStep_nonWs toks ([], false)

theorem flatMap_nonWs_push (c : Char) (w : Str) (ws : List Str) :
    ((c :: w) :: ws).flatMap nonWs = nonWs [c] ++ (w :: ws).flatMap nonWs := by
  rw [List.flatMap_cons, List.flatMap_cons, ← List.append_assoc, ← nonWs_append]; rfl

/-- Every arm of `splitNl` returns a piece: the `[]` arm of its inner `match` is unreachable. -/
theorem splitNl_ne_nil (s : Str) : splitNl s ≠ [] := by
  fun_cases splitNl s <;> exact List.cons_ne_nil _ _

theorem splitNl_nonWs (s : Str) : (splitNl s).flatMap nonWs = nonWs s := by
  fun_induction splitNl s with
  | case1 => rfl
  | case2 cs ih => rw [List.flatMap_cons, ih, nonWs_cons_ws isWs_newline]; rfl
  | case3 c cs hc hnil ih => exact absurd hnil (splitNl_ne_nil cs)
  | case4 c cs hc w ws hw ih => rw [flatMap_nonWs_push, ← hw, ih, ← nonWs_append]; rfl

theorem joinNl_nonWs (ls : List Str) : nonWs (joinNl ls) = ls.flatMap nonWs := by
  fun_induction joinNl ls with
  | case1 => rfl
  | case2 x => exact (List.flatMap_singleton ..).symm
  | case3 x y rest ih => rw [nonWs_append, nonWs_cons_ws isWs_newline, ih]; rfl

theorem post_nonWs (sb : Str) : nonWs (post sb) = nonWs sb := by
  have key : nonWs (trimEnd (joinNl ((splitNl sb).map trimEnd))) = nonWs sb := by
    rw [nonWs_trimEnd, joinNl_nonWs, List.flatMap_map, ← splitNl_nonWs sb]
    exact congrArg (List.flatMap · _) (funext nonWs_trimEnd)
  unfold post
  simp only
  split
  · exact key
  · rw [nonWs_append, key, nonWs_cons_ws isWs_newline]; exact List.append_nil _

/-- `Reads k d cs`: every `Union` of `d` offers the same content under `k` in both branches, and that
content is `cs`. This is what `layout_preserves_text` needs of a document and what it then says of
its tokens. -/
def Reads (k : Key α) (d : Doc) (cs : List α) : Prop := Agree k d ∧ val k d = cs

def ReadsL (k : Key α) (ds : List Doc) (cs : List α) : Prop :=
  (∀ d ∈ ds, Agree k d) ∧ ds.flatMap (val k) = cs

section
variable {k : Key α} {d a b : Doc} {ds es : List Doc} {cs cs' x y : List α}

theorem Reads.cast (h : Reads k d cs) (e : cs = cs') : Reads k d cs' := e ▸ h
theorem Reads.of_agree (h : Agree k d) : Reads k d (val k d) := ⟨h, rfl⟩
theorem Reads.nil : Reads k .nil [] := ⟨trivial, rfl⟩
theorem Reads.text (s : Str) : Reads k (.text s) (k.text s) := ⟨trivial, rfl⟩
theorem Reads.nstext (s : Str) : Reads k (.nstext s) (k.ns s) := ⟨trivial, rfl⟩
theorem Reads.line : Reads k .line [] := ⟨trivial, rfl⟩
theorem Reads.lineNil : Reads k .lineNil [] := ⟨trivial, rfl⟩
theorem Reads.lineHard : Reads k .lineHard [] := ⟨trivial, rfl⟩

theorem Reads.concat (ha : Reads k a x) (hb : Reads k b y) : Reads k (.concat a b) (x ++ y) :=
  ⟨⟨ha.1, hb.1⟩, by rw [val, ha.2, hb.2]⟩

theorem Reads.nest (n : Nat) (h : Reads k d cs) : Reads k (.nest n d) cs := h

theorem Reads.union (ha : Reads k a cs) (hb : Reads k b cs) : Reads k (.union a b) cs :=
  ⟨⟨ha.2.trans hb.2.symm, ha.1, hb.1⟩, ha.2⟩

theorem ReadsL.cast (h : ReadsL k ds cs) (e : cs = cs') : ReadsL k ds cs' := e ▸ h
theorem ReadsL.of_agree (h : ∀ d ∈ ds, Agree k d) : ReadsL k ds (ds.flatMap (val k)) := ⟨h, rfl⟩
theorem ReadsL.nil : ReadsL k [] [] := ⟨fun _ h => (nomatch h), rfl⟩

theorem ReadsL.append (h : ReadsL k ds x) (h' : ReadsL k es y) : ReadsL k (ds ++ es) (x ++ y) :=
  ⟨fun d hd => (List.mem_append.mp hd).elim (h.1 d) (h'.1 d),
   by rw [List.flatMap_append, h.2, h'.2]⟩

theorem ReadsL.one (h : Reads k d cs) : ReadsL k [d] cs :=
  ⟨fun _ hd => List.mem_singleton.mp hd ▸ h.1, by rw [List.flatMap_singleton, h.2]⟩

theorem ReadsL.cons (h : Reads k d x) (hs : ReadsL k ds y) : ReadsL k (d :: ds) (x ++ y) :=
  (ReadsL.one h).append hs

theorem ReadsL.flatMap {β : Type} {f : β → List Doc} {g : β → List α} (l : List β)
    (h : ∀ b ∈ l, ReadsL k (f b) (g b)) : ReadsL k (l.flatMap f) (l.flatMap g) := by
  induction l with
  | nil => exact .nil
  | cons b bs ih =>
    rw [List.flatMap_cons, List.flatMap_cons]
    exact (h b (.head _)).append (ih fun b hb => h b (.tail _ hb))

/-- A last document without content can be dropped (`associated_comments_doc` drops a trailing soft
line, `create_doc_for_block` the hard line after the last statement). -/
theorem ReadsL.dropLast (h : ReadsL k ds cs) (hl : ∀ x, ds.getLast? = some x → val k x = []) :
    ReadsL k ds.dropLast cs := by
  rcases List.eq_nil_or_concat ds with rfl | ⟨ys, y, rfl⟩
  · exact h
  · rw [List.concat_eq_append] at h hl ⊢
    rw [List.dropLast_concat]
    refine ⟨fun d hd => h.1 d (List.mem_append_left _ hd), ?_⟩
    rw [← h.2, List.flatMap_append, List.flatMap_singleton, hl y List.getLast?_concat,
      List.append_nil]

theorem concatV_val (k : Key α) (ds : List Doc) : val k (concatV ds) = ds.flatMap (val k) := by
  fun_induction concatV ds with
  | case1 => rfl
  | case2 x => exact (List.flatMap_singleton ..).symm
  | case3 x y rest ih => rw [val, ih]; rfl

theorem concatV_agree (k : Key α) (ds : List Doc) (h : ∀ d ∈ ds, Agree k d) :
    Agree k (concatV ds) := by
  fun_induction concatV ds with
  | case1 => trivial
  | case2 x => exact h x (.head _)
  | case3 x y rest ih => exact ⟨h x (.head _), ih fun d hd => h d (.tail _ hd)⟩

theorem ReadsL.concatV (h : ReadsL k ds cs) : Reads k (concatV ds) cs :=
  ⟨concatV_agree k ds h.1, (concatV_val k ds).trans h.2⟩

/-- A flattened document has no `Union` left, and differs in content only by the blank it has for
every soft line. -/
theorem flatten_spec (k : Key α) {d f : Doc} (h : flatten d = some f) :
    Agree k f ∧ (k.text [' '] = [] → val k f = val k d) := by
  fun_induction flatten d generalizing f with
  | case2 a b a' b' hb ha iha ihb =>  -- `concat`, both parts have a flattened form
    cases h
    exact ⟨⟨(iha ha).1, (ihb hb).1⟩, fun hsp => by rw [val, (iha ha).2 hsp, (ihb hb).2 hsp]; rfl⟩
  | case4 n d ih =>  -- `nest`
    obtain ⟨d', hd, rfl⟩ := Option.map_eq_some_iff.mp h
    exact ih (f := d') hd
  | case7 => cases h; exact ⟨trivial, id⟩  -- `line` becomes a blank
  | case10 a b ih => exact ih h  -- `union`: the first branch
  | case1 | case5 | case6 | case8 =>  -- `nil`, `text`, `nstext` stay, `lineNil` becomes `nil`
    cases h; exact ⟨trivial, fun _ => rfl⟩
  | case3 | case9 => cases h  -- a hard line inside: there is no flattened form

theorem Reads.flatten (hsp : k.text [' '] = []) {f : Doc} (hf : flatten d = some f) (h : Reads k d cs) :
    Reads k f cs :=
  ⟨(flatten_spec k hf).1, ((flatten_spec k hf).2 hsp).trans h.2⟩

theorem Reads.group (hsp : k.text [' '] = []) (h : Reads k d cs) : Reads k (group d) cs := by
  unfold Doc.group
  split
  · rename_i f hf; exact (h.flatten hsp hf).union h
  · exact h

theorem Reads.bracketFlexible (hsp : k.text [' '] = []) (l r : Str) {sep : Doc} (hs : Reads k sep x)
    (hd : Reads k d cs) :
    Reads k (bracketFlexible l sep d r) (k.text l ++ (x ++ cs) ++ x ++ k.text r) := by
  have parts : ReadsL k [.text l, .nest 2 (.concat sep d), sep, .text r]
      (k.text l ++ ((x ++ cs) ++ (x ++ k.text r))) :=
    .cons (.text l) (.cons ((hs.concat hd).nest 2) (.cons hs (.one (.text r))))
  exact (parts.concatV.group hsp).cast (by simp only [List.append_assoc])

end

theorem textKey_space : textKey.text [' '] = [] := by decide
theorem commentKey_space : commentKey.text [' '] = [] := by decide
theorem commentKey_leaderLine : commentKey.text leaderLine = [] := by decide
theorem commentKey_leaderStar : commentKey.text leaderStar = [] := by decide

/-- Apart from the two leaders (three characters each) `commentKey` reads static text in full. -/
theorem commentKey_text {s : Str} (h : s.length ≠ 3) : commentKey.text s = nonWs s :=
  if_neg fun h' => h (by rcases h' with rfl | rfl <;> rfl)

theorem splitSp_ne_nil (s : Str) : splitSp s ≠ [] := by
  fun_cases splitSp s <;> exact List.cons_ne_nil _ _

theorem splitSp_nonWs (s : Str) : (splitSp s).flatMap nonWs = nonWs s := by
  fun_induction splitSp s with
  | case1 => rfl
  | case2 cs ih => rw [List.flatMap_cons, ih, nonWs_cons_ws isWs_space]; rfl
  | case3 c cs hc hnil ih => exact absurd hnil (splitSp_ne_nil cs)
  | case4 c cs hc w ws hw ih => rw [flatMap_nonWs_push, ← hw, ih, ← nonWs_append]; rfl

section
variable {k : Key α} (hsp : k.text [' '] = [])
include hsp

theorem commentWord_reads {leader : Str} (hl : k.text leader = []) (w : Str) :
    Reads k (commentWord leader w) (k.ns w) :=
  (((Reads.nstext w).concat (.text _)).cast (by rw [hsp, List.append_nil])).union
    ((ReadsL.cons (.nstext w) (.cons .lineHard (.one (.text leader)))).concatV.cast
      (by rw [hl]; exact List.append_nil _))

theorem words_reads {leader : Str} (hl : k.text leader = []) (ws : List Str) :
    ReadsL k (ws.map (commentWord leader)) (ws.flatMap k.ns) := by
  induction ws with
  | nil => exact .nil
  | cons w ws ih => exact .cons (commentWord_reads hsp hl w) ih

theorem lineComment_reads (hl : k.text leaderLine = []) (t : Str)
    (hw : k.ns t = (splitSp t).flatMap k.ns) : Reads k (lineComment t) (k.ns t) :=
  ((((Reads.text leaderLine).concat (.nstext t)).cast (by rw [hl]; rfl)).union
    ((ReadsL.cons (.text leaderLine) (words_reads hsp hl _)).concatV.cast (by rw [hl, hw]; rfl)))

theorem multilineComment_reads (hl : k.text leaderStar = []) (starter t : Str)
    (hw : k.ns t = (splitSp t).flatMap k.ns) :
    Reads k (multilineComment starter t) (k.text starter ++ k.ns t ++ k.text [' ', '*', '/']) := by
  have flat : ReadsL k [.text starter, .text [' '], .nstext t, .text [' ', '*', '/']]
      (k.text starter ++ (k.text [' '] ++ (k.ns t ++ k.text [' ', '*', '/']))) :=
    .cons (.text starter) (.cons (.text [' ']) (.cons (.nstext t) (.one (.text _))))
  have opener : ReadsL k [.text starter, .lineHard, .text leaderStar]
      (k.text starter ++ ([] ++ k.text leaderStar)) :=
    .cons (.text starter) (.cons .lineHard (.one (.text leaderStar)))
  have closer : ReadsL k [.lineHard, .text [' ', '*', '/']] ([] ++ k.text [' ', '*', '/']) :=
    .cons .lineHard (.one (.text _))
  exact (flat.concatV.cast (by rw [hsp, List.nil_append, List.append_assoc])).union
    ((opener.append ((words_reads hsp hl _).append closer)).concatV.cast
      (by rw [hl, hw]; simp only [List.nil_append, List.append_nil, List.append_assoc]))

end

theorem lineComment_ok (t : Str) : Reads commentKey (lineComment t) (nonWs t) :=
  lineComment_reads commentKey_space commentKey_leaderLine t (splitSp_nonWs t).symm

theorem multilineComment_ok (starter t : Str) :
    Reads commentKey (multilineComment starter t) (commentKey.text starter ++ nonWs t ++ ['*', '/']) :=
  multilineComment_reads commentKey_space commentKey_leaderStar starter t (splitSp_nonWs t).symm

end SamVerif.Doc
