import SamVerif.Lemmas.StdMap
/-! Specifications of the rebuilding operations of `Model/StdMap.lean` over `abs`, `Bal` and heights.
`insert` and `remove` are instances of `update`; `customizedUnion` and `merge` share one step
(`pivot_step`), stated through lookups (`get_glue`, `split_get`); the histories (`ops_refine`) rest on
`step_refines`; `compareHelper` and `equalHelper` deliver `lexCmp` and `eqList` of what the enumerations
still hold (`Enum.toList`). -/
namespace SamVerif.StdMap
set_option linter.unusedSectionVars false
variable {K V : Type} [DecidableEq K] [DecidableEq V] [LE K] [LT K] [Std.IsLinearOrder K] [Std.LawfulOrderLT K] [DecidableLT K]

theorem bal_leaf (a : K) (b : V) : Bal (Tree.leaf a b) := by simp [Bal]
theorem bal_empty : Bal (Tree.empty : Tree K V) := by simp [Bal]
theorem ord_empty : Ordered (Tree.empty : Tree K V) := by simp [Ordered, abs]
theorem ord_leaf (a : K) (b : V) : Ordered (Tree.leaf a b) := List.pairwise_singleton _ _

theorem addMinBinding_spec (k : K) (v : V) (t : Tree K V) (hb : Bal t) :
    ∃ t', addMinBinding k v t = some t' ∧ Bal t' ∧ abs t' = (k, v) :: abs t ∧
      height t ≤ height t' ∧ height t' ≤ height t + 1 := by
  induction t with
  | empty => exact ⟨.leaf k v, rfl, bal_leaf k v, rfl, by simp⟩
  | leaf k' v' => exact ⟨.node 2 k v .empty (.leaf k' v'), rfl, by simp [Bal], rfl, by simp⟩
  | node h k' v' l r ihl _ =>
    obtain ⟨bl, br, hh, d1, d2, _, _⟩ := bal_node hb
    obtain ⟨l', e, b1, a1, g1, g2⟩ := ihl bl
    obtain ⟨t', e2, b2, a2, g, _⟩ := balanced_left l' r k' v' b1 br hh d1 d2 (by omega) g2
    exact ⟨t', by simp [addMinBinding, e, e2], b2, by simp [a2, a1, abs], g g1⟩

theorem addMaxBinding_spec (k : K) (v : V) (t : Tree K V) (hb : Bal t) :
    ∃ t', addMaxBinding k v t = some t' ∧ Bal t' ∧ abs t' = abs t ++ [(k, v)] ∧
      height t ≤ height t' ∧ height t' ≤ height t + 1 := by
  induction t with
  | empty => exact ⟨.leaf k v, rfl, bal_leaf k v, rfl, by simp⟩
  | leaf k' v' => exact ⟨.node 2 k v (.leaf k' v') .empty, rfl, by simp [Bal], rfl, by simp⟩
  | node h k' v' l r _ ihr =>
    obtain ⟨bl, br, hh, d1, d2, _, _⟩ := bal_node hb
    obtain ⟨r', e, b1, a1, g1, g2⟩ := ihr br
    obtain ⟨t', e2, b2, a2, g, _⟩ := balanced_right l r' k' v' bl b1 hh d1 d2 (by omega) g2
    exact ⟨t', by simp [addMaxBinding, e, e2], b2, by simp [a2, a1, abs], g g1⟩

theorem addMinNode_spec (a : K) (b : V) (t : Tree K V) (hb : Bal t) :
    ∃ t', addMinNode (.leaf a b) t = some t' ∧ Bal t' ∧ abs t' = (a, b) :: abs t ∧
      height t ≤ height t' ∧ height t' ≤ height t + 1 := by
  induction t with
  | empty => exact ⟨.leaf a b, rfl, bal_leaf a b, rfl, by simp⟩
  | leaf k' v' => exact ⟨.node 2 k' v' (.leaf a b) .empty, rfl, by simp [Bal], rfl, by simp⟩
  | node h k' v' l r ihl _ =>
    obtain ⟨bl, br, hh, d1, d2, _, _⟩ := bal_node hb
    obtain ⟨l', e, b1, a1, g1, g2⟩ := ihl bl
    obtain ⟨t', e2, b2, a2, g, _⟩ := balanced_left l' r k' v' b1 br hh d1 d2 (by omega) g2
    exact ⟨t', by simp [addMinNode, e, e2], b2, by simp [a2, a1, abs], g g1⟩

theorem addMaxNode_spec (a : K) (b : V) (t : Tree K V) (hb : Bal t) :
    ∃ t', addMaxNode (.leaf a b) t = some t' ∧ Bal t' ∧ abs t' = abs t ++ [(a, b)] ∧
      height t ≤ height t' ∧ height t' ≤ height t + 1 := by
  induction t with
  | empty => exact ⟨.leaf a b, rfl, bal_leaf a b, rfl, by simp⟩
  | leaf k' v' => exact ⟨.node 2 k' v' .empty (.leaf a b), rfl, by simp [Bal], rfl, by simp⟩
  | node h k' v' l r _ ihr =>
    obtain ⟨bl, br, hh, d1, d2, _, _⟩ := bal_node hb
    obtain ⟨r', e, b1, a1, g1, g2⟩ := ihr br
    obtain ⟨t', e2, b2, a2, g, _⟩ := balanced_right l r' k' v' bl b1 hh d1 d2 (by omega) g2
    exact ⟨t', by simp [addMaxNode, e, e2], b2, by simp [a2, a1, abs], g g1⟩

/-- the recursive step of `join` into a tall left tree: `t` is the join of its right child with `r` -/
theorem join_left {lh : Int} {lk : K} {lv : V} {ll lr : Tree K V} (r t : Tree K V)
    (hl : Bal (.node lh lk lv ll lr)) (c : lh > height r + 2) (bt : Bal t)
    (g1 : Max.max (height lr) (height r) ≤ height t)
    (g2 : height t ≤ Max.max (height lr) (height r) + 1) :
    ∃ t', balanced ll lk lv t = some t' ∧ Bal t' ∧ abs t' = abs ll ++ (lk, lv) :: abs t ∧
      Max.max lh (height r) ≤ height t' ∧ height t' ≤ Max.max lh (height r) + 1 := by
  obtain ⟨bll, blr, hh, d1, d2, _, _⟩ := bal_node hl
  have e : Max.max (height lr) (height r) = height lr := by omega
  rw [e] at g1 g2
  obtain ⟨t', e2, b2, a2, g, _⟩ := balanced_right ll t lk lv bll bt hh d1 d2 (by omega) g2
  exact ⟨t', e2, b2, a2, by have := g g1; omega⟩

/-- … and into a tall right tree: `t` is the join of `l` with its left child -/
theorem join_right {rh : Int} {rk : K} {rv : V} {rl rr : Tree K V} (l t : Tree K V)
    (hr : Bal (.node rh rk rv rl rr)) (c : rh > height l + 2) (bt : Bal t)
    (g1 : Max.max (height l) (height rl) ≤ height t)
    (g2 : height t ≤ Max.max (height l) (height rl) + 1) :
    ∃ t', balanced t rk rv rr = some t' ∧ Bal t' ∧ abs t' = abs t ++ (rk, rv) :: abs rr ∧
      Max.max (height l) rh ≤ height t' ∧ height t' ≤ Max.max (height l) rh + 1 := by
  obtain ⟨brl, brr, hh, d1, d2, _, _⟩ := bal_node hr
  have e : Max.max (height l) (height rl) = height rl := by omega
  rw [e] at g1 g2
  obtain ⟨t', e2, b2, a2, g, _⟩ := balanced_left t rr rk rv bt brr hh d1 d2 (by omega) g2
  exact ⟨t', e2, b2, a2, by have := g g1; omega⟩

theorem join_create (l r : Tree K V) (k : K) (v : V) (hl : Bal l) (hr : Bal r)
    (d1 : height l ≤ height r + 2) (d2 : height r ≤ height l + 2) :
    Bal (create l k v r) ∧ abs (create l k v r) = abs l ++ (k, v) :: abs r ∧
      Max.max (height l) (height r) ≤ height (create l k v r) ∧
      height (create l k v r) ≤ Max.max (height l) (height r) + 1 := by
  obtain ⟨b1, a1, e1⟩ := create_spec l r k v hl hr d1 d2
  exact ⟨b1, a1, by omega⟩

theorem join_spec (l r : Tree K V) (k : K) (v : V) (hl : Bal l) (hr : Bal r) :
    ∃ t, join l k v r = some t ∧ Bal t ∧ abs t = abs l ++ (k, v) :: abs r ∧
      Max.max (height l) (height r) ≤ height t ∧ height t ≤ Max.max (height l) (height r) + 1 := by
  -- the arms of `join`: 1-3 hand over to `addMin/MaxBinding`; 4 is the `Node` of two `Leaf`s, written
  -- out; 7, 10, 15 stop at `create` (`join_create`); 6, 14 recurse into the taller right tree (`join_right`), 9, 12 into the taller
  -- left tree (`join_left`); 5, 8, 11, 13 are those recursive calls answering `none`, which `ih` excludes
  fun_induction join l k v r
  case case1 k v r =>
    obtain ⟨t, e, b, a, g1, g2⟩ := addMinBinding_spec k v r hr
    have := height_nonneg r hr
    exact ⟨t, e, b, a, by simp only [height_empty]; omega⟩
  case case2 a b k v =>
    obtain ⟨t, e, b, a, g1, g2⟩ := addMaxBinding_spec k v (.leaf a b) hl
    exact ⟨t, e, b, by simp [a, abs], by simp only [height_empty, height_leaf] at *; omega⟩
  case case3 lh lk lv ll lr k v =>
    obtain ⟨t, e, b, a, g1, g2⟩ := addMaxBinding_spec k v _ hl
    have := bal_node_ge hl
    exact ⟨t, e, b, by simp [a, abs], by simp only [height_empty, height_node] at *; omega⟩
  case case4 a b k v c d => exact ⟨.node 2 k v (.leaf a b) (.leaf c d), rfl, by simp [Bal], rfl, by simp⟩
  case case5 a b k v rh rk rv rl rr h x ih =>
    obtain ⟨t, e, _⟩ := ih hl (bal_node hr).1
    rw [e] at x; cases x
  case case6 a b k v rh rk rv rl rr h t' x ih =>
    obtain ⟨t, e, b1, a1, g1, g2⟩ := ih hl (bal_node hr).1
    rw [e] at x; cases x
    obtain ⟨t2, e2, b2, a2, g⟩ := join_right (.leaf a b) t' hr h b1 g1 g2
    exact ⟨t2, e2, b2, by simp [a2, a1, abs], g⟩
  case case7 a b k v rh rk rv rl rr h =>
    have := bal_node_ge hr
    exact ⟨_, rfl, join_create _ _ _ _ hl hr (by simp only [height_leaf, height_node]; omega)
      (by simp only [height_leaf, height_node]; omega)⟩
  case case8 lh lk lv ll lr k v c d h x ih =>
    obtain ⟨t, e, _⟩ := ih (bal_node hl).2.1 hr
    rw [e] at x; cases x
  case case9 lh lk lv ll lr k v c d h t' x ih =>
    obtain ⟨t, e, b1, a1, g1, g2⟩ := ih (bal_node hl).2.1 hr
    rw [e] at x; cases x
    obtain ⟨t2, e2, b2, a2, g⟩ := join_left (.leaf c d) t' hl h b1 g1 g2
    exact ⟨t2, e2, b2, by simp [a2, a1, abs], g⟩
  case case10 lh lk lv ll lr k v c d h =>
    have := bal_node_ge hl
    exact ⟨_, rfl, join_create _ _ _ _ hl hr (by simp only [height_leaf, height_node]; omega)
      (by simp only [height_leaf, height_node]; omega)⟩
  case case11 lh lk lv ll lr k v rh rk rv rl rr h x ih =>
    obtain ⟨t, e, _⟩ := ih (bal_node hl).2.1 hr
    rw [e] at x; cases x
  case case12 lh lk lv ll lr k v rh rk rv rl rr h t' x ih =>
    obtain ⟨t, e, b1, a1, g1, g2⟩ := ih (bal_node hl).2.1 hr
    rw [e] at x; cases x
    obtain ⟨t2, e2, b2, a2, g⟩ := join_left (.node rh rk rv rl rr) t' hl h b1 g1 g2
    exact ⟨t2, e2, b2, by simp [a2, a1, abs], g⟩
  case case13 lh lk lv ll lr k v rh rk rv rl rr h1 h2 x ih =>
    obtain ⟨t, e, _⟩ := ih hl (bal_node hr).1
    rw [e] at x; cases x
  case case14 lh lk lv ll lr k v rh rk rv rl rr h1 h2 t' x ih =>
    obtain ⟨t, e, b1, a1, g1, g2⟩ := ih hl (bal_node hr).1
    rw [e] at x; cases x
    obtain ⟨t2, e2, b2, a2, g⟩ := join_right (.node lh lk lv ll lr) t' hr h2 b1 g1 g2
    exact ⟨t2, e2, b2, by simp [a2, a1, abs], g⟩
  case case15 lh lk lv ll lr k v rh rk rv rl rr h1 h2 =>
    exact ⟨_, rfl, join_create _ _ _ _ hl hr (by simp only [height_node]; omega) (by simp only [height_node]; omega)⟩

theorem unsafeMin_spec (l : Tree K V) : ∀ (h : Int) (k : K) (v : V) (r : Tree K V),
    Bal (.node h k v l r) →
    ∃ m t', minBindingUnsafe (.node h k v l r) = some m ∧ removeMinUnsafe (.node h k v l r) = some t' ∧
      Bal t' ∧ abs (.node h k v l r) = m :: abs t' ∧ h - 1 ≤ height t' ∧ height t' ≤ h := by
  induction l with
  | empty =>
    intro h k v r hb
    obtain ⟨_, br, hh, _, _, _, nr⟩ := bal_node hb
    simp only [height_empty] at hh
    exact ⟨(k, v), r, rfl, rfl, br, rfl, by omega⟩
  | leaf a b =>
    intro h k v r hb
    obtain ⟨_, br, hh, d1, d2, _, _⟩ := bal_node hb
    obtain ⟨t', e2, b2, a2, _, g⟩ := balanced_left .empty r k v bal_empty br hh d1 d2 (by simp) (by simp)
    exact ⟨(a, b), t', rfl, by simp [removeMinUnsafe, e2], b2, by simp [abs, a2], g (by simp)⟩
  | node h' k' v' l' r' ihl _ =>
    intro h k v r hb
    obtain ⟨bl, br, hh, d1, d2, _, _⟩ := bal_node hb
    obtain ⟨m, l2, em, er, b1, a1, g1, g2⟩ := ihl h' k' v' r' bl
    obtain ⟨t', e2, b2, a2, _, g⟩ := balanced_left l2 r k v b1 br hh d1 d2 g1 (by simp only [height_node]; omega)
    refine ⟨m, t', by rw [minBindingUnsafe]; exact em, by rw [removeMinUnsafe]; simp only [er]; exact e2,
      b2, ?_, g g2⟩
    show abs (Tree.node h' k' v' l' r') ++ (k, v) :: abs r = _
    rw [a1, a2]; rfl

theorem internalMerge_spec (t1 t2 : Tree K V) (h1 : Bal t1) (h2 : Bal t2)
    (d1 : height t1 ≤ height t2 + 2) (d2 : height t2 ≤ height t1 + 2) :
    ∃ t, internalMerge t1 t2 = some t ∧ Bal t ∧ abs t = abs t1 ++ abs t2 ∧
      Max.max (height t1) (height t2) ≤ height t ∧ height t ≤ Max.max (height t1) (height t2) + 1 := by
  have n1 := height_nonneg t1 h1
  have n2 := height_nonneg t2 h2
  cases t1 with
  | empty =>
    exact ⟨t2, by cases t2 <;> rfl, h2, rfl, by simp only [height_empty]; omega⟩
  | leaf a b =>
    cases t2 with
    | empty => exact ⟨_, rfl, h1, by simp [abs], by simp only [height_empty, height_leaf]; omega⟩
    | leaf c d =>
      obtain ⟨t, e, b1, a1, g⟩ := addMinNode_spec a b (.leaf c d) h2
      exact ⟨t, e, b1, a1, by simpa using g⟩
    | node h k v l r =>
      obtain ⟨t, e, b1, a1, g⟩ := addMinNode_spec a b (.node h k v l r) h2
      have := bal_node_ge h2
      exact ⟨t, e, b1, a1, by simp only [height_leaf, height_node] at g ⊢; omega⟩
  | node h k v l r =>
    have := bal_node_ge h1
    cases t2 with
    | empty => exact ⟨_, rfl, h1, by simp [abs], by simp only [height_empty, height_node]; omega⟩
    | leaf c d =>
      obtain ⟨t, e, b1, a1, g⟩ := addMaxNode_spec c d (.node h k v l r) h1
      exact ⟨t, e, b1, a1, by simp only [height_leaf, height_node] at g ⊢; omega⟩
    | node h' k' v' l' r' =>
      obtain ⟨⟨xk, xv⟩, t2', m, e, b1, a1, g1, g2⟩ := unsafeMin_spec l' h' k' v' r' h2
      obtain ⟨t, e2, b2, a2, _, g⟩ := balanced_right (.node h k v l r) t2' xk xv h1 b1 rfl d1 d2 g1
        (by simp only [height_node]; omega)
      exact ⟨t, by simp [internalMerge, m, e, e2], b2, by rw [a2, a1],
        by have := g g2; simp only [height_node] at this ⊢; omega⟩

/-- **`concat`** enumerates `t1` then `t2`. -/
theorem concat_refines (t1 t2 : Tree K V) (h1 : Bal t1) (h2 : Bal t2) :
    ∃ t, concat t1 t2 = some t ∧ Bal t ∧ abs t = abs t1 ++ abs t2 := by
  cases t1 with
  | empty => exact ⟨t2, by cases t2 <;> rfl, h2, rfl⟩
  | leaf a b =>
    cases t2 with
    | empty => exact ⟨_, rfl, h1, by simp [abs]⟩
    | leaf c d =>
      obtain ⟨t, e, b1, a1, _⟩ := addMinNode_spec a b (.leaf c d) h2
      exact ⟨t, e, b1, a1⟩
    | node h k v l r =>
      obtain ⟨t, e, b1, a1, _⟩ := addMinNode_spec a b (.node h k v l r) h2
      exact ⟨t, e, b1, a1⟩
  | node h k v l r =>
    cases t2 with
    | empty => exact ⟨_, rfl, h1, by simp [abs]⟩
    | leaf c d =>
      obtain ⟨t, e, b1, a1, _⟩ := addMaxNode_spec c d (.node h k v l r) h1
      exact ⟨t, e, b1, a1⟩
    | node h' k' v' l' r' =>
      obtain ⟨⟨xk, xv⟩, t2', m, e, b1, a1, _⟩ := unsafeMin_spec l' h' k' v' r' h2
      obtain ⟨t, e2, b2, a2, _⟩ := join_spec (.node h k v l r) t2' xk xv h1 b1
      exact ⟨t, by simp [concat, m, e, e2], b2, by rw [a2, a1]⟩

/-- the binding found by `split`, as a list -/
def midList (key : K) (pres : Option V) : List (K × V) :=
  match pres with
  | none => []
  | some w => [(key, w)]

theorem mem_midList {k : K} {o : Option V} {p : K × V} : p ∈ midList k o ↔ p.1 = k ∧ o = some p.2 := by
  obtain ⟨a, b⟩ := p
  cases o <;> simp [midList, eq_comm]

theorem split_spec {cmp : K → K → Int} (hc : Lawful cmp) (t : Tree K V) (key : K)
    (hb : Bal t) (ho : Ordered t) :
    ∃ l pres r, split cmp t key = some (l, pres, r) ∧ Bal l ∧ Bal r ∧
      abs t = abs l ++ midList key pres ++ abs r ∧
      (∀ p ∈ abs l, p.1 < key) ∧ (∀ p ∈ abs r, key < p.1) := by
  induction t with
  | empty => exact ⟨.empty, none, .empty, rfl, hb, hb, by simp [abs, midList], by simp [abs], by simp [abs]⟩
  | leaf k' v' =>
    have hlt := hc.lt key k'; have heq := hc.eq key k'; have hgt := hc.gt key k'
    simp only [split]
    by_cases c0 : cmp key k' = 0
    · obtain rfl : key = k' := heq.1 c0
      exact ⟨.empty, some v', .empty, by simp [c0], bal_empty, bal_empty, by simp [abs, midList],
        by simp [abs], by simp [abs]⟩
    · by_cases c1 : cmp key k' < 0
      · exact ⟨.empty, none, .leaf k' v', by simp [c0, c1], bal_empty, hb, by simp [abs, midList],
          by simp [abs], by simp [abs]; exact hlt.1 c1⟩
      · exact ⟨.leaf k' v', none, .empty, by simp [c0, c1], hb, bal_empty, by simp [abs, midList],
          by simp [abs]; exact hgt.1 (by omega), by simp [abs]⟩
  | node h k' v' l r ihl ihr =>
    have hlt := hc.lt key k'; have heq := hc.eq key k'; have hgt := hc.gt key k'
    obtain ⟨ol, or, bl, br⟩ := ordered_node ho
    obtain ⟨bll, brr, hh, d1, d2, nl, nr⟩ := bal_node hb
    simp only [split]
    by_cases c0 : cmp key k' = 0
    · obtain rfl : key = k' := heq.1 c0
      exact ⟨l, some v', r, by simp [c0], bll, brr, by simp [abs, midList], bl, br⟩
    · by_cases c1 : cmp key k' < 0
      · have lt := hlt.1 c1
        obtain ⟨ll, pres, rl, e, b1, b2, a1, g1, g2⟩ := ihl bll ol
        obtain ⟨t2, e2, b3, a3, _⟩ := join_spec rl r k' v' b2 brr
        refine ⟨ll, pres, t2, by simp [c0, c1, e, e2], b1, b3, by simp [abs, a1, a3], g1, ?_⟩
        rw [a3, List.forall_mem_append, List.forall_mem_cons]
        exact ⟨g2, lt, fun p hp => Std.lt_trans lt (br p hp)⟩
      · have gt := hgt.1 (by omega)
        obtain ⟨lr, pres, rr, e, b1, b2, a1, g1, g2⟩ := ihr brr or
        obtain ⟨t2, e2, b3, a3, _⟩ := join_spec l lr k' v' bll b1
        refine ⟨t2, pres, rr, by simp [c0, c1, e, e2], b3, b2, by simp [abs, a1, a3], ?_, g2⟩
        rw [a3, List.forall_mem_append, List.forall_mem_cons]
        exact ⟨fun p hp => Std.lt_trans (bl p hp) gt, gt, g1⟩

theorem filter_spec (f : K → V → Bool) (t : Tree K V) (hb : Bal t) :
    ∃ t', filter f t = some t' ∧ Bal t' ∧ abs t' = (abs t).filter (fun p => f p.1 p.2) := by
  induction t with
  | empty => exact ⟨.empty, rfl, hb, by simp [abs]⟩
  | leaf k v =>
    simp only [filter]
    by_cases c : f k v = true
    · exact ⟨.leaf k v, by simp [c], hb, by simp [abs, c]⟩
    · exact ⟨.empty, by simp [c], bal_empty, by simp [abs, c]⟩
  | node h k v l r ihl ihr =>
    obtain ⟨bll, brr, _⟩ := bal_node hb
    obtain ⟨newL, e1, b1, a1⟩ := ihl bll
    obtain ⟨newR, e2, b2, a2⟩ := ihr brr
    simp only [filter, e1, e2]
    by_cases c : f k v = true
    · by_cases same : l = newL ∧ r = newR
      · obtain ⟨s1, s2⟩ := same
        subst s1; subst s2
        refine ⟨.node h k v l r, by simp [c], hb, ?_⟩
        simp only [abs, List.filter_append, List.filter_cons, c, if_true, ← a1, ← a2]
      · obtain ⟨t', e3, b3, a3, _⟩ := join_spec newL newR k v b1 b2
        exact ⟨t', by simp [c, same, e3], b3, by simp [a3, abs, a1, a2, c]⟩
    · obtain ⟨t', e3, b3, a3⟩ := concat_refines newL newR b1 b2
      exact ⟨t', by simp [c, e3], b3, by simp [a3, abs, a1, a2, c]⟩

theorem partition_spec (f : K → V → Bool) (t : Tree K V) (hb : Bal t) :
    ∃ a b, partition f t = some (a, b) ∧ Bal a ∧ Bal b ∧
      abs a = (abs t).filter (fun p => f p.1 p.2) ∧ abs b = (abs t).filter (fun p => !f p.1 p.2) := by
  induction t with
  | empty => exact ⟨.empty, .empty, rfl, hb, hb, by simp [abs], by simp [abs]⟩
  | leaf k v =>
    simp only [partition]
    by_cases c : f k v = true
    · exact ⟨.leaf k v, .empty, by simp [c], hb, bal_empty, by simp [abs, c], by simp [abs, c]⟩
    · exact ⟨.empty, .leaf k v, by simp [c], bal_empty, hb, by simp [abs, c], by simp [abs, c]⟩
  | node h k v l r ihl ihr =>
    obtain ⟨bll, brr, _⟩ := bal_node hb
    obtain ⟨lt, lf, e1, b1, b1', a1, a1'⟩ := ihl bll
    obtain ⟨rt, rf, e2, b2, b2', a2, a2'⟩ := ihr brr
    simp only [partition, e1, e2]
    by_cases c : f k v = true
    · obtain ⟨x, e3, b3, a3, _⟩ := join_spec lt rt k v b1 b2
      obtain ⟨y, e4, b4, a4⟩ := concat_refines lf rf b1' b2'
      exact ⟨x, y, by simp [c, e3, e4], b3, b4, by simp [a3, abs, a1, a2, c], by simp [a4, abs, a1', a2', c]⟩
    · obtain ⟨x, e3, b3, a3⟩ := concat_refines lt rt b1 b2
      obtain ⟨y, e4, b4, a4, _⟩ := join_spec lf rf k v b1' b2'
      exact ⟨x, y, by simp [c, e3, e4], b3, b4, by simp [a3, abs, a1, a2, c], by simp [a4, abs, a1', a2', c]⟩

theorem mem_update_mid {l r : List (K × V)} {k : K} (hl : ∀ q ∈ l, q.1 ≠ k) (hr : ∀ q ∈ r, q.1 ≠ k)
    (o o' : Option V) (p : K × V) :
    p ∈ l ++ midList k o' ++ r ↔ (p ∈ l ++ midList k o ++ r ∧ p.1 ≠ k) ∨ (p.1 = k ∧ o' = some p.2) := by
  simp only [List.mem_append, mem_midList]
  constructor
  · rintro ((h | h) | h)
    · exact Or.inl ⟨Or.inl (Or.inl h), hl p h⟩
    · exact Or.inr h
    · exact Or.inl ⟨Or.inr h, hr p h⟩
  · rintro (⟨(h | h) | h, ne⟩ | h)
    · exact Or.inl (Or.inl h)
    · exact absurd h.1 ne
    · exact Or.inr h
    · exact Or.inl (Or.inr h)

/-- **`update`**: the enumeration changes only at the key, where `f` decides (`mem_update_mid` where
the search ends, `mem_replace_left`/`mem_replace_right` above it); on the way back up each `Node` is
rebuilt by `balanced_left`/`balanced_right`, so the height moves by at most one. -/
theorem update_spec {cmp : K → K → Int} (hc : Lawful cmp) (f : Option V → Option V)
    (t : Tree K V) (k : K) (hb : Bal t) (ho : Ordered t) :
    ∃ t', update cmp f t k = some t' ∧ Bal t' ∧ Ordered t' ∧
      (∀ p, p ∈ abs t' ↔ ((p ∈ abs t ∧ p.1 ≠ k) ∨ (p.1 = k ∧ f (get cmp t k) = some p.2))) ∧
      height t - 1 ≤ height t' ∧ height t' ≤ height t + 1 := by
  induction t with
  | empty =>
    have mem := mem_update_mid (V := V) (l := []) (r := []) (k := k) (by simp) (by simp) none
    simp only [update, get]
    cases hf : f none with
    | none => exact ⟨.empty, rfl, hb, ho, mem none, by simp, by simp⟩
    | some d => exact ⟨.leaf k d, rfl, bal_leaf k d, ord_leaf k d, mem (some d), by simp, by simp⟩
  | leaf k' v' =>
    have hlt := hc.lt k k'; have heq := hc.eq k k'; have hgt := hc.gt k k'
    have heq' := hc.eq k' k
    simp only [update]
    by_cases c0 : cmp k k' = 0
    · obtain rfl : k = k' := heq.1 c0
      have g : get cmp (Tree.leaf k v') k = some v' := by simp [get, heq'.2 rfl]
      have mem := mem_update_mid (l := []) (r := []) (k := k) (by simp) (by simp) (some v')
      rw [g]
      cases hf : f (some v') with
      | none => exact ⟨.empty, by simp [c0], bal_empty, ord_empty, mem none, by simp, by simp⟩
      | some d =>
        by_cases cv : v' = d
        · subst cv
          exact ⟨.leaf k v', by simp [c0], hb, ho, mem (some v'), by simp, by simp⟩
        · exact ⟨.leaf k d, by simp [c0, cv], bal_leaf k d, ord_leaf k d, mem (some d), by simp, by simp⟩
    · have nk : k' ≠ k := fun e => c0 (heq.2 e.symm)
      have g : get cmp (Tree.leaf k' v') k = none := by
        simp only [get]; rw [if_neg]; intro e; exact nk (heq'.1 e)
      rw [g]
      -- the new binding, if any, goes in front of `(k', v')` or behind it
      have memL := mem_update_mid (l := []) (r := [(k', v')]) (k := k) (by simp) (by simpa using nk) none
      have memR := mem_update_mid (l := [(k', v')]) (r := []) (k := k) (by simpa using nk) (by simp) none
      cases hf : f none with
      | none => exact ⟨.leaf k' v', by simp [c0], hb, ho, memL none, by simp, by simp⟩
      | some d =>
        by_cases c1 : cmp k k' < 0
        · refine ⟨.node 2 k d .empty (.leaf k' v'), by simp [c0, c1], by simp [Bal], ?_, memL (some d),
            by simp, by simp⟩
          simp [Ordered, abs]; exact hlt.1 c1
        · refine ⟨.node 2 k d (.leaf k' v') .empty, by simp [c0, c1], by simp [Bal], ?_, memR (some d),
            by simp, by simp⟩
          simp [Ordered, abs]; exact hgt.1 (by omega)
  | node h k' v' l r ihl ihr =>
    have hlt := hc.lt k k'; have heq := hc.eq k k'; have hgt := hc.gt k k'
    obtain ⟨ol, or, bl, br⟩ := ordered_node ho
    obtain ⟨bll, brr, hh, d1, d2, nl, nr⟩ := bal_node hb
    simp only [update]
    by_cases c0 : cmp k k' = 0
    · obtain rfl : k = k' := heq.1 c0
      have g : get cmp (Tree.node h k v' l r) k = some v' := by simp [get, c0]
      rw [g]
      have mem := mem_update_mid (fun p hp => Std.ne_of_lt (bl p hp))
        (fun p hp => (Std.ne_of_lt (br p hp)).symm) (some v')
      cases hf : f (some v') with
      | none =>
        obtain ⟨t', e, b1, a1, g1, g2⟩ := internalMerge_spec l r bll brr d1 d2
        refine ⟨t', by simp [c0, e], b1, ?_, fun p => by simpa [a1, abs, midList] using mem none p,
          by simp only [height_node]; omega, by simp only [height_node]; omega⟩
        rw [Ordered, a1]; exact pairwise_drop_mid ho
      | some d =>
        by_cases cv : v' = d
        · subst cv
          exact ⟨.node h k v' l r, by simp [c0], hb, ho, fun p => by simpa [abs, midList] using mem (some v') p,
            by omega, by omega⟩
        · refine ⟨.node h k d l r, by simp [c0, cv], ?_, ?_, fun p => by simpa [abs, midList] using mem (some d) p,
            by simp only [height_node]; omega, by simp only [height_node]; omega⟩
          · simpa [Bal] using hb
          · simp only [Ordered, abs]; exact ordered_of_parts (f := Prod.fst) ol or bl br
    · by_cases c1 : cmp k k' < 0
      · have lt := hlt.1 c1
        obtain ⟨ll, e, b1, o1, m1, g1, g2⟩ := ihl bll ol
        obtain ⟨t', e2, b2, a2, gu, gd⟩ := balanced_left ll r k' v' b1 brr hh d1 d2 g1 g2
        rw [show get cmp (Tree.node h k' v' l r) k = get cmp l k by simp [get, c0, c1]]
        -- `k'` and all keys of `abs r` lie above `k`: only `abs l` changes
        have mem : ∀ p, p ∈ abs ll ++ (k', v') :: abs r ↔
            (p ∈ abs l ++ (k', v') :: abs r ∧ p.1 ≠ k) ∨ (p.1 = k ∧ f (get cmp l k) = some p.2) :=
          mem_replace_left m1 (Std.ne_of_lt lt).symm
            (fun p hp => (Std.ne_of_lt (Std.lt_trans lt (br p hp))).symm)
        by_cases same : l = ll
        · subst same
          exact ⟨.node h k' v' l r, by simp [c0, c1, e], hb, ho, mem, by simp only [height_node]; omega⟩
        · refine ⟨t', by simp [c0, c1, e, same, e2], b2, ?_, by rw [a2]; exact mem,
            by simp only [height_node]; omega⟩
          rw [Ordered, a2]
          refine ordered_of_parts (f := Prod.fst) o1 or (fun p hp => ?_) br
          rcases (m1 p).1 hp with hp | hp
          · exact bl p hp.1
          · rw [hp.1]; exact lt
      · have gt := hgt.1 (by omega)
        obtain ⟨rr, e, b1, o1, m1, g1, g2⟩ := ihr brr or
        obtain ⟨t', e2, b2, a2, gu, gd⟩ := balanced_right l rr k' v' bll b1 hh d1 d2 g1 g2
        rw [show get cmp (Tree.node h k' v' l r) k = get cmp r k by simp [get, c0, c1]]
        -- `k'` and all keys of `abs l` lie below `k`
        have mem : ∀ p, p ∈ abs l ++ (k', v') :: abs rr ↔
            (p ∈ abs l ++ (k', v') :: abs r ∧ p.1 ≠ k) ∨ (p.1 = k ∧ f (get cmp r k) = some p.2) :=
          mem_replace_right m1 (Std.ne_of_lt gt)
            (fun p hp => Std.ne_of_lt (Std.lt_trans (bl p hp) gt))
        by_cases same : r = rr
        · subst same
          exact ⟨.node h k' v' l r, by simp [c0, c1, e], hb, ho, mem, by simp only [height_node]; omega⟩
        · refine ⟨t', by simp [c0, c1, e, same, e2], b2, ?_, by rw [a2]; exact mem,
            by simp only [height_node]; omega⟩
          rw [Ordered, a2]
          refine ordered_of_parts (f := Prod.fst) ol o1 bl (fun p hp => ?_)
          rcases (m1 p).1 hp with hp | hp
          · exact br p hp.1
          · rw [hp.1]; exact gt

theorem remove_eq_update (cmp : K → K → Int) (t : Tree K V) (k : K) :
    remove cmp t k = update cmp (fun _ => none) t k := by
  induction t with
  | empty => rfl
  | leaf k' v' => simp only [remove, update]
  | node h k' v' l r ihl ihr => simp only [remove, update, ihl, ihr]

/-- on a hit `insert` keeps the stored key where `update` stores the new one; they are equal by `Lawful` -/
theorem insert_eq_update {cmp : K → K → Int} (hc : Lawful cmp) (t : Tree K V) (k : K) (v : V) :
    insert cmp t k v = update cmp (fun _ => some v) t k := by
  induction t with
  | empty => rfl
  | leaf k' v' =>
    simp only [insert, update]
    by_cases c0 : cmp k k' = 0
    · obtain rfl := (hc.eq k k').1 c0; simp [c0]
    · simp [c0]
  | node h k' v' l r ihl ihr =>
    simp only [insert, update, ihl, ihr]
    by_cases c0 : cmp k k' = 0
    · obtain rfl := (hc.eq k k').1 c0; simp [c0]
    · simp [c0]

/-- **`get` refines finite-map lookup.** -/
theorem get_refines {cmp : K → K → Int} (hc : Lawful cmp) (t : Tree K V)
    (ho : Ordered t) (q : K) (w : V) : get cmp t q = some w ↔ (q, w) ∈ abs t := by
  induction t with
  | empty => simp [get, abs]
  | leaf k v =>
    have heq := hc.eq k q
    simp only [get, abs, List.mem_singleton, Prod.mk.injEq]
    by_cases c : cmp k q = 0
    · obtain rfl := heq.1 c
      simp [c]; exact eq_comm
    · have : ¬ q = k := fun e => c (heq.2 e.symm)
      simp [c, this]
  | node h k v l r ihl ihr =>
    obtain ⟨ol, or, bl, br⟩ := ordered_node ho
    simp only [get]
    by_cases c0 : cmp q k = 0
    · obtain rfl := (hc.eq q k).1 c0
      have nl : (q, w) ∉ abs l := fun h => Std.lt_irrefl (bl _ h)
      have nr : (q, w) ∉ abs r := fun h => Std.lt_irrefl (br _ h)
      simp [c0, abs, nl, nr, eq_comm]
    · by_cases c1 : cmp q k < 0
      · simp only [c0, c1, if_false, if_true, ihl ol]
        exact (mem_below (f := Prod.fst) br ((hc.lt q k).1 c1)).symm
      · simp only [c0, c1, if_false, ihr or]
        exact (mem_above (f := Prod.fst) bl ((hc.gt q k).1 (by omega))).symm

theorem rank_inj {cmp : K → K → Int} (hc : Lawful cmp) {a b : K}
    (h : a = b) : a = b := by
  have h1 := hc.lt a b; have h2 := hc.gt a b; have h3 := hc.eq a b
  apply h3.1; grind

theorem get_empty (cmp : K → K → Int) (q : K) : get cmp (Tree.empty : Tree K V) q = none := rfl

theorem get_leaf {cmp : K → K → Int} (hc : Lawful cmp) (k q : K) (v : V) :
    get cmp (Tree.leaf k v) q = if q = k then some v else none := by
  have := hc.eq k q
  simp only [get]
  by_cases c : cmp k q = 0
  · obtain rfl := this.1 c
    simp [c]
  · have : ¬ q = k := fun e => c (this.2 e.symm)
    simp [c, this]

/-- `get` of a tree whose enumeration is `l ++ mid ++ r` around a pivot `k`. -/
theorem get_glue {cmp : K → K → Int} (hc : Lawful cmp) (t l r : Tree K V) (k : K)
    (o : Option V) (ho : Ordered t) (ol : Ordered l) (or : Ordered r)
    (a : abs t = abs l ++ midList k o ++ abs r)
    (g1 : ∀ p ∈ abs l, p.1 < k) (g2 : ∀ p ∈ abs r, k < p.1) (q : K) :
    get cmp t q = if q < k then get cmp l q else if k < q then get cmp r q else o := by
  apply Option.ext
  intro w
  rw [get_refines hc t ho q w, a]
  simp only [List.mem_append, mem_midList]
  have il : (q, w) ∈ abs l → q < k := g1 _
  have ir : (q, w) ∈ abs r → k < q := g2 _
  by_cases c1 : q < k
  · have nr : (q, w) ∉ abs r := fun h => Std.lt_irrefl (Std.lt_trans c1 (ir h))
    simp [c1, Std.ne_of_lt c1, nr, get_refines hc l ol q w]
  · have nl : (q, w) ∉ abs l := fun h => c1 (il h)
    by_cases c2 : k < q
    · simp [c1, c2, (Std.ne_of_lt c2).symm, nl, get_refines hc r or q w]
    · obtain rfl : q = k := Std.le_antisymm (Std.not_lt.1 c2) (Std.not_lt.1 c1)
      have nr : (q, w) ∉ abs r := fun h => c2 (ir h)
      simp [c1, nl, nr]

/-- glueing two invariant-satisfying trees around a pivot with an optional middle binding -/
theorem glue_spec (x y : Tree K V) (k : K) (z : Option V)
    (bx : Bal x) (ox : Ordered x) (by' : Bal y) (oy : Ordered y)
    (g1 : ∀ p ∈ abs x, p.1 < k) (g2 : ∀ p ∈ abs y, k < p.1) :
    ∃ t, concatOrJoin x k z y = some t ∧ Bal t ∧ Ordered t ∧ abs t = abs x ++ midList k z ++ abs y := by
  cases z with
  | none =>
    obtain ⟨t, e, b, a⟩ := concat_refines x y bx by'
    refine ⟨t, by simpa [concatOrJoin] using e, b, ?_, by simp [a, midList]⟩
    simp only [Ordered, a, List.pairwise_append]
    exact ⟨ox, oy, fun p hp q hq => Std.lt_trans (g1 p hp) (g2 q hq)⟩
  | some v =>
    obtain ⟨t, e, b, a, _⟩ := join_spec x y k v bx by'
    refine ⟨t, by simpa [concatOrJoin] using e, b, ?_, by simp [a, midList]⟩
    simp only [Ordered, a]
    exact ordered_of_parts (f := Prod.fst) ox oy g1 g2

theorem get_update {cmp : K → K → Int} (hc : Lawful cmp) (g : Option V → Option V)
    (t : Tree K V) (k : K) (hb : Bal t) (ho : Ordered t) :
    ∃ t', update cmp g t k = some t' ∧ Bal t' ∧ Ordered t' ∧
      ∀ q, get cmp t' q = if q = k then g (get cmp t k) else get cmp t q := by
  obtain ⟨t', e, b, o, m, _⟩ := update_spec hc g t k hb ho
  refine ⟨t', e, b, o, ?_⟩
  intro q
  apply Option.ext
  intro w
  rw [get_refines hc t' o q w, m]
  by_cases c : q = k
  · subst c; simp
  · simp only [c, if_false, ne_eq, not_false_eq_true, and_true, false_and, or_false]
    exact (get_refines hc t ho q w).symm

theorem split_get {cmp : K → K → Int} (hc : Lawful cmp) (t : Tree K V) (key : K)
    (hb : Bal t) (ho : Ordered t) :
    ∃ l pres r, split cmp t key = some (l, pres, r) ∧ Bal l ∧ Ordered l ∧ Bal r ∧ Ordered r ∧
      (∀ p ∈ abs l, p.1 < key) ∧ (∀ p ∈ abs r, key < p.1) ∧
      (∀ q, get cmp t q = if q < key then get cmp l q else if key < q then get cmp r q else pres) ∧
      (abs l).length ≤ (abs t).length ∧ (abs r).length ≤ (abs t).length := by
  obtain ⟨l, pres, r, e, b1, b2, a, g1, g2⟩ := split_spec hc t key hb ho
  have ho' := ho
  rw [Ordered, a] at ho'
  obtain ⟨o1, o2⟩ : Ordered l ∧ Ordered r := pairwise_outer ho'
  have len : (abs t).length = (abs l).length + (midList key pres).length + (abs r).length := by
    rw [a, List.length_append, List.length_append]
  exact ⟨l, pres, r, e, b1, o1, b2, o2, g1, g2, get_glue hc t l r key pres ho o1 o2 a g1 g2,
    by omega, by omega⟩

theorem mem_of_get_ne_none {cmp : K → K → Int} (hc : Lawful cmp) (t : Tree K V)
    (ho : Ordered t) {q : K} (h : get cmp t q ≠ none) : ∃ w, (q, w) ∈ abs t := by
  cases hg : get cmp t q with
  | none => exact absurd hg h
  | some w => exact ⟨w, (get_refines hc t ho q w).1 hg⟩

theorem bound_of_pointwise {cmp : K → K → Int} (hc : Lawful cmp)
    {F : K → Option V → Option V → Option V} (hF : ∀ q, F q none none = none)
    {x l1 l2 : Tree K V} (P : K → Prop)
    (ox : Ordered x) (o1 : Ordered l1) (o2 : Ordered l2)
    (h1 : ∀ p ∈ abs l1, P p.1) (h2 : ∀ p ∈ abs l2, P p.1)
    (hx : ∀ q, get cmp x q = F q (get cmp l1 q) (get cmp l2 q)) :
    ∀ p ∈ abs x, P p.1 := by
  intro p hp
  have := (get_refines hc x ox p.1 p.2).2 hp
  rw [hx] at this
  by_cases h : get cmp l1 p.1 = none
  · by_cases h' : get cmp l2 p.1 = none
    · rw [h, h', hF] at this; cases this
    · obtain ⟨w, hw⟩ := mem_of_get_ne_none hc l2 o2 h'; exact h2 (p.1, w) hw
  · obtain ⟨w, hw⟩ := mem_of_get_ne_none hc l1 o1 h; exact h1 (p.1, w) hw

theorem ite_pivot (F : K → Option V → Option V → Option V) (q k : K) (a a' b b' c c' : Option V) :
    F q (if q < k then a else if k < q then b else c) (if q < k then a' else if k < q then b' else c') =
      if q < k then F q a a' else if k < q then F q b b' else F k c c' := by
  by_cases c1 : q < k
  · simp only [c1, if_true]
  · by_cases c2 : k < q
    · simp only [c1, c2, if_true, if_false]
    · obtain rfl : q = k := Std.le_antisymm (Std.not_lt.1 c2) (Std.not_lt.1 c1)
      simp only [c1, if_false]

/-- The step shared by `customizedUnion` and `merge` (`rec`, at some fuel).  `a` is cut at the pivot
`k1` into `l1`, `v1`, `r1`; `split` cuts `b` there too; `rec` combines the parts below and above the
pivot pointwise by `F` (`ih`), and the results glued around `F k1 (some v1) v2` combine `a` and `b`
pointwise.  With `F` and `rec` flipped the pivot comes from `b`. -/
theorem pivot_step {cmp : K → K → Int} (hc : Lawful cmp)
    (F : K → Option V → Option V → Option V) (hF : ∀ q, F q none none = none)
    (rec : Tree K V → Tree K V → Option (Option (Tree K V))) (n : Nat)
    (ih : ∀ a b, Bal a → Ordered a → Bal b → Ordered b → (abs a).length + (abs b).length < n →
      ∃ t, rec a b = some (some t) ∧ Bal t ∧ Ordered t ∧
        ∀ q, get cmp t q = F q (get cmp a q) (get cmp b q))
    {a b l1 r1 : Tree K V} {k1 : K} {v1 : V} (oa : Ordered a) (bb : Bal b) (ob : Ordered b)
    (bl1 : Bal l1) (ol1 : Ordered l1) (br1 : Bal r1) (or1 : Ordered r1)
    (aa : abs a = abs l1 ++ midList k1 (some v1) ++ abs r1)
    (g1 : ∀ p ∈ abs l1, p.1 < k1) (g2 : ∀ p ∈ abs r1, k1 < p.1)
    (hf : (abs a).length + (abs b).length < n + 1) :
    ∃ l2 v2 r2 x y t, split cmp b k1 = some (l2, v2, r2) ∧ rec l1 l2 = some (some x) ∧
      rec r1 r2 = some (some y) ∧ concatOrJoin x k1 (F k1 (some v1) v2) y = some t ∧ Bal t ∧ Ordered t ∧
      ∀ q, get cmp t q = F q (get cmp a q) (get cmp b q) := by
  obtain ⟨l2, v2, r2, es, b3, o3, b4, o4, g3, g4, gs, n1, n2⟩ := split_get hc b k1 bb ob
  have ga := get_glue hc a l1 r1 k1 (some v1) oa ol1 or1 aa g1 g2
  have la : (abs a).length = (abs l1).length + 1 + (abs r1).length := by rw [aa]; simp [midList]; omega
  obtain ⟨x, ex, bx, ox, gx⟩ := ih l1 l2 bl1 ol1 b3 o3 (by omega)
  obtain ⟨y, ey, by', oy, gy⟩ := ih r1 r2 br1 or1 b4 o4 (by omega)
  have hx := bound_of_pointwise hc hF (fun q => q < k1) ox ol1 o3 g1 g3 gx
  have hy := bound_of_pointwise hc hF (fun q => k1 < q) oy or1 o4 g2 g4 gy
  obtain ⟨t, et, bt, ot, at'⟩ := glue_spec x y k1 (F k1 (some v1) v2) bx ox by' oy hx hy
  refine ⟨l2, v2, r2, x, y, t, es, ex, ey, et, bt, ot, fun q => ?_⟩
  rw [get_glue hc t x y k1 _ ot ox oy at' hx hy q, ga q, gs q, ite_pivot F, gx q, gy q]

theorem node_cut {h : Int} {k : K} {v : V} {l r : Tree K V} (hb : Bal (.node h k v l r))
    (ho : Ordered (.node h k v l r)) :
    Bal l ∧ Ordered l ∧ Bal r ∧ Ordered r ∧ abs (.node h k v l r) = abs l ++ midList k (some v) ++ abs r ∧
      (∀ p ∈ abs l, p.1 < k) ∧ (∀ p ∈ abs r, k < p.1) := by
  obtain ⟨ol, or, bl, br⟩ := ordered_node ho
  obtain ⟨bll, brr, _⟩ := bal_node hb
  exact ⟨bll, ol, brr, or, by simp [abs, midList], bl, br⟩

/-- pointwise union with a merger -/
def unionWith (f : K → V → V → Option V) (q : K) : Option V → Option V → Option V
  | some x, some y => f q x y
  | some x, none => some x
  | none, y => y

/-- union with a one-binding map is `update` at its key by `g`, when `g` is `unionWith f k` with the
binding's value on the one side or the other -/
theorem get_update_leaf {cmp : K → K → Int} (hc : Lawful cmp) (f : K → V → V → Option V)
    (g : Option V → Option V) (s : Tree K V) (k : K) (v : V) (bs : Bal s) (os : Ordered s) :
    ∃ t, update cmp g s k = some t ∧ Bal t ∧ Ordered t ∧
      ((∀ o, g o = unionWith f k o (some v)) →
        ∀ q, get cmp t q = unionWith f q (get cmp s q) (get cmp (.leaf k v) q)) ∧
      ((∀ o, g o = unionWith f k (some v) o) →
        ∀ q, get cmp t q = unionWith f q (get cmp (.leaf k v) q) (get cmp s q)) := by
  obtain ⟨t, e, b, o, gg⟩ := get_update hc g s k bs os
  refine ⟨t, e, b, o, fun hg q => ?_, fun hg q => ?_⟩ <;>
  · rw [gg q, get_leaf hc k q v, hg]
    by_cases c : q = k
    · subst c; simp only [if_true]
    · simp only [c, if_false]; cases get cmp s q <;> rfl

/-- **`customizedUnion`, total**: fuel above the sum of the sizes suffices; no panic; invariant;
pointwise `unionWith f`. -/
theorem customizedUnion_spec {cmp : K → K → Int} (hc : Lawful cmp)
    (f : K → V → V → Option V) :
    ∀ (fuel : Nat) (a b : Tree K V), Bal a → Ordered a → Bal b → Ordered b →
      (abs a).length + (abs b).length < fuel →
      ∃ t, customizedUnion cmp f fuel a b = some (some t) ∧ Bal t ∧ Ordered t ∧
        ∀ q, get cmp t q = unionWith f q (get cmp a q) (get cmp b q) := by
  intro fuel
  induction fuel with
  | zero => intro a b _ _ _ _ h; omega
  | succ fuel ih =>
    intro a b ba oa bb ob hf
    cases a with
    | empty => exact ⟨b, by simp [customizedUnion], bb, ob, by intro q; simp [get, unionWith]⟩
    | leaf k v =>
      cases b with
      | empty =>
        refine ⟨.leaf k v, by simp [customizedUnion], ba, oa, ?_⟩
        intro q; cases get cmp (Tree.leaf k v) q <;> simp [get, unionWith]
      | leaf k2 v2 =>
        obtain ⟨t, e, b1, o1, g, _⟩ := get_update_leaf hc f (fun d => match d with
          | none => some v2
          | some x => f k2 x v2) (.leaf k v) k2 v2 ba oa
        exact ⟨t, by simp [customizedUnion]; exact e, b1, o1, g fun o => by cases o <;> rfl⟩
      | node h2 k2 v2 l2 r2 =>
        obtain ⟨t, e, b1, o1, _, g⟩ := get_update_leaf hc f (fun d => match d with
          | none => some v
          | some x => f k v x) (.node h2 k2 v2 l2 r2) k v bb ob
        exact ⟨t, by simp [customizedUnion]; exact e, b1, o1, g fun o => by cases o <;> rfl⟩
    | node h1 k1 v1 l1 r1 =>
      cases b with
      | empty =>
        refine ⟨.node h1 k1 v1 l1 r1, by simp [customizedUnion], ba, oa, ?_⟩
        intro q; cases get cmp (Tree.node h1 k1 v1 l1 r1) q <;> simp [get, unionWith]
      | leaf k2 v2 =>
        obtain ⟨t, e, b1, o1, g, _⟩ := get_update_leaf hc f (fun d => match d with
          | none => some v2
          | some x => f k2 x v2) (.node h1 k1 v1 l1 r1) k2 v2 ba oa
        exact ⟨t, by simp [customizedUnion]; exact e, b1, o1, g fun o => by cases o <;> rfl⟩
      | node h2 k2 v2 l2 r2 =>
        by_cases c : h1 ≥ h2
        · obtain ⟨bl, ol, br, or, aa, g1, g2⟩ := node_cut ba oa
          obtain ⟨l2n, d, r2n, x, y, t, es, ex, ey, et, bt, ot, gt⟩ := pivot_step hc (unionWith f) (fun _ => rfl)
            (customizedUnion cmp f fuel) fuel ih oa bb ob bl ol br or aa g1 g2 hf
          refine ⟨t, ?_, bt, ot, gt⟩
          simp only [customizedUnion, c, if_true, es, ex, ey]
          cases d <;> simpa [unionWith, concatOrJoin] using et
        · obtain ⟨bl, ol, br, or, ab, g1, g2⟩ := node_cut bb ob
          obtain ⟨l1n, d, r1n, x, y, t, es, ex, ey, et, bt, ot, gt⟩ := pivot_step hc (fun q x y => unionWith f q y x)
            (fun _ => rfl) (fun a b => customizedUnion cmp f fuel b a) fuel
            (fun a b ba oa bb ob h => ih b a bb ob ba oa (by omega)) ob ba oa bl ol br or ab g1 g2 (by omega)
          refine ⟨t, ?_, bt, ot, gt⟩
          simp only [customizedUnion, c, if_false, es, ex, ey]
          cases d <;> simpa [unionWith, concatOrJoin] using et

/-- pointwise merge: `f` is consulted wherever at least one side has a binding -/
def mergeWith (f : K → Option V → Option V → Option V) (q : K) : Option V → Option V → Option V
  | none, none => none
  | x, y => f q x y

theorem mergeWith_of_ne {f : K → Option V → Option V → Option V} {q : K} {a b : Option V}
    (h : a ≠ none ∨ b ≠ none) : mergeWith f q a b = f q a b := by
  cases a <;> cases b <;> simp_all [mergeWith]

theorem merge_single {cmp : K → K → Int} (hc : Lawful cmp) (f : K → Option V → Option V → Option V)
    (fuel : Nat) (k : K) (v : V) :
    (∃ t, merge cmp f (fuel + 1) .empty (.leaf k v) = some (some t) ∧ Bal t ∧ Ordered t ∧
      ∀ q, get cmp t q = mergeWith f q (get cmp .empty q) (get cmp (.leaf k v) q)) ∧
    (∃ t, merge cmp f (fuel + 1) (.leaf k v) .empty = some (some t) ∧ Bal t ∧ Ordered t ∧
      ∀ q, get cmp t q = mergeWith f q (get cmp (.leaf k v) q) (get cmp .empty q)) := by
  -- both arms of `merge` build the empty map or a `Leaf` at `k` from an answer `o` of `f`
  have single : ∀ o : Option V, ∃ t, (match o with
        | none => some (some Tree.empty)
        | some d => some (some (Tree.leaf k d)) : Option (Option (Tree K V))) = some (some t) ∧
      Bal t ∧ Ordered t ∧
      ∀ q, get cmp t q = if q = k then o else none := fun o => by
    cases o with
    | none => exact ⟨.empty, rfl, bal_empty, ord_empty, fun q => by simp [get]⟩
    | some d => exact ⟨.leaf k d, rfl, bal_leaf k d, ord_leaf k d, fun q => get_leaf hc k q d⟩
  obtain ⟨t1, e1, b1, o1, g1⟩ := single (f k none (some v))
  obtain ⟨t2, e2, b2, o2, g2⟩ := single (f k (some v) none)
  refine ⟨⟨t1, e1, b1, o1, fun q => ?_⟩, ⟨t2, e2, b2, o2, fun q => ?_⟩⟩
  · rw [g1 q, get_leaf hc k q v, get_empty]
    by_cases c : q = k <;> simp [mergeWith, c]
  · rw [g2 q, get_leaf hc k q v, get_empty]
    by_cases c : q = k <;> simp [mergeWith, c]

/-- **`merge`, total**: fuel above the sum of the sizes suffices; no panic; invariant; pointwise
`mergeWith f`. -/
theorem merge_spec {cmp : K → K → Int} (hc : Lawful cmp)
    (f : K → Option V → Option V → Option V) :
    ∀ (fuel : Nat) (a b : Tree K V), Bal a → Ordered a → Bal b → Ordered b →
      (abs a).length + (abs b).length < fuel →
      ∃ t, merge cmp f fuel a b = some (some t) ∧ Bal t ∧ Ordered t ∧
        ∀ q, get cmp t q = mergeWith f q (get cmp a q) (get cmp b q) := by
  intro fuel
  induction fuel with
  | zero => intro a b _ _ _ _ h; omega
  | succ fuel ih =>
    intro a b ba oa bb ob hf
    -- the pivot `(k1, v1)` comes from `a = l1 ++ [(k1, v1)] ++ r1` and `b` is split …
    have S1 := fun {k1 v1 l1 r1} => pivot_step hc (mergeWith f) (fun _ => rfl) (merge cmp f fuel) fuel ih
      (a := a) (b := b) (l1 := l1) (r1 := r1) (k1 := k1) (v1 := v1) oa bb ob
    -- … or it comes from `b` and `a` is split
    have S2 := fun {k2 v2 l2 r2} => pivot_step hc (fun q x y => mergeWith f q y x) (fun _ => rfl)
      (fun a b => merge cmp f fuel b a) fuel (fun a b ba oa bb ob h => ih b a bb ob ba oa (by omega))
      (a := b) (b := a) (l1 := l2) (r1 := r2) (k1 := k2) (v1 := v2) ob ba oa
    cases a with
    | empty =>
      cases b with
      | empty => exact ⟨.empty, by simp [merge], bal_empty, ord_empty, by intro q; simp [get, mergeWith]⟩
      | leaf k v =>
        exact (merge_single hc f fuel k v).1
      | node h2 k2 v2 l2 r2 =>
        obtain ⟨bl, ol, br, or, ab, g1, g2⟩ := node_cut bb ob
        obtain ⟨l1, v1, r1, x, y, t, es, ex, ey, et, bt, ot, gt⟩ := S2 bl ol br or ab g1 g2 (by omega)
        rw [mergeWith_of_ne (Or.inr (by simp))] at et
        exact ⟨t, by simp [merge, es, ex, ey, et], bt, ot, gt⟩
    | leaf k v =>
      cases b with
      | empty =>
        exact (merge_single hc f fuel k v).2
      | leaf k2 v2 =>
        obtain ⟨l2, w2, r2, x, y, t, es, ex, ey, et, bt, ot, gt⟩ := S1 (k1 := k) (v1 := v) (l1 := .empty)
          (r1 := .empty) bal_empty ord_empty bal_empty ord_empty (by simp [abs, midList]) (by simp [abs])
          (by simp [abs]) hf
        rw [mergeWith_of_ne (Or.inl (by simp))] at et
        exact ⟨t, by simp [merge, es, ex, ey, et], bt, ot, gt⟩
      | node h2 k2 v2 l2 r2 =>
        obtain ⟨bl, ol, br, or, ab, g1, g2⟩ := node_cut bb ob
        obtain ⟨l1, v1, r1, x, y, t, es, ex, ey, et, bt, ot, gt⟩ := S2 bl ol br or ab g1 g2 (by omega)
        rw [mergeWith_of_ne (Or.inr (by simp))] at et
        exact ⟨t, by simp [merge, es, ex, ey, et], bt, ot, gt⟩
    | node h1 k1 v1 l1 r1 =>
      by_cases c : h1 ≥ height b
      · obtain ⟨bl, ol, br, or, aa, g1, g2⟩ := node_cut ba oa
        obtain ⟨l2, w2, r2, x, y, t, es, ex, ey, et, bt, ot, gt⟩ := S1 bl ol br or aa g1 g2 hf
        rw [mergeWith_of_ne (Or.inl (by simp))] at et
        exact ⟨t, by cases b <;> simp only [merge, c, if_true, es, ex, ey, et], bt, ot, gt⟩
      · cases b with
        | empty => have := bal_node_ge ba; simp only [height_empty] at c; omega
        | leaf k2 v2 => have := bal_node_ge ba; simp only [height_leaf] at c; omega
        | node h2 k2 v2 l2 r2 =>
          obtain ⟨bl, ol, br, or, ab, g1, g2⟩ := node_cut bb ob
          obtain ⟨l1', w1, r1', x, y, t, es, ex, ey, et, bt, ot, gt⟩ := S2 bl ol br or ab g1 g2 (by omega)
          rw [mergeWith_of_ne (Or.inr (by simp))] at et
          simp only [height_node] at c
          exact ⟨t, by simp [merge, c, es, ex, ey, et], bt, ot, gt⟩

/-- This holds of all trees, with or without the invariant, so the proof walks the definition; where
the invariant is assumed the result can be chosen before the fuel, as `StdSet.union_total` does. -/
theorem customizedUnion_mono (cmp : K → K → Int) (f : K → V → V → Option V) :
    ∀ (fuel : Nat) (a b : Tree K V) (r : Option (Tree K V)),
      customizedUnion cmp f fuel a b = some r → customizedUnion cmp f (fuel + 1) a b = some r := by
  intro fuel
  induction fuel with
  | zero => intro a b r h; simp [customizedUnion] at h
  | succ n ih =>
    intro a b r h
    -- what both `Node`/`Node` branches do once an operand is split: every recursive call that answered
    -- with fuel `n` answers the same with `n + 1` by `ih`, a call that did not answer contradicts `h`;
    -- `g` glues the two results
    have calls : ∀ (a1 b1 a2 b2 : Tree K V) (g : Tree K V → Tree K V → Option (Option (Tree K V))),
        (match customizedUnion cmp f n a1 b1 with
          | none => none
          | some none => some none
          | some (some l) =>
            match customizedUnion cmp f n a2 b2 with
            | none => none
            | some none => some none
            | some (some r) => g l r) = some r →
        (match customizedUnion cmp f (n + 1) a1 b1 with
          | none => none
          | some none => some none
          | some (some l) =>
            match customizedUnion cmp f (n + 1) a2 b2 with
            | none => none
            | some none => some none
            | some (some r) => g l r) = some r := fun a1 b1 a2 b2 g h => by
      cases h1 : customizedUnion cmp f n a1 b1 with
      | none => simp [h1] at h
      | some o1 =>
        rw [ih _ _ _ h1]
        cases o1 with
        | none => simpa [h1] using h
        | some t1 =>
          cases h2 : customizedUnion cmp f n a2 b2 with
          | none => simp [h1, h2] at h
          | some o2 =>
            rw [ih _ _ _ h2]
            simpa [h1, h2] using h
    cases a with
    | empty => simpa [customizedUnion] using h
    | leaf k v => cases b <;> simpa [customizedUnion] using h
    | node h1 k1 v1 l1 r1 =>
      cases b with
      | empty => simpa [customizedUnion] using h
      | leaf k v => simpa [customizedUnion] using h
      | node h2 k2 v2 l2 r2 =>
        rw [customizedUnion] at h ⊢
        by_cases c : h1 ≥ h2
        · simp only [c, if_true] at h ⊢
          cases hs : split cmp (Tree.node h2 k2 v2 l2 r2) k1 with
          | none => simpa [hs] using h
          | some tr =>
            obtain ⟨x, d, y⟩ := tr
            simp only [hs] at h ⊢
            exact calls l1 x r1 y _ h
        · simp only [c, if_false] at h ⊢
          cases hs : split cmp (Tree.node h1 k1 v1 l1 r1) k2 with
          | none => simpa [hs] using h
          | some tr =>
            obtain ⟨x, d, y⟩ := tr
            simp only [hs] at h ⊢
            exact calls x l2 y r2 _ h

theorem customizedUnion_mono_le (cmp : K → K → Int) (f : K → V → V → Option V) (fuel fuel' : Nat)
    (hle : fuel ≤ fuel') (a b : Tree K V) (r : Option (Tree K V))
    (h : customizedUnion cmp f fuel a b = some r) : customizedUnion cmp f fuel' a b = some r := by
  induction hle with
  | refl => exact h
  | step _ ih => exact customizedUnion_mono cmp f _ a b r ih

theorem mapValues_bal (f : K → V → V) (t : Tree K V) :
    height (mapValues f t) = height t ∧ (Bal t → Bal (mapValues f t)) := by
  induction t with
  | empty => simp [mapValues]
  | leaf k v => simp [mapValues, Bal]
  | node h k v l r ihl ihr =>
    refine ⟨by simp [mapValues], ?_⟩
    intro hb
    simp only [Bal] at hb ⊢
    simp only [mapValues, Bal, ihl.1, ihr.1]
    exact ⟨ihl.2 hb.1, ihr.2 hb.2.1, hb.2.2⟩

theorem get_mapValues {cmp : K → K → Int} (hc : Lawful cmp) (f : K → V → V) (t : Tree K V) (q : K) :
    get cmp (mapValues f t) q = (get cmp t q).map (f q) := by
  induction t with
  | empty => rfl
  | leaf k v =>
    simp only [mapValues, get]
    by_cases c : cmp k q = 0
    · obtain rfl := (hc.eq k q).1 c; simp [c]
    · simp [c]
  | node h k v l r ihl ihr =>
    simp only [mapValues, get, ihl, ihr]
    by_cases c : cmp q k = 0
    · obtain rfl := (hc.eq q k).1 c; simp [c]
    · simp only [c, if_false]; split <;> rfl

/-- keys in an ordered tree are unique -/
theorem ordered_unique {t : Tree K V} (ho : Ordered t) {q : K} {w w' : V}
    (h1 : (q, w) ∈ abs t) (h2 : (q, w') ∈ abs t) : w = w' := by
  simp only [Ordered] at ho
  generalize abs t = xs at *
  induction xs with
  | nil => simp at h1
  | cons x xs ih =>
    simp only [List.pairwise_cons] at ho
    simp only [List.mem_cons] at h1 h2
    rcases h1 with h1 | h1 <;> rcases h2 with h2 | h2
    · rw [← h1] at h2; exact (Prod.mk.inj h2).2.symm ▸ rfl
    · have := ho.1 _ h2; rw [← h1] at this; exact (Std.lt_irrefl this).elim
    · have := ho.1 _ h1; rw [← h2] at this; exact (Std.lt_irrefl this).elim
    · exact ih ho.2 h1 h2

/-- `t` represents the finite map `m`: invariant + same graph. -/
def Rel (t : Tree K V) (m : K → Option V) : Prop :=
  Bal t ∧ Ordered t ∧ ∀ q w, (q, w) ∈ abs t ↔ m q = some w

theorem Rel.bal {t : Tree K V} {m : K → Option V} (h : Rel t m) : Bal t := h.1
theorem Rel.ord {t : Tree K V} {m : K → Option V} (h : Rel t m) : Ordered t := h.2.1
theorem Rel.graph {t : Tree K V} {m : K → Option V} (h : Rel t m) (q : K) (w : V) :
    (q, w) ∈ abs t ↔ m q = some w := h.2.2 q w

theorem rel_empty : Rel (Tree.empty : Tree K V) (fun _ => none) :=
  ⟨bal_empty, ord_empty, fun q w => by simp [abs]⟩

/-- one operation of a history: `d` is the register that receives the result, `s` (or `a`, `b`) the
register(s) the operands are read from -/
inductive MOp (K V : Type) where
  | ins (d s : Nat) (k : K) (v : V)
  | rem (d s : Nat) (k : K)
  | fil (d s : Nat) (f : K → V → Bool)
  | parT (d s : Nat) (f : K → V → Bool)
  | parF (d s : Nat) (f : K → V → Bool)
  | splL (d s : Nat) (k : K)
  | splR (d s : Nat) (k : K)
  | mapV (d s : Nat) (f : K → V → V)
  | upd (d s : Nat) (k : K) (g : Option V → Option V)
  | cun (d a b : Nat) (f : K → V → V → Option V)
  | uni (d a b : Nat)
  | mrg (d a b : Nat) (f : K → Option V → Option V → Option V)

def setReg {A : Type} (regs : Nat → A) (d : Nat) (x : A) : Nat → A := fun i => if i = d then x else regs i

/-- `customizedUnion` / `merge` with fuel computed from the operands (enough by
`customizedUnion_spec` / `merge_spec`); outer `none` (out of fuel) is mapped to `none`. -/
def customizedUnionF (cmp : K → K → Int) (f : K → V → V → Option V) (a b : Tree K V) : Option (Tree K V) :=
  match customizedUnion cmp f ((abs a).length + (abs b).length + 1) a b with
  | some r => r
  | none => none

def mergeF (cmp : K → K → Int) (f : K → Option V → Option V → Option V) (a b : Tree K V) :
    Option (Tree K V) :=
  match merge cmp f ((abs a).length + (abs b).length + 1) a b with
  | some r => r
  | none => none

/-- one operation on the registers of trees (`none` = the std code would panic) -/
def stepOp (cmp : K → K → Int) (regs : Nat → Tree K V) : MOp K V → Option (Nat → Tree K V)
  | .ins d s k v => (insert cmp (regs s) k v).map (setReg regs d)
  | .rem d s k => (remove cmp (regs s) k).map (setReg regs d)
  | .fil d s f => (filter f (regs s)).map (setReg regs d)
  | .parT d s f => (partition f (regs s)).map (fun p => setReg regs d p.1)
  | .parF d s f => (partition f (regs s)).map (fun p => setReg regs d p.2)
  | .splL d s k => (split cmp (regs s) k).map (fun p => setReg regs d p.1)
  | .splR d s k => (split cmp (regs s) k).map (fun p => setReg regs d p.2.2)
  | .mapV d s f => some (setReg regs d (mapValues f (regs s)))
  | .upd d s k g => (update cmp g (regs s) k).map (setReg regs d)
  | .cun d a b f => (customizedUnionF cmp f (regs a) (regs b)).map (setReg regs d)
  | .uni d a b => (customizedUnionF cmp (fun _ v1 _ => some v1) (regs a) (regs b)).map (setReg regs d)
  | .mrg d a b f => (mergeF cmp f (regs a) (regs b)).map (setReg regs d)

/-- the same operation on registers of mathematical finite maps -/
def specOp (ms : Nat → K → Option V) : MOp K V → (Nat → K → Option V)
  | .ins d s k v => setReg ms d (fun q => if q = k then some v else ms s q)
  | .rem d s k => setReg ms d (fun q => if q = k then none else ms s q)
  | .fil d s f => setReg ms d (fun q => (ms s q).filter (f q))
  | .parT d s f => setReg ms d (fun q => (ms s q).filter (f q))
  | .parF d s f => setReg ms d (fun q => (ms s q).filter (fun w => !f q w))
  | .splL d s k => setReg ms d (fun q => if q < k then ms s q else none)
  | .splR d s k => setReg ms d (fun q => if k < q then ms s q else none)
  | .mapV d s f => setReg ms d (fun q => (ms s q).map (f q))
  | .upd d s k g => setReg ms d (fun q => if q = k then g (ms s k) else ms s q)
  | .cun d a b f => setReg ms d (fun q => unionWith f q (ms a q) (ms b q))
  | .uni d a b => setReg ms d (fun q => unionWith (fun _ v1 _ => some v1) q (ms a q) (ms b q))
  | .mrg d a b f => setReg ms d (fun q => mergeWith f q (ms a q) (ms b q))

def runOps (cmp : K → K → Int) : (Nat → Tree K V) → List (MOp K V) → Option (Nat → Tree K V)
  | regs, [] => some regs
  | regs, op :: ops =>
    match stepOp cmp regs op with
    | none => none
    | some regs' => runOps cmp regs' ops

def specOps : (Nat → K → Option V) → List (MOp K V) → (Nat → K → Option V)
  | ms, [] => ms
  | ms, op :: ops => specOps (specOp ms op) ops

theorem rel_set {regs : Nat → Tree K V} {ms : Nat → K → Option V}
    (h : ∀ i, Rel (regs i) (ms i)) (d : Nat) {t : Tree K V} {m : K → Option V} (ht : Rel t m) :
    ∀ i, Rel (setReg regs d t i) (setReg ms d m i) := by
  intro i
  simp only [setReg]
  split
  · exact ht
  · exact h i

theorem rel_filter {t t' : Tree K V} {m : K → Option V} (g : K → V → Bool)
    (hr : Rel t m) (b : Bal t') (a : abs t' = (abs t).filter (fun p => g p.1 p.2)) :
    Rel t' (fun q => (m q).filter (g q)) := by
  refine ⟨b, ?_, ?_⟩
  · simp only [Ordered, a]; exact hr.ord.sublist List.filter_sublist
  · intro q w
    rw [a, List.mem_filter, hr.graph q w]
    simp [Option.filter_eq_some_iff]

theorem rel_get {cmp : K → K → Int} (hc : Lawful cmp) {t : Tree K V}
    {m : K → Option V} (h : Rel t m) (q : K) : get cmp t q = m q := by
  apply Option.ext
  intro w
  rw [get_refines hc t h.ord q w, h.graph q w]

theorem rel_of_get {cmp : K → K → Int} (hc : Lawful cmp) {t : Tree K V}
    {m : K → Option V} (b : Bal t) (o : Ordered t) (g : ∀ q, get cmp t q = m q) : Rel t m :=
  ⟨b, o, fun q w => by rw [← get_refines hc t o q w, g q]⟩

theorem get_eq_none {cmp : K → K → Int} (hc : Lawful cmp) {t : Tree K V} (ho : Ordered t) {q : K}
    (h : ∀ p ∈ abs t, p.1 ≠ q) : get cmp t q = none :=
  Option.eq_none_iff_forall_ne_some.2 fun w hw => h (q, w) ((get_refines hc t ho q w).1 hw) rfl

theorem upd_refines {cmp : K → K → Int} (hc : Lawful cmp)
    (regs : Nat → Tree K V) (ms : Nat → K → Option V) (h : ∀ i, Rel (regs i) (ms i)) (d s : Nat) (k : K)
    (g : Option V → Option V) :
    ∃ regs', (update cmp g (regs s) k).map (setReg regs d) = some regs' ∧
      ∀ i, Rel (regs' i) (setReg ms d (fun q => if q = k then g (ms s k) else ms s q) i) := by
  obtain ⟨t', e, b', o', gg⟩ := get_update hc g (regs s) k (h s).bal (h s).ord
  refine ⟨_, by simp [e], rel_set h d (rel_of_get hc b' o' ?_)⟩
  intro q; rw [gg q, rel_get hc (h s) k, rel_get hc (h s) q]

theorem step_refines {cmp : K → K → Int} (hc : Lawful cmp)
    (regs : Nat → Tree K V) (ms : Nat → K → Option V) (h : ∀ i, Rel (regs i) (ms i)) (op : MOp K V) :
    ∃ regs', stepOp cmp regs op = some regs' ∧ ∀ i, Rel (regs' i) (specOp ms op i) := by
  -- `union` is `customizedUnion` with the merger that keeps the receiver's value
  have cun : ∀ d a b f, ∃ regs', stepOp cmp regs (.cun d a b f) = some regs' ∧
      ∀ i, Rel (regs' i) (specOp ms (.cun d a b f) i) := fun d a b f => by
    obtain ⟨t', e, b', o', gg⟩ := customizedUnion_spec hc f _ (regs a) (regs b) (h a).bal (h a).ord
      (h b).bal (h b).ord (Nat.lt_succ_self _)
    refine ⟨_, by simp [stepOp, customizedUnionF, e], rel_set h d (rel_of_get hc b' o' ?_)⟩
    intro q; rw [gg q, rel_get hc (h a) q, rel_get hc (h b) q]
  cases op with
  | ins d s k v =>
    simpa only [stepOp, specOp, insert_eq_update hc] using upd_refines hc regs ms h d s k (fun _ => some v)
  | rem d s k =>
    simpa only [stepOp, specOp, remove_eq_update] using upd_refines hc regs ms h d s k (fun _ => none)
  | upd d s k g => exact upd_refines hc regs ms h d s k g
  | fil d s f =>
    obtain ⟨t', e, b', a⟩ := filter_spec f (regs s) (h s).bal
    exact ⟨_, by simp [stepOp, e], rel_set h d (rel_filter f (h s) b' a)⟩
  | parT d s f =>
    obtain ⟨x, y, e, b1, b2, a1, a2⟩ := partition_spec f (regs s) (h s).bal
    exact ⟨_, by simp [stepOp, e], rel_set h d (rel_filter f (h s) b1 a1)⟩
  | parF d s f =>
    obtain ⟨x, y, e, b1, b2, a1, a2⟩ := partition_spec f (regs s) (h s).bal
    exact ⟨_, by simp [stepOp, e], rel_set h d (rel_filter (fun k v => !f k v) (h s) b2 a2)⟩
  | splL d s k =>
    obtain ⟨l, pres, r, e, b1, o1, _, _, g1, _, gs, _⟩ := split_get hc (regs s) k (h s).bal (h s).ord
    refine ⟨_, by simp [stepOp, e], rel_set h d (rel_of_get hc b1 o1 fun q => ?_)⟩
    show get cmp l q = if q < k then ms s q else none
    rw [← rel_get hc (h s) q, gs q]
    by_cases c : q < k
    · rw [if_pos c, if_pos c]
    · rw [if_neg c]; exact get_eq_none hc o1 fun p hp e => c (e ▸ g1 p hp)
  | splR d s k =>
    obtain ⟨l, pres, r, e, _, _, b2, o2, _, g2, gs, _⟩ := split_get hc (regs s) k (h s).bal (h s).ord
    refine ⟨_, by simp [stepOp, e], rel_set h d (rel_of_get hc b2 o2 fun q => ?_)⟩
    show get cmp r q = if k < q then ms s q else none
    rw [← rel_get hc (h s) q, gs q]
    by_cases c : k < q
    · rw [if_pos c, if_pos c, if_neg fun c' => Std.lt_irrefl (Std.lt_trans c c')]
    · rw [if_neg c]; exact get_eq_none hc o2 fun p hp e => c (e ▸ g2 p hp)
  | mapV d s f =>
    refine ⟨_, rfl, rel_set h d (rel_of_get hc ((mapValues_bal f (regs s)).2 (h s).bal) ?_ fun q => ?_)⟩
    · simp only [Ordered, map_mapValues_refines, List.pairwise_map]
      exact (h s).ord
    · show _ = (ms s q).map (f q)
      rw [get_mapValues hc, rel_get hc (h s) q]
  | cun d a b f => exact cun d a b f
  | uni d a b => exact cun d a b _
  | mrg d a b f =>
    obtain ⟨t', e, b', o', gg⟩ := merge_spec hc f _ (regs a) (regs b) (h a).bal (h a).ord
      (h b).bal (h b).ord (Nat.lt_succ_self _)
    refine ⟨_, by simp [stepOp, mergeF, e], rel_set h d (rel_of_get hc b' o' ?_)⟩
    intro q; rw [gg q, rel_get hc (h a) q, rel_get hc (h b) q]

/-- **`ops_refine` (maps)**: every finite history, of any length, mixing `insert`, `remove`, `update`,
`filter`, `partition` (either component), `split` (either side), `map`, `customizedUnion`, `union`
and `merge` (the last three with internally computed fuel, i.e. fuel-free), over any number of map
registers that start in states representing finite maps `ms i` (e.g. all `empty`), never panics,
keeps the representation invariant in every register, and ends in states representing exactly the
finite maps obtained by running the same history on mathematical finite maps `K → Option V`. -/
theorem ops_refine {cmp : K → K → Int} (hc : Lawful cmp)
    (ops : List (MOp K V)) (regs : Nat → Tree K V) (ms : Nat → K → Option V)
    (h : ∀ i, Rel (regs i) (ms i)) :
    ∃ regs', runOps cmp regs ops = some regs' ∧ ∀ i, Rel (regs' i) (specOps ms ops i) := by
  induction ops generalizing regs ms with
  | nil => exact ⟨regs, rfl, h⟩
  | cons op ops ih =>
    obtain ⟨r1, e1, h1⟩ := step_refines hc regs ms h op
    obtain ⟨r2, e2, h2⟩ := ih r1 _ h1
    exact ⟨r2, by simp [runOps, e1, e2], h2⟩

/-- the bindings an enumeration still has to deliver, in order -/
def Enum.toList : Enum K V → List (K × V)
  | .done => []
  | .more k v r e => (k, v) :: (abs r ++ Enum.toList e)

theorem Enum.toList_cons (e : Enum K V) (t : Tree K V) :
    (Enum.cons e t).toList = abs t ++ e.toList := by
  induction t generalizing e with
  | empty => simp [Enum.cons, abs]
  | leaf k v => simp [Enum.cons, Enum.toList, abs]
  | node h k v l r ihl _ => simp [Enum.cons, ihl, Enum.toList, abs]

/-- lexicographic comparison of two ascending enumerations: keys by `cmp`, then values by `f`;
a proper prefix is smaller. -/
def lexCmp (cmp : K → K → Int) (f : V → V → Int) : List (K × V) → List (K × V) → Int
  | [], [] => 0
  | [], _ :: _ => -1
  | _ :: _, [] => 1
  | (k1, v1) :: t1, (k2, v2) :: t2 =>
    if cmp k1 k2 ≠ 0 then cmp k1 k2
    else if f v1 v2 ≠ 0 then f v1 v2 else lexCmp cmp f t1 t2

/-- pointwise equality of two enumerations -/
def eqList (cmp : K → K → Int) (f : V → V → Bool) : List (K × V) → List (K × V) → Bool
  | [], [] => true
  | [], _ :: _ => false
  | _ :: _, [] => false
  | (k1, v1) :: t1, (k2, v2) :: t2 => cmp k1 k2 = 0 && f v1 v2 && eqList cmp f t1 t2

theorem compareHelper_refines (cmp : K → K → Int) (f : V → V → Int) (e1 e2 : Enum K V) :
    compareHelper cmp f e1 e2 = lexCmp cmp f e1.toList e2.toList := by
  -- each step conses the right subtree onto the rest, which is the tail of the enumeration
  -- (`Enum.toList_cons`); the arms then agree with those of `lexCmp`
  fun_induction compareHelper cmp f e1 e2 <;>
    simp_all +zetaDelta [Enum.toList, lexCmp, Enum.toList_cons]

theorem equalHelper_refines (cmp : K → K → Int) (f : V → V → Bool) (e1 e2 : Enum K V) :
    equalHelper cmp f e1 e2 = eqList cmp f e1.toList e2.toList := by
  fun_induction equalHelper cmp f e1 e2 <;>
    simp_all [Enum.toList, eqList, Enum.toList_cons]

end SamVerif.StdMap
