import SamVerif.Model.IntRange
/-! Lemmas about `Model/IntRange.lean` (the property theorems are in `Props/C06.lean`).

`step` is described once (the `step_…` lemmas); the lemmas about `run` use only that description. They
speak of `prevIsMinus`, which also covers a non-empty start buffer; `prevIsMinus_iff` and `inRange_iff`
connect it to the specification `InRange`. -/
namespace SamVerif.IntRange

theorem step_merge : step (some (.raw .minus)) (.int maxP1) = (some .negMin, none, false) := by decide

/-- The `i64` overflow branch of `step` is an instance of its range test, so a literal is read by
three cases: out of range, merged with the `-` before it, passed on. -/
theorem step_int (p : Option Tok) (v : Nat) :
    step p (.int v) =
      if maxP1 < v ∨ (v = maxP1 ∧ p ≠ some (.raw .minus)) then (some (.raw (.int v)), p, true)
      else if v = maxP1 ∧ p = some (.raw .minus) then (some .negMin, none, false)
      else (some (.raw (.int v)), p, false) := by
  rw [step]
  by_cases h : i64Lim ≤ v
  · rw [if_pos h, if_pos (Or.inl (Nat.lt_of_lt_of_le (by decide) h))]
  · rw [if_neg h]

theorem step_of_not_merge (p : Option Tok) (r : Raw)
    (h : ¬ (r = .int maxP1 ∧ p = some (.raw .minus))) :
    (step p r).1 = some (.raw r) ∧ (step p r).2.1 = p := by
  -- `h` excludes the merge branch (`case3`, the third `if` of `step`); every other branch buffers `r` and yields `p`
  fun_cases step p r with
  | case3 v _ _ hm => exact (h ⟨congrArg Raw.int hm.1, hm.2⟩).elim
  | _ => exact ⟨rfl, rfl⟩

theorem step_pending_ne_none (p : Option Tok) (r : Raw) : (step p r).1 ≠ none := by
  by_cases hm : r = .int maxP1 ∧ p = some (.raw .minus)
  · obtain ⟨rfl, rfl⟩ := hm; rw [step_merge]; nofun
  · rw [(step_of_not_merge p r hm).1]; nofun

theorem step_pending_minus (p : Option Tok) (r : Raw) :
    (step p r).1 = some (.raw .minus) ↔ r = .minus := by
  by_cases hm : r = .int maxP1 ∧ p = some (.raw .minus)
  · obtain ⟨rfl, rfl⟩ := hm; rw [step_merge]; exact ⟨nofun, nofun⟩
  · rw [(step_of_not_merge p r hm).1, Option.some.injEq, Tok.raw.injEq]

theorem step_err (p : Option Tok) (v : Nat) :
    (step p (.int v)).2.2 = true ↔ (maxP1 < v ∨ (v = maxP1 ∧ p ≠ some (.raw .minus))) := by
  rw [step_int]
  split
  next h => exact ⟨fun _ => h, fun _ => rfl⟩
  next h => split <;> exact ⟨nofun, fun h' => absurd h' h⟩

theorem step_expand (p : Option Tok) (r : Raw) :
    expand (step p r).2.1.toList ++ expand (step p r).1.toList = expand p.toList ++ [r] := by
  by_cases hm : r = .int maxP1 ∧ p = some (.raw .minus)
  · obtain ⟨rfl, rfl⟩ := hm; rw [step_merge]; rfl
  · rw [(step_of_not_merge p r hm).1, (step_of_not_merge p r hm).2]; rfl

theorem run_errs_length (p : Option Tok) (rs : List Raw) : (run p rs).2.length = rs.length := by
  induction rs generalizing p with
  | nil => rfl
  | cons r rs ih => exact congrArg (· + 1) (ih _)

/-- Which previous token the merge test sees at index `i`. -/
def prevIsMinus (p : Option Tok) (rs : List Raw) (i : Nat) : Prop :=
  match i with
  | 0 => p = some (.raw .minus)
  | j + 1 => rs[j]? = some .minus

theorem prevIsMinus_succ (p : Option Tok) (r : Raw) (rs : List Raw) (i : Nat) :
    prevIsMinus p (r :: rs) (i + 1) ↔ prevIsMinus (step p r).1 rs i := by
  cases i with
  | zero =>
    show (r :: rs)[0]? = some .minus ↔ (step p r).1 = some (.raw .minus)
    rw [step_pending_minus, List.getElem?_cons_zero, Option.some.injEq]
  | succ j => exact Iff.of_eq (congrArg (· = _) List.getElem?_cons_succ)

/-- A literal, as written at index `i`, directly follows a `-` token. -/
theorem prevIsMinus_iff (rs : List Raw) (i : Nat) :
    prevIsMinus none rs i ↔ ∃ j, i = j + 1 ∧ rs[j]? = some .minus := by
  cases i with
  | zero => exact ⟨nofun, fun ⟨_, h, _⟩ => nomatch h⟩
  | succ j => exact ⟨fun h => ⟨j, rfl, h⟩, fun ⟨_, e, h⟩ => Nat.succ.inj e ▸ h⟩

/-- The flag at a literal's index is the flag of the step that read it; `q` is the buffer the producer held at
that moment, which is `-` exactly if the literal follows a `-`. -/
theorem run_flag (p : Option Tok) (rs : List Raw) (i v : Nat) (h : rs[i]? = some (.int v)) :
    ∃ q, (run p rs).2[i]? = some (step q (.int v)).2.2 ∧
      (q = some (.raw .minus) ↔ prevIsMinus p rs i) := by
  induction rs generalizing p i with
  | nil => cases h
  | cons r rs ih =>
    cases i with
    | zero => cases h; exact ⟨p, rfl, Iff.rfl⟩
    | succ i =>
      obtain ⟨q, h1, h2⟩ := ih (step p r).1 i h
      exact ⟨q, h1, h2.trans (prevIsMinus_succ p r rs i).symm⟩

/-- Exact description of where the producer reports "Not a 32-bit integer.". -/
theorem run_err (p : Option Tok) (rs : List Raw) (i v : Nat) (h : rs[i]? = some (.int v)) :
    (run p rs).2[i]? = some true ↔ (maxP1 < v ∨ (v = maxP1 ∧ ¬ prevIsMinus p rs i)) := by
  obtain ⟨q, h1, h2⟩ := run_flag p rs i v h
  rw [h1, Option.some.injEq, step_err, ne_eq, h2]

theorem run_err_false (p : Option Tok) (rs : List Raw) (i v : Nat) (h : rs[i]? = some (.int v)) :
    (run p rs).2[i]? = some false ↔ ¬ (maxP1 < v ∨ (v = maxP1 ∧ ¬ prevIsMinus p rs i)) := by
  obtain ⟨q, h1, h2⟩ := run_flag p rs i v h
  rw [h1, Option.some.injEq, Bool.eq_false_iff, ne_eq, step_err, ne_eq, h2]

theorem inRange_iff (rs : List Raw) (i v : Nat) :
    InRange rs i v ↔ ¬ (maxP1 < v ∨ (v = maxP1 ∧ ¬ prevIsMinus none rs i)) := by
  rw [InRange, ← prevIsMinus_iff]
  constructor
  · rintro (hlt | ⟨heq, hm⟩) (hgt | ⟨heq', hnm⟩)
    · exact Nat.lt_asymm hlt hgt
    · exact Nat.ne_of_lt hlt heq'
    · exact Nat.lt_irrefl _ (heq ▸ hgt)
    · exact hnm hm
  · intro hn
    rcases Nat.lt_trichotomy v maxP1 with hlt | heq | hgt
    · exact Or.inl hlt
    · exact Or.inr ⟨heq, Classical.not_not.1 fun hm => hn (Or.inr ⟨heq, hm⟩)⟩
    · exact absurd (Or.inl hgt) hn

theorem mem_run_int (p : Option Tok) (rs : List Raw) (v : Nat)
    (h : Tok.raw (.int v) ∈ (run p rs).1) :
    p = some (.raw (.int v)) ∨
      ∃ i, rs[i]? = some (.int v) ∧ ¬ (v = maxP1 ∧ prevIsMinus p rs i) := by
  induction rs generalizing p with
  | nil => exact Or.inl (Option.mem_toList.1 h)
  | cons r rs ih =>
    by_cases hm : r = .int maxP1 ∧ p = some (.raw .minus)
    · -- merge: nothing is yielded and the new buffer is `negMin`
      obtain ⟨rfl, rfl⟩ := hm
      rcases List.mem_append.1 h with h | h
      · rw [step_merge] at h; cases h
      · rcases ih _ h with h' | ⟨i, hi, hn⟩
        · rw [step_merge] at h'; cases h'
        · exact Or.inr ⟨i + 1, hi, fun hc => hn ⟨hc.1, (prevIsMinus_succ _ _ rs i).1 hc.2⟩⟩
    · obtain ⟨hb, hy⟩ := step_of_not_merge p r hm
      rcases List.mem_append.1 h with h | h
      · rw [hy] at h; exact Or.inl (Option.mem_toList.1 h)
      · rcases ih _ h with h' | ⟨i, hi, hn⟩
        · -- the new buffer `raw r` is the literal: it stands at index 0 and was not merged
          rw [hb, Option.some.injEq, Tok.raw.injEq] at h'
          exact Or.inr ⟨0, congrArg some h', fun hc => hm ⟨by rw [h', hc.1], hc.2⟩⟩
        · exact Or.inr ⟨i + 1, hi, fun hc => hn ⟨hc.1, (prevIsMinus_succ _ _ rs i).1 hc.2⟩⟩

theorem expand_append (a b : List Tok) : expand (a ++ b) = expand a ++ expand b := by
  induction a with
  | nil => rfl
  | cons t ts ih => cases t <;> simp [expand, ih]

theorem run_conserves (p : Option Tok) (rs : List Raw) :
    expand (run p rs).1 = expand p.toList ++ rs := by
  induction rs generalizing p with
  | nil => exact (List.append_nil _).symm
  | cons r rs ih =>
    show expand ((step p r).2.1.toList ++ (run (step p r).1 rs).1) = _
    rw [expand_append, ih, ← List.append_assoc, step_expand, List.append_assoc]; rfl

end SamVerif.IntRange
