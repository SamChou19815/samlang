import SamVerif.Model.FmtDoc
import SamVerif.Lemmas.Doc
import SamVerif.Lemmas.FmtFull
/-!
Helper lemmas for the document theorems of `Props/C08b.lean` (`Model/FmtDoc.lean`). `DocOk d cs`
(`d` has agreeing `Union`s and reads `cs` under `textKey`) and `DocsOk` unfold to `Reads textKey` /
`ReadsL textKey`, so the rules of `Lemmas/Doc.lean` apply to them as they stand. A postfix chain
goes through an intermediate form (base document and list of segments, `IROk`); the mutual
induction `ir_ok` … `stmts_ok` shows that the document of every expression reads the characters of
its printed tokens.
-/
namespace SamVerif.FmtDoc
open SamVerif.Doc SamVerif.FmtFull
open SamVerif.Fmt (BinOp UOp)

/-- the non-whitespace characters of a document, reading the first branch of each `Union`. -/
abbrev V : Doc → List Char := val textKey
/-- the two branches of every `Union` have the same non-whitespace characters. -/
abbrev A : Doc → Prop := Agree textKey

/-- The leaf documents have agreeing `Union`s. -/
structure Leaves.Ok (L : Leaves) : Prop where
  atom : ∀ a, A (L.atom a)
  name : ∀ p, A (L.name p)
  targs : ∀ p, A (L.targs p)
  pat : ∀ k, A (L.pat k)
  letPat : ∀ k, A (L.letPat k)
  letAnnot : ∀ k, A (L.letAnnot k)
  params : ∀ k, A (L.params k)

/-- `d` has agreeing `Union`s and reads `cs`. -/
def DocOk (d : Doc) (cs : List Char) : Prop := A d ∧ V d = cs
def DocsOk (ds : List Doc) (cs : List Char) : Prop := (∀ d ∈ ds, A d) ∧ ds.flatMap V = cs

theorem DocOk.cast {d cs cs'} (h : DocOk d cs) (e : cs = cs') : DocOk d cs' := e ▸ h

theorem DocsOk.append {as ca bs cb} (h : DocsOk as ca) (hs : DocsOk bs cb) :
    DocsOk (as ++ bs) (ca ++ cb) :=
  ReadsL.append h hs

theorem lit (s : Str) (c : List Char) (h : nonWs s = c := by decide) : DocOk (.text s) c := ⟨trivial, h⟩

theorem bracket_ok (l r : Str) (sep d : Doc) (cl cr c : List Char) (hl : nonWs l = cl)
    (hr : nonWs r = cr) (hs : DocOk sep []) (hd : DocOk d c) :
    DocOk (bracketFlexible l sep d r) (cl ++ c ++ cr) := by
  have := Reads.bracketFlexible textKey_space l r hs hd
  rw [show textKey.text l = cl from hl, show textKey.text r = cr from hr] at this
  exact this.cast (by simp)

theorem parenD_ok {d c} (h : DocOk d c) : DocOk (parenD d) ('(' :: c ++ [')']) :=
  (bracket_ok ['('] [')'] .lineNil d ['('] [')'] c (by decide) (by decide) Reads.lineNil h).cast (by simp)
theorem bracesD_ok {d c} (h : DocOk d c) : DocOk (bracesD d) ('{' :: c ++ ['}']) :=
  (bracket_ok ['{'] ['}'] .line d ['{'] ['}'] c (by decide) (by decide) Reads.line h).cast (by simp)

@[simp] theorem chars_nil (L : Leaves) : chars L [] = [] := rfl
@[simp] theorem chars_cons (L : Leaves) (t : FmtFull.Tok) (ts : List FmtFull.Tok) :
    chars L (t :: ts) = tokChars L t ++ chars L ts := by simp [chars]
@[simp] theorem chars_append (L : Leaves) (a b : List FmtFull.Tok) :
    chars L (a ++ b) = chars L a ++ chars L b := by simp [chars]
theorem chars_paren (L : Leaves) (ts : List FmtFull.Tok) :
    chars L (paren ts) = '(' :: chars L ts ++ [')'] := by simp [paren, tokChars]

theorem ifParen_ok (L : Leaves) (c : Bool) {d ts} (h : DocOk d (chars L ts)) :
    DocOk (if c then parenD d else d) (chars L (if c then paren ts else ts)) := by
  cases c
  · exact h
  · rw [if_pos rfl, if_pos rfl, chars_paren]; exact parenD_ok h

theorem subD_ok (L : Leaves) (p : Nat) (eq : Bool) (e : Expr) {d ts} (h : DocOk d (chars L ts)) :
    DocOk (subD p eq e d) (chars L (sub p eq e ts)) :=
  ifParen_ok L (needParen p eq e) h

theorem irOf_binary (L : Leaves) (o : BinOp) (l r : Expr) :
    irOf L (.binary o l r) =
      (concatV [if lParen o l then parenD (close l (irOf L l)) else close l (irOf L l), .nil,
        operatorDoc o,
        if rParen o l r then parenD (close r (irOf L r)) else close r (irOf L r)], []) := by
  simp only [irOf, lParen, rParen, subD]
  by_cases h0 : o = .lt ∧ endsMember l = true
  · obtain ⟨rfl, hm⟩ := h0
    by_cases h1 : l.prec = 4 + BinOp.lt.pprec
    · simp [hm, h1]
    · simp [hm, h1, shortcutOk_lt]
  · by_cases h1 : l.prec = 4 + o.pprec
    · simp [h0, h1]
    · by_cases h2 : r.prec = 4 + o.pprec ∧ shortcutOk o r = true
      · simp [h0, h1, h2]
      · simp [h0, h1, h2]

theorem operatorDoc_ok (o : BinOp) : DocOk (operatorDoc o) (opStr o) := by
  refine ⟨⟨trivial, trivial, trivial⟩, ?_⟩
  cases o <;> decide

theorem uop_ok (L : Leaves) (u : UOp) : DocOk (.text (uopStr u)) (tokChars L (utok u)) := by
  refine ⟨trivial, ?_⟩
  cases u
  · exact (by decide : nonWs ['!'] = ['!'])
  · exact (by decide : nonWs ['-'] = ['-'])

/-- what a chain reads: a `.` before each segment. -/
def cval (ch : List (List Doc)) : List Char := ch.flatMap (fun ds => '.' :: ds.flatMap V)
def CA (ch : List (List Doc)) : Prop := ∀ ds ∈ ch, ∀ d ∈ ds, A d

/-- intermediate form: base and chain are fine and read `cs` together. -/
def IROk (ir : Doc × List (List Doc)) (cs : List Char) : Prop :=
  A ir.1 ∧ CA ir.2 ∧ V ir.1 ++ cval ir.2 = cs

theorem segs_ok (lead : Doc) (hl : DocOk lead []) (ch : List (List Doc)) (hc : CA ch) :
    DocsOk (ch.flatMap (seg lead)) (cval ch) :=
  ReadsL.flatMap ch fun ds hds => ReadsL.cons hl (.cons (lit ['.'] ['.']) ⟨hc ds hds, rfl⟩)

theorem dottedChain_ok (base : Doc) (cb : List Char) (hb : DocOk base cb) (ch : List (List Doc))
    (hc : CA ch) : DocOk (dottedChain base ch) (cb ++ cval ch) := by
  have hexp0 : DocOk (expanded0 base ch) (cb ++ cval ch) :=
    (ReadsL.concatV (ReadsL.cons hb (ReadsL.one (Reads.nest _ (ReadsL.concatV (segs_ok _ Reads.lineHard ch hc)))))).cast
      (by simp)
  have hexp : DocOk (expandedChain base ch) (cb ++ cval ch) := by
    cases ch with
    | nil => exact hexp0
    | cons first rest =>
      have hf : DocsOk first (first.flatMap V) := ⟨fun d hd => hc first (by simp) d hd, rfl⟩
      have hr : CA rest := fun ds hds => hc ds (List.mem_cons_of_mem _ hds)
      have hless : DocOk (concatV [base, .nil, .text ['.'], concatV first,
          .nest 2 (concatV (rest.flatMap (seg .lineHard)))]) (cb ++ cval (first :: rest)) :=
        (ReadsL.concatV (ReadsL.cons hb (ReadsL.cons Reads.nil (ReadsL.cons (lit ['.'] ['.'])
          (ReadsL.cons (ReadsL.concatV hf)
            (ReadsL.one (Reads.nest _ (ReadsL.concatV (segs_ok _ Reads.lineHard rest hr))))))))).cast
          (by simp [cval, List.flatMap_cons])
      exact Reads.union hless hexp0
  have hflat : DocOk (concatV (base :: ch.flatMap (seg .nil))) (cb ++ cval ch) :=
    ReadsL.concatV (ReadsL.cons hb (segs_ok _ Reads.nil ch hc))
  unfold dottedChain
  split
  · rename_i f hf
    exact Reads.union (Reads.flatten textKey_space hf hflat) hexp
  · exact hexp

theorem pushLast_ok (ch : List (List Doc)) (a : Doc) (ha : A a) (hne : ch ≠ []) (hc : CA ch) :
    CA (pushLast ch a) ∧ cval (pushLast ch a) = cval ch ++ V a := by
  -- the arms of `pushLast`: no segment (case1), the last segment (case2), an earlier one (case3)
  fun_induction pushLast ch a with
  | case1 => exact absurd rfl hne
  | case2 x a =>
    refine ⟨?_, by simp [cval, List.flatMap_cons, List.flatMap_append]⟩
    intro ds hds d hd
    simp only [List.mem_singleton] at hds
    subst hds
    rcases List.mem_append.mp hd with hd | hd
    · exact hc x (by simp) d hd
    · simp at hd; subst hd; exact ha
  | case3 x y r a ih =>
    have ih' := ih ha (by simp) (fun ds hds => hc ds (List.mem_cons_of_mem _ hds))
    refine ⟨?_, ?_⟩
    · intro ds hds d hd
      rcases List.mem_cons.mp hds with rfl | hds
      · exact hc ds (by simp) d hd
      · exact ih'.1 ds hds d hd
    · have := ih'.2
      simp only [cval, List.flatMap_cons] at this ⊢
      rw [this]
      simp

theorem pushArgs_ok {ir cs a ca} (h : IROk ir cs) (ha : DocOk a ca) : IROk (pushArgs ir a) (cs ++ ca) := by
  obtain ⟨h1, h2, h3⟩ := h
  unfold pushArgs
  split
  · rename_i hnil
    refine ⟨⟨h1, ha.1⟩, fun _ hds => (by cases hds), ?_⟩
    rw [hnil] at h3
    show (V ir.1 ++ V a) ++ cval [] = _
    rw [← h3, ha.2]
    simp [cval]
  · rename_i c cs' hcons
    rw [hcons] at h2 h3
    have := pushLast_ok (c :: cs') a ha.1 (by simp) h2
    refine ⟨h1, this.1, ?_⟩
    show V ir.1 ++ cval (pushLast (c :: cs') a) = _
    rw [this.2, ← h3, ha.2]
    simp

theorem pushArgs_chain_nil (ir : Doc × List (List Doc)) (a : Doc) (h : (pushArgs ir a).2 = []) :
    ir.2 = [] := by
  unfold pushArgs at h
  split at h
  · assumption
  · rename_i c cs hc
    cases cs with
    | nil => simp [pushLast] at h
    | cons y r => simp [pushLast] at h

theorem close_ok (e : Expr) {ir cs} (h : IROk ir cs) (hn : isChain e = false → ir.2 = []) :
    DocOk (close e ir) cs := by
  obtain ⟨h1, h2, h3⟩ := h
  unfold close
  split
  · exact (dottedChain_ok ir.1 (V ir.1) (Reads.of_agree h1) ir.2 h2).cast h3
  · rename_i hc
    have := hn (by simpa using hc)
    rw [this] at h3
    exact ⟨h1, by simpa [cval] using h3⟩

theorem baseIR_ok (L : Leaves) (e : Expr) {ir} (h : IROk ir (chars L (printE e)))
    (hn : isChain e = false → ir.2 = []) :
    IROk (baseIR e ir) (chars L (sub 1 false e (printE e))) := by
  unfold baseIR
  split
  · rename_i hc
    have : needParen 1 false e = false := by
      cases e <;> simp [isChain] at hc <;> simp [needParen, Expr.prec]
    simpa [sub, this] using h
  · have hd := subD_ok L 1 false e (close_ok e h hn)
    rename_i hc
    have hcl : close e ir = ir.1 := by simp [close, hc]
    rw [hcl] at hd
    exact ⟨hd.1, fun _ hds => (by cases hds), by simpa [cval] using hd.2⟩

theorem last_cons_lineHard {d : Doc} {l : List Doc} (hl : ∀ x, l.getLast? = some x → V x = []) :
    ∀ x, (d :: .lineHard :: l).getLast? = some x → V x = [] := by
  intro x hx
  cases l with
  | nil => simp at hx; subst hx; rfl
  | cons y ys => exact hl x (by simpa [List.getLast?_cons_cons] using hx)

theorem segsWithFinal_ok (segs : List Doc) (cs : List Char) (hs : DocsOk segs cs)
    (hlast : ∀ x, segs.getLast? = some x → V x = [])
    (final : Option Doc) (cf : List Char) (hf : ∀ d, final = some d → DocOk d cf)
    (hnone : final = none → cf = []) : DocsOk (segsWithFinal segs final) (cs ++ cf) := by
  cases final with
  | none =>
    rw [hnone rfl, List.append_nil]
    exact ReadsL.dropLast hs hlast
  | some d => exact DocsOk.append hs (ReadsL.one (hf d rfl))

theorem blockOf_ok (fe : Bool) (segs : List Doc) (cs : List Char) (hs : DocsOk segs cs)
    (hlast : ∀ x, segs.getLast? = some x → V x = [])
    (final : Option Doc) (cf : List Char) (hf : ∀ d, final = some d → DocOk d cf)
    (hnone : final = none → cf = []) :
    DocOk (blockOf fe segs final) ('{' :: cs ++ cf ++ ['}']) := by
  have hfin : DocOk (final.getD .nil) cf := by
    cases final with
    | none => rw [hnone rfl]; exact Reads.nil
    | some d => exact hf d rfl
  have hsegs' := segsWithFinal_ok segs cs hs hlast final cf hf hnone
  unfold blockOf
  split
  · rename_i hemp
    have : segs = [] := by simpa using hemp
    subst this
    have hcs : cs = [] := hs.2.symm
    subst hcs
    split
    · exact (ReadsL.concatV (ReadsL.cons (lit ['{'] ['{']) (ReadsL.cons
        (Reads.nest _ (ReadsL.concatV (ReadsL.cons Reads.lineHard (ReadsL.one hfin))))
        (ReadsL.cons Reads.line (ReadsL.one (lit ['}'] ['}'])))))).cast (by simp)
    · exact (bracesD_ok hfin).cast (by simp)
  · have hsep : DocOk (if fe then Doc.lineHard else Doc.line) [] := by
      cases fe
      · exact Reads.line
      · exact Reads.lineHard
    exact (ReadsL.concatV (ReadsL.cons (lit ['{'] ['{']) (ReadsL.cons
      (Reads.nest _ (ReadsL.concatV (ReadsL.cons hsep hsegs')))
      (ReadsL.cons hsep (ReadsL.one (lit ['}'] ['}'])))))).cast (by simp)

theorem ifElseCustom_ok {c t e cc ct ce} (hc : DocOk c cc) (ht : DocOk t ct) (he : DocOk e ce) :
    DocOk (ifElseCustom c t e) (['i', 'f'] ++ cc ++ ct ++ ['e', 'l', 's', 'e'] ++ ce) :=
  (ReadsL.concatV (ReadsL.cons
    (ReadsL.concatV (ReadsL.cons (lit ['i', 'f', ' '] ['i', 'f']) (ReadsL.cons hc (ReadsL.one (lit [' '] [])))))
    (ReadsL.cons ht (ReadsL.cons (lit [' ', 'e', 'l', 's', 'e', ' '] ['e', 'l', 's', 'e'])
      (ReadsL.one he))))).cast (by simp)

theorem ifElseDoc_ok {c tf ef tx ex cc ct ce} (hc : DocOk c cc) (htf : DocOk tf ct) (hef : DocOk ef ce)
    (htx : DocOk tx ct) (hex : DocOk ex ce) :
    DocOk (ifElseDoc c tf ef tx ex) (['i', 'f'] ++ cc ++ ct ++ ['e', 'l', 's', 'e'] ++ ce) := by
  have hflat := ifElseCustom_ok hc htf hef
  have hexp := ifElseCustom_ok hc htx hex
  unfold ifElseDoc
  split
  · rename_i f hf
    exact Reads.union (Reads.flatten textKey_space hf hflat) hexp
  · exact hexp

/-- what `ir_ok` proves of `e`: the intermediate form reads the printed tokens, and only a chain
node (`post`, `call0`, `call`) has chain segments. -/
def IRFull (L : Leaves) (e : Expr) : Prop :=
  IROk (irOf L e) (chars L (printE e)) ∧ (isChain e = false → (irOf L e).2 = [])

theorem IRFull.doc {L : Leaves} {e : Expr} (h : IRFull L e) :
    DocOk (close e (irOf L e)) (chars L (printE e)) := close_ok e h.1 h.2

theorem irfull_of_doc (L : Leaves) (e : Expr) (hn : (irOf L e).2 = [])
    (h : DocOk (irOf L e).1 (chars L (printE e))) : IRFull L e := by
  unfold IRFull
  refine ⟨⟨h.1, ?_, ?_⟩, fun _ => hn⟩
  · rw [hn]; exact fun _ hds => (by cases hds)
  · rw [hn]; simpa [cval] using h.2

mutual
theorem ir_ok (L : Leaves) (hL : L.Ok) : (e : Expr) → IRFull L e
  | .atom a => irfull_of_doc L _ (by simp [irOf]) (by
      simp only [irOf]
      exact (Reads.of_agree (hL.atom a)).cast (by simp [printE, tokChars]))
  | .tuple e es => irfull_of_doc L _ (by simp [irOf]) (by
      simp only [irOf]
      have he := (ir_ok L hL e).doc
      have hes := args_ok L hL es
      exact (parenD_ok (ReadsL.concatV (ReadsL.cons he (ReadsL.cons (lit [','] [',']) (ReadsL.cons Reads.line
        (ReadsL.one hes)))))).cast (by simp [printE, tokChars]))
  | .block b => irfull_of_doc L _ (by simp [irOf]) (by
      simp only [irOf]
      have := blk_ok L hL false b
      simpa [printE, tokChars] using this)
  | .post e p fld => by
    have hb := baseIR_ok L e (ir_ok L hL e).1 (ir_ok L hL e).2
    obtain ⟨h1, h2, h3⟩ := hb
    refine ⟨⟨h1, ?_, ?_⟩, fun h => by simp [isChain] at h⟩
    · intro ds hds d hd
      simp only [irOf] at hds
      rcases List.mem_append.mp hds with hds | hds
      · exact h2 ds hds d hd
      · simp only [List.mem_singleton] at hds
        subst hds
        simp only [List.mem_cons, List.not_mem_nil, or_false] at hd
        rcases hd with rfl | rfl
        · exact hL.name p
        · cases fld
          · exact hL.targs p
          · trivial
    · show V _ ++ cval _ = _
      simp only [irOf, printE, chars_append, ← h3]
      cases fld <;> simp [cval, List.flatMap_append, tokChars, V, val]
  | .call0 f => by
    have hb := baseIR_ok L f (ir_ok L hL f).1 (ir_ok L hL f).2
    have := pushArgs_ok hb (parenD_ok Reads.nil)
    refine ⟨?_, fun h => by simp [isChain] at h⟩
    simpa [irOf, printE, tokChars] using this
  | .call f args => by
    have hb := baseIR_ok L f (ir_ok L hL f).1 (ir_ok L hL f).2
    have := pushArgs_ok hb (parenD_ok (args_ok L hL args))
    refine ⟨?_, fun h => by simp [isChain] at h⟩
    simpa [irOf, printE, tokChars] using this
  | .unary u e => irfull_of_doc L _ (by simp [irOf]) (by
      simp only [irOf]
      have he := subD_ok L 2 true e (ir_ok L hL e).doc
      exact (Reads.concat (uop_ok L u) he).cast (by simp [printE]))
  | .binary o l r => irfull_of_doc L _ (by rw [irOf_binary]) (by
      rw [irOf_binary, printE_binary]
      have hl := ifParen_ok L (lParen o l) (ir_ok L hL l).doc
      have hr := ifParen_ok L (rParen o l r) (ir_ok L hL r).doc
      exact (ReadsL.concatV (ReadsL.cons hl (ReadsL.cons Reads.nil (ReadsL.cons (operatorDoc_ok o)
        (ReadsL.one hr))))).cast (by simp [tokChars]))
  | .ifElse c t e => irfull_of_doc L _ (by simp [irOf]) (by
      simp only [irOf]
      have hc := (ir_ok L hL c).doc
      exact (ifElseDoc_ok hc (blk_ok L hL false t) (blk_ok L hL false e) (blk_ok L hL true t)
        (blk_ok L hL true e)).cast (by simp [printE, tokChars]))
  | .matchE m cs => irfull_of_doc L _ (by simp [irOf]) (by
      simp only [irOf]
      have hm := (ir_ok L hL m).doc
      have hcs := cases_ok L hL cs
      exact (ReadsL.concatV (ReadsL.cons (lit ['m', 'a', 't', 'c', 'h', ' '] ['m', 'a', 't', 'c', 'h'])
        (ReadsL.cons hm (ReadsL.cons (lit [' '] []) (ReadsL.one
          (bracket_ok ['{'] ['}'] .lineHard _ ['{'] ['}'] _ (by decide) (by decide) Reads.lineHard
            (ReadsL.concatV hcs))))))).cast (by simp [printE, tokChars]))
  | .lambda k body => irfull_of_doc L _ (by simp [irOf]) (by
      simp only [irOf]
      have hb := subD_ok L 12 false body (ir_ok L hL body).doc
      have hp := Reads.of_agree (hL.params k)
      exact (ReadsL.concatV (ReadsL.cons (parenD_ok hp) (ReadsL.cons (lit [' ', '-', '>', ' '] ['-', '>'])
        (ReadsL.one hb)))).cast (by simp [printE, tokChars]))
theorem args_ok (L : Leaves) (hL : L.Ok) : (as : Args) → DocOk (docArgs L as) (chars L (printArgs as))
  | .one e => by simpa [docArgs, printArgs] using (ir_ok L hL e).doc
  | .cons e rest => by
    have he := (ir_ok L hL e).doc
    have hr := args_ok L hL rest
    simp only [docArgs, printArgs]
    exact (ReadsL.concatV (ReadsL.cons he (ReadsL.cons (lit [','] [',']) (ReadsL.cons Reads.line
      (ReadsL.one hr))))).cast (by simp [tokChars])
theorem cases_ok (L : Leaves) (hL : L.Ok) : (cs : Cases) → DocsOk (docCases L cs) (chars L (printCases cs))
  | .one k b => by
    have hb := (ir_ok L hL b).doc
    have hp := Reads.of_agree (hL.pat k)
    simp only [docCases, printCases]
    exact (ReadsL.cons hp (ReadsL.cons (lit [' ', '-', '>', ' '] ['-', '>']) (ReadsL.cons hb
      (ReadsL.one (lit [','] [',']))))).cast (by simp [tokChars])
  | .cons k b rest => by
    have hb := (ir_ok L hL b).doc
    have hr := cases_ok L hL rest
    have hp := Reads.of_agree (hL.pat k)
    simp only [docCases, printCases]
    exact (ReadsL.cons hp (ReadsL.cons (lit [' ', '-', '>', ' '] ['-', '>']) (ReadsL.cons hb
      (ReadsL.cons (lit [','] [',']) (ReadsL.cons Reads.line hr))))).cast (by simp [tokChars])
theorem blk_ok (L : Leaves) (hL : L.Ok) (fe : Bool) :
    (b : Blk) → DocOk (blockDoc L fe b) ('{' :: chars L (printBody b))
  | .fin ss e => by
    have hs := stmts_ok L hL ss
    have he := (ir_ok L hL e).doc
    simp only [blockDoc, printBody]
    exact (blockOf_ok fe _ _ hs.1 hs.2 (some _) _ (fun d hd => by cases hd; exact he)
      (fun h => by cases h)).cast (by simp [tokChars])
  | .noFin ss => by
    have hs := stmts_ok L hL ss
    simp only [blockDoc, printBody]
    exact (blockOf_ok fe _ _ hs.1 hs.2 none [] (fun d hd => by cases hd) (fun _ => rfl)).cast
      (by simp [tokChars])
theorem stmts_ok (L : Leaves) (hL : L.Ok) : (ss : Stmts) →
    DocsOk (stmtSegs L ss) (chars L (printStmts ss)) ∧
      ∀ x, (stmtSegs L ss).getLast? = some x → V x = []
  | .nil => ⟨by simpa [stmtSegs, printStmts] using show DocsOk [] [] from ReadsL.nil,
    fun x h => by simp [stmtSegs] at h⟩
  | .letS k e rest => by
    have he := (ir_ok L hL e).doc
    have hr := stmts_ok L hL rest
    have hp := Reads.of_agree (hL.letPat k)
    have ha := Reads.of_agree (hL.letAnnot k)
    simp only [stmtSegs, printStmts]
    refine ⟨?_, ?_⟩
    · exact (ReadsL.cons (ReadsL.concatV (ReadsL.cons Reads.nil (ReadsL.cons
        (lit ['l', 'e', 't', ' '] ['l', 'e', 't']) (ReadsL.cons hp (ReadsL.cons ha
        (ReadsL.cons (lit [' ', '=', ' '] ['=']) (ReadsL.cons he (ReadsL.one (lit [';'] [';'])))))))))
        (ReadsL.cons Reads.lineHard hr.1)).cast (by simp [tokChars])
    · exact last_cons_lineHard hr.2
  | .exprS e rest => by
    have he := (ir_ok L hL e).doc
    have hr := stmts_ok L hL rest
    simp only [stmtSegs, printStmts]
    refine ⟨?_, ?_⟩
    · exact (ReadsL.cons (ReadsL.concatV (ReadsL.cons he (ReadsL.one (lit [';'] [';']))))
        (ReadsL.cons Reads.lineHard hr.1)).cast (by simp [tokChars])
    · exact last_cons_lineHard hr.2
end

end SamVerif.FmtDoc
