import SamVerif.Lemmas.OptKernel
/-!
The only place where C03 depends on C02's use-collector model (`Model/OptKernel.lean`: `US`, one
constructor per syntactic use position of `collect_use_from_stmt`; `US.uses`; `dceU`; the `While`
arm's `loopVarsStage1`).  C03 reads the names as ids of *entities a kept statement refers to* and
states, under its own names, the facts behind "a reference in any use position keeps the
referenced entity" (the class of seeded fault C03e: a collector arm that skips one position).
`kept_uses_collected` and `live_stays_collected` are the two halves of `mem_dceU_used` of
`Lemmas/OptKernel.lean`, so that C03 does not import `Props/C02.lean`.
-/
namespace SamVerif.C03Live
open SamVerif.Opt

theorem kept_uses_collected (p : List US) (live : List Nat) :
    ∀ s, s ∈ (dceU true p live).1 → ∀ x, x ∈ s.uses true → x ∈ (dceU true p live).2 :=
  fun s hs x hx => (mem_dceU_used true p live x).mpr (.inr ⟨s, hs, hx⟩)

theorem live_stays_collected (p : List US) (live : List Nat) : ∀ x, x ∈ live → x ∈ (dceU true p live).2 :=
  fun x h => (mem_dceU_used true p live x).mpr (.inl h)

theorem mustStay_kept {l : List US} {s : US} (live : List Nat) (hs : s ∈ l) (h : s.mustStay = true) :
    s ∈ (dceU true l live).1 := by
  -- `dceU`: empty block; head `t` kept; head `t` dropped
  fun_induction dceU true l live with
  | case1 => cases hs
  | case2 live t r _ ih =>
    rcases List.mem_cons.mp hs with rfl | hs
    · exact List.mem_cons_self
    · exact List.mem_cons_of_mem _ (ih hs)
  | case3 live t r hdrop ih =>
    -- a statement that must stay is never the one dropped
    rcases List.mem_cons.mp hs with rfl | hs
    · rw [US.kept, h] at hdrop; cases hdrop rfl
    · exact ih hs

/-- the names the `While` arm looks at before it drops loop variables: initial values, LOOP VALUES and
every use position of the body -/
def whileMentioned (lvs : List (Nat × Operand × Operand)) (body : List US) : List Nat :=
  lvs.flatMap (fun lv => lv.2.1.vars ++ lv.2.2.vars) ++ body.flatMap (US.uses true)

theorem loopVarsStage1_eq (lvs : List (Nat × Operand × Operand)) (body : List US) :
    loopVarsStage1 true lvs body = lvs.filter (fun lv => (whileMentioned lvs body).contains lv.1) := rfl

end SamVerif.C03Live
