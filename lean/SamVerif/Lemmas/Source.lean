import SamVerif.Model.Source
/-! Lemmas about the reference semantics (SRC): the order "out of fuel ⊑ anything" on results, and
monotonicity in `ev` of every functional the evaluator is built from. -/
namespace SamVerif.Source

def Res.le {α : Type} (r r' : Res α) : Prop := r = .oof ∨ r = r'

def Ev.le (ev ev' : Ev) : Prop := ∀ env s e, (ev env s e).le (ev' env s e)

theorem Res.le_refl {α : Type} (r : Res α) : r.le r := Or.inr rfl

theorem Res.oof_le {α : Type} (r : Res α) : (Res.oof : Res α).le r := Or.inl rfl

theorem Res.eq_of_le {α : Type} {r r' : Res α} (h : r.le r') (hn : r ≠ .oof) : r' = r := by
  cases h with
  | inl h => exact absurd h hn
  | inr h => exact h.symm

theorem bind_mono {α β : Type} {r r' : Res α} {k k' : α → St → Res β}
    (h : r.le r') (hk : ∀ a s, (k a s).le (k' a s)) : (r.bind k).le (r'.bind k') := by
  cases h with
  | inl h => subst h; exact Or.inl rfl
  | inr h =>
    subst h
    cases r with
    | ok a s => exact hk a s
    | panic m s => exact Or.inr rfl
    | trap t s => exact Or.inr rfl
    | oof => exact Or.inl rfl

theorem bind_mono_left {α β : Type} {r r' : Res α} (h : r.le r') {k : α → St → Res β} :
    (r.bind k).le (r'.bind k) :=
  bind_mono h fun _ _ => Res.le_refl _

theorem evalList_mono {ev ev' : Ev} (h : ev.le ev') (env : Env) :
    ∀ (es : List Expr) (s : St), (evalList ev env s es).le (evalList ev' env s es)
  | [], _ => Res.le_refl _
  | e :: es, s => bind_mono (h env s e) fun _ s1 => bind_mono_left (evalList_mono h env es s1)

theorem evalStmts_mono {ev ev' : Ev} (h : ev.le ev') :
    ∀ (stmts : List (Pat × Expr)) (env : Env) (s : St),
      (evalStmts ev env s stmts).le (evalStmts ev' env s stmts)
  | [], _, _ => Res.le_refl _
  | (p, e) :: rest, env, s => bind_mono (h env s e) fun v s1 => by
    split
    · exact evalStmts_mono h rest _ _
    · exact Res.le_refl _

theorem evalCases_mono {ev ev' : Ev} (h : ev.le ev') (env : Env) (s : St) (v : Val) :
    ∀ (cases : List (Pat × Expr)), (evalCases ev env s v cases).le (evalCases ev' env s v cases)
  | [] => Res.le_refl _
  | (p, body) :: rest => by
    simp only [evalCases]
    split
    · exact h _ _ _
    · exact evalCases_mono h env s v rest

theorem invoke_mono (P : Program) {ev ev' : Ev} (h : ev.le ev') (cls name : String) (self : Val)
    (args : List Val) (s : St) :
    (invoke P ev cls name self args s).le (invoke P ev' cls name self args s) := by
  unfold invoke
  split
  · exact Res.le_refl _
  · split
    · exact Res.le_refl _
    · split
      · exact h _ _ _
      · exact Res.le_refl _

theorem applyVal_mono (P : Program) {ev ev' : Ev} (h : ev.le ev') (f : Val) (args : List Val)
    (s : St) : (applyVal P ev f args s).le (applyVal P ev' f args s) := by
  cases f with
  | clo ps body cenv => exact h _ _ _
  | mref cls name self => exact invoke_mono P h _ _ _ _ _
  | _ => exact Res.le_refl _

theorem step_mono (P : Program) {ev ev' : Ev} (h : ev.le ev') : Ev.le (step P ev) (step P ev') := by
  intro env s e
  cases e with
  | tuple c es => exact bind_mono_left (evalList_mono h env es s)
  | field i e => exact bind_mono_left (h env s e)
  | method r name o => exact bind_mono_left (h env s o)
  | unary op e => exact bind_mono_left (h env s e)
  | call f args =>
    exact bind_mono (h env s f) fun fv s1 =>
      bind_mono (evalList_mono h env args s1) fun vs s2 => applyVal_mono P h fv vs s2
  | binary op e1 e2 =>
    simp only [step]
    split
    -- the last arm: the operators that evaluate both operands
    case h_3 => exact bind_mono (h env s e1) fun a s1 => bind_mono_left (h env s1 e2)
    -- `&&` and `||` differ only in which value of the left operand ends the evaluation
    all_goals
      refine bind_mono (h env s e1) fun a s1 => ?_
      split
      · exact Res.le_refl _
      · exact bind_mono_left (h env s1 e2)
      · exact Res.le_refl _
  | ite c e1 e2 =>
    refine bind_mono (h env s c) fun v s1 => ?_
    split
    · exact h _ _ _
    · exact h _ _ _
    · exact Res.le_refl _
  | iflet p e e1 e2 =>
    refine bind_mono (h env s e) fun v s1 => ?_
    split <;> exact h _ _ _
  | «match» e cases => exact bind_mono (h env s e) fun v s1 => evalCases_mono h env s1 v cases
  | block stmts final =>
    refine bind_mono (evalStmts_mono h stmts env s) fun env' s1 => ?_
    split
    · exact h _ _ _
    · exact Res.le_refl _
  | _ => exact Res.le_refl _

theorem eval_le (P : Program) : ∀ {n m : Nat}, n ≤ m → Ev.le (eval P n) (eval P m)
  | 0, _, _ => fun _ _ _ => Res.oof_le _
  | _ + 1, _ + 1, h => step_mono P (eval_le P (Nat.le_of_succ_le_succ h))

end SamVerif.Source
