import SamVerif.Model.FmtEval
import SamVerif.Lemmas.FmtFull
/-! Regrouping keeps the outcome (`eval_rg` and its four companions, one mutual induction): the four
operators the printer regroups are associative as computations (`evalBin_assoc`), by the monad laws
of `bindM` and associativity of addition and multiplication modulo 2^32. -/
namespace SamVerif.Fmt

theorem wrap32_emod (v : Int) : wrap32 v % 4294967296 = v % 4294967296 := by
  unfold wrap32; split <;> omega

theorem wrap32_congr {a b : Int} (h : a % 4294967296 = b % 4294967296) : wrap32 a = wrap32 b := by
  unfold wrap32; rw [h]

theorem wrap32_add_assoc (x y z : Int) :
    wrap32 (x + wrap32 (y + z)) = wrap32 (wrap32 (x + y) + z) := by
  apply wrap32_congr
  have h1 := wrap32_emod (y + z)
  have h2 := wrap32_emod (x + y)
  omega

theorem wrap32_mul_assoc (x y z : Int) :
    wrap32 (x * wrap32 (y * z)) = wrap32 (wrap32 (x * y) * z) := by
  apply wrap32_congr
  rw [Int.mul_emod, wrap32_emod, ← Int.mul_emod]
  rw [Int.mul_emod (wrap32 (x * y)), wrap32_emod, ← Int.mul_emod]
  rw [Int.mul_assoc]

theorem toB_bool (b : Bool) : toB (.bool b) = b := rfl

def assocOp (o : BinOp) : Bool := o == .plus || o == .mul || o == .and || o == .or

theorem bindM_assoc (m : M) (f g : Val → M) :
    bindM (bindM m f) g = bindM m fun v => bindM (f v) g := by
  obtain ⟨t, _ | v⟩ := m
  · rfl
  · simp only [bindM]
    rcases f v with ⟨t', _ | w⟩ <;> simp [List.append_assoc]

theorem bindM_ret (v : Val) (f : Val → M) : bindM ([], some v) f = f v := by simp [bindM]

theorem bindM_ite (c : Prop) [Decidable c] (a b : M) (f : Val → M) :
    bindM (if c then a else b) f = if c then bindM a f else bindM b f :=
  apply_ite (bindM · f) c a b

/-- **Associativity of the four shortcut operators as computations** (values, traps, event order):
both sides are `x`, then `y`, then `z` by the monad laws, and the values agree by associativity of
the operation on values. -/
theorem evalBin_assoc (o : BinOp) (h : assocOp o = true) (x y z : M) :
    evalBin o x (evalBin o y z) = evalBin o (evalBin o x y) z := by
  cases o with
  | mul => simp only [evalBin, applyOp, bindM_assoc, bindM_ret, toI, wrap32_mul_assoc]
  | plus => simp only [evalBin, applyOp, bindM_assoc, bindM_ret, toI, wrap32_add_assoc]
  | and =>
    simp only [evalBin, pureM, bindM_assoc, bindM_ret, bindM_ite]
    rfl  -- the conditions differ by `toB (.bool b) = b`, which computes
  | or =>
    simp only [evalBin, pureM, bindM_assoc, bindM_ret, bindM_ite]
    rfl
  | _ => exact absurd h (by decide)

end SamVerif.Fmt

namespace SamVerif.FmtFull
open SamVerif.Fmt (BinOp UOp Val M pureM bindM wrap32 toI toB toS applyOp evalBin assocOp evalBin_assoc)

theorem assocOp_of_shortcutOk {o : BinOp} {e : Expr} (h : shortcutOk o e = true) : assocOp o = true := by
  cases e <;> simp [shortcutOk] at h
  simp [assocOp, h.1.1]

mutual
/-- regrouping does not change the outcome (value, trap, order of observable events). Second
component, on which the binary case lives: a shortcut right operand grafted onto `acc` evaluates
like `acc o e`. -/
theorem eval_rg (I : Interp) : (e : Expr) →
    eval I (regroup e) = eval I e ∧
    ∀ o acc, shortcutOk o e = true → eval I (graftR o acc e) = evalBin o (eval I acc) (eval I e)
  | .atom a => ⟨by rw [regroup_atom], fun o acc h => by simp [shortcutOk] at h⟩
  | .tuple e es => by
    refine ⟨?_, fun o acc h => by simp [shortcutOk] at h⟩
    rw [regroup_tuple]; simp only [eval]; rw [(eval_rg I e).1, evalArgs_rg I es]
  | .block b => by
    refine ⟨?_, fun o acc h => by simp [shortcutOk] at h⟩
    rw [regroup_block]; simp only [eval]; rw [evalBlk_rg I b]
  | .post e p f => by
    refine ⟨?_, fun o acc h => by simp [shortcutOk] at h⟩
    rw [regroup_post]; simp only [eval]; rw [(eval_rg I e).1]
  | .call0 f => by
    refine ⟨?_, fun o acc h => by simp [shortcutOk] at h⟩
    rw [regroup_call0]; simp only [eval]; rw [(eval_rg I f).1]
  | .call f args => by
    refine ⟨?_, fun o acc h => by simp [shortcutOk] at h⟩
    rw [regroup_call]; simp only [eval]; rw [(eval_rg I f).1, evalArgs_rg I args]
  | .ifElse c t e => by
    refine ⟨?_, fun o acc h => by simp [shortcutOk] at h⟩
    rw [regroup_ifElse]; simp only [eval]; rw [(eval_rg I c).1, evalBlk_rg I t, evalBlk_rg I e]
  | .matchE m cs => by
    refine ⟨?_, fun o acc h => by simp [shortcutOk] at h⟩
    rw [regroup_matchE]; simp only [eval]; rw [(eval_rg I m).1, evalCases_rg I cs]
  | .lambda k b => by
    refine ⟨?_, fun o acc h => by simp [shortcutOk] at h⟩
    rw [regroup_lambda]; simp only [eval]; rw [(eval_rg I b).1]
  | .unary u a => by
    refine ⟨?_, fun o acc h => by simp [shortcutOk] at h⟩
    rw [regroup_unary]; cases u <;> simp only [eval] <;> rw [(eval_rg I a).1]
  | .binary o l r => by
    have ihl := (eval_rg I l).1
    have ihr := eval_rg I r
    -- whatever is accumulated on the left, folding `r` in or taking it as one operand is `acc o r`
    have hTail : ∀ acc, eval I (if usesShortcut o l r then graftR o acc r
        else .binary o acc (regroup r)) = evalBin o (eval I acc) (eval I r) := by
      intro acc
      split
      · exact ihr.2 o acc (shortcut_shape ‹_›).2.2.2
      · simp only [eval]; rw [ihr.1]
    constructor
    · rw [regroup_binary, hTail, ihl]; simp only [eval]
    · intro o2 acc hsc
      have ha := assocOp_of_shortcutOk hsc
      obtain ⟨_, r1, r2, heq, _⟩ := shortcutOk_shape hsc
      cases heq
      rw [graftR_binary, hTail]; simp only [eval]
      rw [ihl, ← evalBin_assoc o ha]
theorem evalArgs_rg (I : Interp) : (es : Args) → evalArgs I (rgArgs es) = evalArgs I es
  | .one e => by
    rw [rgArgs_one]; simp only [evalArgs]; rw [(eval_rg I e).1]
  | .cons e rest => by
    rw [rgArgs_cons]; simp only [evalArgs]; rw [(eval_rg I e).1, evalArgs_rg I rest]
theorem evalCases_rg (I : Interp) : (cs : Cases) → evalCases I (rgCases cs) = evalCases I cs
  | .one k b => by
    rw [rgCases_one]; simp only [evalCases]; rw [(eval_rg I b).1]
  | .cons k b rest => by
    rw [rgCases_cons]; simp only [evalCases]; rw [(eval_rg I b).1, evalCases_rg I rest]
theorem evalBlk_rg (I : Interp) : (b : Blk) → evalBlk I (rgBlk b) = evalBlk I b
  | .fin ss e => by
    rw [rgBlk_fin]; simp only [evalBlk]; rw [(eval_rg I e).1, evalStmts_rg I ss]
  | .noFin ss => by
    rw [rgBlk_noFin]; simp only [evalBlk]; rw [evalStmts_rg I ss]
theorem evalStmts_rg (I : Interp) : (ss : Stmts) → ∀ k, evalStmts I (rgStmts ss) k = evalStmts I ss k
  | .nil, k => by simp [rgStmts]
  | .letS n e rest, k => by
    rw [rgStmts_letS]; simp only [evalStmts]; rw [(eval_rg I e).1]
    congr; funext v; congr; funext _; exact evalStmts_rg I rest k
  | .exprS e rest, k => by
    rw [rgStmts_exprS]; simp only [evalStmts]; rw [(eval_rg I e).1]
    congr; funext _; exact evalStmts_rg I rest k
end

end SamVerif.FmtFull
