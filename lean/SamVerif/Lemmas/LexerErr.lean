import SamVerif.Lemmas.LexerPos
/-! Error reporting (C05 `syntax_error_reported`) and the token producer. Everything about the
producer goes through `processRaw_cases`, the three things one step can do: yield with an error
entry for an out-of-range integer, plain yield, or merge `-` and `2147483648` into one pending
token. From it: the producer holds and yields at most one token per raw token (for C05
`scan_progress`), and error tokens and out-of-range integers keep their entry in the error list. -/
namespace SamVerif.Lexer

theorem rawLoop_error_reported (fuel : Nat) (rest : Bytes) (pos : Pos) :
    ∀ t ∈ (rawLoop fuel rest pos).toks, t.kind = .error →
      (⟨t.start, t.stop, .tok⟩ : Err) ∈ (rawLoop fuel rest pos).errs := by
  fun_induction rawLoop fuel rest pos with
  | case1 => exact fun _ h => nomatch h
  | case2 => exact fun _ h => nomatch h
  | case3 => exact fun _ h => nomatch h
  | case4 fuel rest pos s hs r ih =>
    intro t ht hk
    rcases List.mem_cons.mp ht with rfl | ht
    · exact List.mem_append_left _ ((nextRaw_tok hs).err hk)
    · exact List.mem_append_right _ (ih t ht hk)

/-- tokens the producer holds or has yielded -/
def PState.all (st : PState) : List Token := st.out ++ st.pending.toList

/-- integer rule: an integer literal (not the merged `-2147483648`) of value ≥ 2³¹ has its error -/
def IntReported (errs : List Err) (t : Token) : Prop :=
  t.kind = .int → t.text.head? ≠ some 45 → twoPow31 ≤ digitsVal t.text 0 →
    (⟨t.start, t.stop, .int⟩ : Err) ∈ errs

/-- the three things `process_raw_token` + `pending.replace` can do -/
theorem processRaw_cases (st : PState) (t : Token) :
    (t.kind = .int ∧ processRaw st t =
        ⟨some t, st.out ++ st.pending.toList, st.errs ++ [⟨t.start, t.stop, .int⟩]⟩) ∨
    ((t.kind = .int → digitsVal t.text 0 < twoPow31) ∧ processRaw st t =
        ⟨some t, st.out ++ st.pending.toList, st.errs⟩) ∨
    (∃ p, st.pending = some p ∧ processRaw st t =
        ⟨some ⟨.int, 45 :: t.text, posMin p.start t.start, posMax p.stop t.stop⟩, st.out, st.errs⟩) := by
  have hy (errs : List Err) : (⟨some t, match st.pending with | some p => st.out ++ [p] | none => st.out,
      errs⟩ : PState) = ⟨some t, st.out ++ st.pending.toList, errs⟩ := by cases st.pending <;> simp
  fun_cases processRaw st t with
  | case1 _ hk =>               -- above 2³¹, or 2³¹ not after `-`: error entry, yield
    exact .inl ⟨hk, hy _⟩
  | case2 hk v fm _ _ p hp =>   -- 2³¹ after `-`: merge
    exact .inr (.inr ⟨p, hp, rfl⟩)
  | case3 _ hk v fm hbig hv p hp hm =>   -- 2³¹ after a token `p` other than `-`
    -- impossible: `followsMinus` is false here, so the first test had caught this literal
    exact absurd (.inr ⟨hv, by simp [fm, hp, hm]⟩) hbig
  | case4 _ hk v fm hbig hv hp =>        -- 2³¹ with nothing pending: impossible likewise
    exact absurd (.inr ⟨hv, by simp [fm, hp]⟩) hbig
  | case5 _ hk v fm hbig hv =>  -- below 2³¹: yield
    exact .inr (.inl ⟨fun _ => by omega, hy _⟩)
  | case6 _ hk =>               -- not an integer: yield
    exact .inr (.inl ⟨fun h => absurd h hk, hy _⟩)

theorem processRaw_all_length (st : PState) (t : Token) :
    (processRaw st t).all.length ≤ st.all.length + 1 := by
  rcases processRaw_cases st t with ⟨_, he⟩ | ⟨_, he⟩ | ⟨p, hp, he⟩ <;>
    simp only [he, PState.all, Option.toList_some, List.length_append, List.length_singleton]
  · omega
  · omega
  · rw [hp]; exact Nat.le_succ _

theorem foldl_processRaw_all_length (ts : List Token) (st : PState) :
    (ts.foldl processRaw st).all.length ≤ st.all.length + ts.length := by
  induction ts generalizing st with
  | nil => exact Nat.le_refl _
  | cons t ts ih =>
    have := ih (processRaw st t)
    have := processRaw_all_length st t
    simp only [List.foldl_cons, List.length_cons]
    omega

theorem produce_toks_prefix (raw : RawResult) :
    (produce raw).toks <+: (raw.toks.foldl processRaw ⟨none, [], []⟩).all := by
  unfold produce
  generalize raw.toks.foldl processRaw ⟨none, [], []⟩ = st
  dsimp only
  split
  · rename_i p _ hp
    rw [PState.all, hp]
    exact List.prefix_refl _
  · exact List.prefix_append ..

/-- One producer step keeps the integer rule on everything held, and an `error` token it holds was
held before or is the raw token just read: the merge never makes one. The second half is what lets
`rawLoop_error_reported` speak for the producer's tokens in `syntax_error_reported`. -/
theorem processRaw_inv (st : PState) (t : Token) (hin : ∀ u ∈ st.all, IntReported st.errs u) :
    (∀ u ∈ (processRaw st t).all, IntReported (processRaw st t).errs u) ∧
      (∀ u ∈ (processRaw st t).all, u.kind = .error → u ∈ st.all ∨ u = t) := by
  rcases processRaw_cases st t with ⟨hk, he⟩ | ⟨hv, he⟩ | ⟨p, hp, he⟩ <;> rw [he] <;>
    simp only [PState.all, Option.toList_some, List.mem_append, List.mem_singleton] at hin ⊢
  · refine ⟨?_, fun u hu _ => hu⟩
    rintro u (hu | rfl)
    · exact fun h1 h2 h3 => List.mem_append_left _ (hin u hu h1 h2 h3)
    · exact fun _ _ _ => List.mem_append_right _ (List.mem_singleton.mpr rfl)
  · refine ⟨?_, fun u hu _ => hu⟩
    rintro u (hu | rfl)
    · exact hin u hu
    · exact fun h1 _ h3 => absurd (hv h1) (by omega)
  · constructor
    · rintro u (hu | rfl)
      · exact hin u (.inl hu)
      · exact fun _ h2 _ => absurd rfl h2
    · rintro u (hu | rfl) hkk
      · exact .inl (.inl hu)
      · cases hkk

theorem foldl_processRaw_inv (ts : List Token) (st : PState)
    (hin : ∀ u ∈ st.all, IntReported st.errs u) :
    (∀ u ∈ (ts.foldl processRaw st).all, IntReported (ts.foldl processRaw st).errs u) ∧
      (∀ u ∈ (ts.foldl processRaw st).all, u.kind = .error → u ∈ st.all ∨ u ∈ ts) := by
  induction ts generalizing st with
  | nil => exact ⟨hin, fun u hu _ => .inl hu⟩
  | cons t ts ih =>
    obtain ⟨h1, h2⟩ := processRaw_inv st t hin
    obtain ⟨r1, r2⟩ := ih (processRaw st t) h1
    refine ⟨r1, fun u hu hk => ?_⟩
    rcases r2 u hu hk with h | h
    · rcases h2 u h hk with h | rfl
      · exact .inl h
      · exact .inr (List.mem_cons_self ..)
    · exact .inr (List.mem_cons_of_mem _ h)

end SamVerif.Lexer
