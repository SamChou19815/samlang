import SamVerif.Model.FmtPat
/-! Lemmas for the pattern model of C08: printed patterns parse back, by mutual structural recursion. -/
namespace SamVerif.FmtPat

theorem succ_of_le {n : Nat} : {f : Nat} → n + 1 ≤ f → ∃ f', f = f' + 1 ∧ n ≤ f'
  | f' + 1, h => ⟨f', rfl, Nat.le_of_succ_le_succ h⟩

/-- what may follow a bare variant tag: no `(`, which `parseP` would take for its argument list. -/
def noLp (ts : List PTok) : Prop := ∀ r, ts ≠ .lp :: r
/-- what may follow an or-pattern: no `|`, which `parseO` would take for a further alternative. -/
def noBar (ts : List PTok) : Prop := ∀ r, ts ≠ .bar :: r

/-- what is printed for a pattern, a list or a field list begins with an identifier, tag, `_`, `(`
or `{`; what the proofs need of that: it is not empty and does not begin with a closing bracket. -/
def goodHead (ts : List PTok) : Prop :=
  ∃ t r, ts = t :: r ∧ t ≠ .rp ∧ t ≠ .rb

theorem goodHead_append {ts : List PTok} (h : goodHead ts) (T : List PTok) : goodHead (ts ++ T) := by
  obtain ⟨t, r, rfl, h⟩ := h; exact ⟨t, r ++ T, rfl, h⟩

theorem printP_head (p : Pat) : goodHead (printP p) := by
  cases p <;> simp only [printP] <;> exact ⟨_, _, rfl, by simp⟩

theorem printO_head (o : OPat) : goodHead (printO o) := by
  cases o <;> simp only [printO]
  · exact printP_head _
  · exact goodHead_append (printP_head _) _

theorem printPs_head (ps : Pats) : goodHead (printPs ps) := by
  cases ps <;> simp only [printPs]
  · exact printO_head _
  · exact goodHead_append (printO_head _) _

theorem printFs_head (fs : Fields) : goodHead (printFs fs) := by
  cases fs <;> simp only [printFs] <;> exact ⟨_, _, rfl, by simp⟩

/- Printed patterns parse back (`mP` single pattern, `mO` or-pattern, `mPs` list up to its `)`,
`mFs` fields up to their `}`), with any budget of at least the pattern's size. Inside a list
`goodHead` tells the parser, after a comma, that an element follows and not the closing bracket of
a trailing comma. -/
mutual
theorem mP : (p : Pat) → ∀ rest, noLp rest → ∀ f, sizeP p ≤ f →
    parseP f (printP p ++ rest) = some (p, rest)
  | .id n, rest, _, f, hf => by
    obtain ⟨f', rfl, _⟩ := succ_of_le (n := 0) (by simpa [sizeP] using hf)
    simp [printP, parseP]
  | .wild, rest, _, f, hf => by
    obtain ⟨f', rfl, _⟩ := succ_of_le (n := 0) (by simpa [sizeP] using hf)
    simp [printP, parseP]
  | .variant t, rest, hl, f, hf => by
    obtain ⟨f', rfl, _⟩ := succ_of_le (n := 0) (by simpa [sizeP] using hf)
    simp only [printP, List.singleton_append]
    rw [parseP]
    intro ts he; cases he; exact hl _ rfl
  | .variantT t ps, rest, _, f, hf => by
    simp only [sizeP] at hf
    obtain ⟨f', rfl, hf'⟩ := succ_of_le (n := sizePs ps + 1) (by omega)
    simp only [printP, List.cons_append, List.append_assoc]
    simp [parseP, mPs ps rest f' (by omega)]
  | .tuple ps, rest, _, f, hf => by
    simp only [sizeP] at hf
    obtain ⟨f', rfl, hf'⟩ := succ_of_le (n := sizePs ps + 1) (by omega)
    simp only [printP, List.cons_append, List.append_assoc]
    simp [parseP, mPs ps rest f' (by omega)]
  | .obj fs, rest, _, f, hf => by
    simp only [sizeP] at hf
    obtain ⟨f', rfl, hf'⟩ := succ_of_le (n := sizeFs fs + 1) (by omega)
    simp only [printP, List.cons_append, List.append_assoc]
    simp [parseP, mFs fs rest f' (by omega)]
theorem mO : (o : OPat) → ∀ rest, noLp rest → noBar rest → ∀ f, sizeO o ≤ f →
    parseO f (printO o ++ rest) = some (o, rest)
  | .one p, rest, hl, hb, f, hf => by
    simp only [sizeO] at hf
    obtain ⟨f', rfl, hf'⟩ := succ_of_le hf
    simp only [printO]
    unfold parseO
    rw [mP p rest hl f' hf']
    cases rest with
    | nil => rfl
    | cons t r =>
      -- `parseO` reads on only after `|`, and `rest` does not start with one
      cases t with
      | bar => exact absurd rfl (hb r)
      | _ => rfl
  | .alt p o', rest, hl, hb, f, hf => by
    simp only [sizeO] at hf
    obtain ⟨f', rfl, hf'⟩ := succ_of_le (n := sizeP p + sizeO o') (by omega)
    simp only [printO, List.append_assoc, List.cons_append]
    unfold parseO
    rw [mP p (.bar :: (printO o' ++ rest)) (by intro r he; cases he) f' (by omega)]
    simp [mO o' rest hl hb f' (by omega)]
theorem mPs : (ps : Pats) → ∀ rest f, sizePs ps ≤ f →
    parsePs f (printPs ps ++ .rp :: rest) = some (ps, rest)
  | .one o, rest, f, hf => by
    simp only [sizePs] at hf
    obtain ⟨f', rfl, hf'⟩ := succ_of_le hf
    simp only [printPs]
    unfold parsePs
    rw [mO o (.rp :: rest) (by intro r he; cases he) (by intro r he; cases he) f' hf']
  | .cons o ps', rest, f, hf => by
    simp only [sizePs] at hf
    obtain ⟨f', rfl, hf'⟩ := succ_of_le (n := sizeO o + sizePs ps') (by omega)
    simp only [printPs, List.append_assoc, List.cons_append]
    unfold parsePs
    rw [mO o (.comma :: (printPs ps' ++ .rp :: rest)) (by intro r he; cases he)
      (by intro r he; cases he) f' (by omega)]
    obtain ⟨t, r, ht, h1, _⟩ := goodHead_append (printPs_head ps') (.rp :: rest)
    rw [ht]
    have := mPs ps' rest f' (by omega)
    rw [ht] at this
    -- after the comma a further element follows, not the closing `)`
    cases t with
    | rp => exact absurd rfl h1
    | _ => simp [this]
theorem mFs : (fs : Fields) → ∀ rest f, sizeFs fs ≤ f →
    parseFs f (printFs fs ++ .rb :: rest) = some (fs, rest)
  | .oneS n, rest, f, hf => by
    obtain ⟨f', rfl, _⟩ := succ_of_le (n := 0) (by simpa [sizeFs] using hf)
    simp [printFs, parseFs]
  | .oneA n o, rest, f, hf => by
    simp only [sizeFs] at hf
    obtain ⟨f', rfl, hf'⟩ := succ_of_le hf
    simp only [printFs, List.cons_append]
    simp only [parseFs]
    rw [mO o (.rb :: rest) (by intro r he; cases he) (by intro r he; cases he) f' hf']
  | .consS n fs', rest, f, hf => by
    simp only [sizeFs] at hf
    obtain ⟨f', rfl, hf'⟩ := succ_of_le hf
    simp only [printFs, List.cons_append]
    obtain ⟨t, r, ht, _, h2⟩ := goodHead_append (printFs_head fs') (.rb :: rest)
    have := mFs fs' rest f' hf'
    rw [ht] at this ⊢
    -- after the comma a further field follows, not the closing `}`
    cases t with
    | rb => exact absurd rfl h2
    | _ => simp [parseFs, this]
  | .consA n o fs', rest, f, hf => by
    simp only [sizeFs] at hf
    obtain ⟨f', rfl, hf'⟩ := succ_of_le (n := sizeO o + sizeFs fs') (by omega)
    simp only [printFs, List.cons_append, List.append_assoc]
    simp only [parseFs]
    rw [mO o (.comma :: (printFs fs' ++ .rb :: rest)) (by intro r he; cases he)
      (by intro r he; cases he) f' (by omega)]
    obtain ⟨t, r, ht, _, h2⟩ := goodHead_append (printFs_head fs') (.rb :: rest)
    rw [ht]
    have := mFs fs' rest f' (by omega)
    rw [ht] at this
    cases t with
    | rb => exact absurd rfl h2
    | _ => simp [this]
end

mutual
theorem sizeP_le : (p : Pat) → sizeP p + 1 ≤ 2 * (printP p).length
  | .id n => by simp [sizeP, printP]
  | .wild => by simp [sizeP, printP]
  | .variant t => by simp [sizeP, printP]
  | .variantT t ps => by
    have := sizePs_le ps
    simp only [sizeP, printP, List.length_cons, List.length_append, List.length_nil]; omega
  | .tuple ps => by
    have := sizePs_le ps
    simp only [sizeP, printP, List.length_cons, List.length_append, List.length_nil]; omega
  | .obj fs => by
    have := sizeFs_le fs
    simp only [sizeP, printP, List.length_cons, List.length_append, List.length_nil]; omega
theorem sizeO_le : (o : OPat) → sizeO o ≤ 2 * (printO o).length
  | .one p => by have := sizeP_le p; simp only [sizeO, printO]; omega
  | .alt p rest => by
    have := sizeP_le p; have := sizeO_le rest
    simp only [sizeO, printO, List.length_append, List.length_cons]; omega
theorem sizePs_le : (ps : Pats) → sizePs ps ≤ 2 * (printPs ps).length + 1
  | .one o => by have := sizeO_le o; simp only [sizePs, printPs]; omega
  | .cons o rest => by
    have := sizeO_le o; have := sizePs_le rest
    simp only [sizePs, printPs, List.length_append, List.length_cons]; omega
theorem sizeFs_le : (fs : Fields) → sizeFs fs ≤ 2 * (printFs fs).length + 1
  | .oneS n => by simp [sizeFs, printFs]
  | .oneA n o => by
    have := sizeO_le o
    simp only [sizeFs, printFs, List.length_cons]; omega
  | .consS n rest => by
    have := sizeFs_le rest
    simp only [sizeFs, printFs, List.length_cons]; omega
  | .consA n o rest => by
    have := sizeO_le o; have := sizeFs_le rest
    simp only [sizeFs, printFs, List.length_cons, List.length_append]; omega
end

end SamVerif.FmtPat
