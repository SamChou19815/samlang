import SamVerif.Model.CpeSem
/-! C01 / K4b: what constant-parameter elimination in one self-recursive function (`Lemmas/CpeOne`) and in
a program of functions (`Lemmas/CpeProg`) both rest on: the self-call exemption of `Model/TailRec`
(`mem_selfCallReads_iff`); environments that agree off the eliminated parameter; function entry without
it (`bindParams_erase`, `bindParams_get`); what the decision's reads say of single operands and call
sites. At the end, for `Lemmas/CpeOne` alone: the names the decision counts as read in a `CBody`
(`readsOf`) and the shapes `okUnused` / `okConst` its simulations assume. -/
namespace SamVerif.TailRec

theorem exists_getElem?_cons {α β : Type} (P : Option β → Prop) (a v : α) (as : List α) (p : β) (ps : List β) :
    (∃ j : Nat, (a :: as)[j]? = some v ∧ P ((p :: ps)[j]?)) ↔
      (a = v ∧ P (some p)) ∨ ∃ j : Nat, as[j]? = some v ∧ P (ps[j]?) := by
  constructor
  · rintro ⟨j, h1, h2⟩
    cases j with
    | zero => exact Or.inl ⟨by simpa using h1, by simpa using h2⟩
    | succ j => exact Or.inr ⟨j, by simpa using h1, by simpa using h2⟩
  · rintro (⟨h1, h2⟩ | ⟨j, h1, h2⟩)
    · exact ⟨0, by simpa using h1, by simpa using h2⟩
    · exact ⟨j + 1, by simpa using h1, by simpa using h2⟩

/-- The self-call exemption (l.94-104), stated independently: a name counts as read by a self call
iff it is passed in some position that is not its own. -/
theorem mem_selfCallReads_iff (params : List Name) : ∀ (args : List Arg) (x : Name),
    x ∈ selfCallReads params args ↔ ∃ j : Nat, args[j]? = some (Arg.var x) ∧ params[j]? ≠ some x := by
  intro args x
  -- the cases are those of `selfCallReads`, in its order; in the first three both lists have a head
  fun_induction selfCallReads params args
  case case1 ih =>   -- the argument is the parameter of its own position: not counted
    rw [exists_getElem?_cons (· ≠ some x), ← ih]
    exact ⟨Or.inr, fun h => h.resolve_left fun ⟨h1, h2⟩ => h2 (by cases h1; rfl)⟩
  case case2 p ps rest y hy ih =>   -- the argument is a variable `y` other than the parameter `p`: counted
    rw [exists_getElem?_cons (· ≠ some x), ← ih, List.mem_cons]
    refine or_congr_left ⟨fun h => ?_, fun h => (Arg.var.inj h.1).symm⟩
    subst h
    exact ⟨rfl, fun hq => hy (Option.some.inj hq).symm⟩
  case case3 hv ih =>   -- the argument is not a variable
    rw [exists_getElem?_cons (· ≠ some x), ← ih]
    exact ⟨Or.inr, fun h => h.resolve_left fun ⟨h1, _⟩ => hv x h1⟩
  case case4 args =>   -- no parameters left: every variable argument is counted
    simp only [List.mem_filterMap]
    constructor
    · rintro ⟨b, hb, h⟩
      cases b <;> simp at h
      subst h
      obtain ⟨j, hj⟩ := List.getElem?_of_mem hb
      exact ⟨j, hj, by simp⟩
    · rintro ⟨j, h1, _⟩
      exact ⟨Arg.var x, List.mem_of_getElem? h1, rfl⟩
  case case5 => simp   -- no arguments left

end SamVerif.TailRec

namespace SamVerif.CpeSem
open SamVerif.TailRec
open SamVerif.Opt (Op)

def Agree (p : Name) (e1 e2 : Env) : Prop := ∀ x, x ≠ p → e1 x = e2 x

theorem upd_agree {P : Name → Prop} {e1 e2 : Env} (h : ∀ y, P y → e1 y = e2 y) (x : Name) (v : Int) :
    ∀ y, P y → upd e1 x v y = upd e2 x v y := by
  intro y hy
  simp only [TailRec.upd]
  split
  · rfl
  · exact h y hy

theorem upd_keep {p : Name} {n : Int} {e1 : Env} (hp : e1 p = n) (x : Name) (hx : x ≠ p) (v : Int) :
    (upd e1 x v) p = n := by
  have : p ≠ x := fun h => hx h.symm
  simp [TailRec.upd, this, hp]

theorem eval_subst {p : Name} {n : Int} {e1 e2 : Env} (h : Agree p e1 e2) (hp : e1 p = n) (e : Expr) :
    (substExpr p n e).eval e2 = e.eval e1 := by
  cases e with
  | lit m => rfl
  | var x =>
    simp only [substExpr]
    split
    · rename_i hx; subst hx; simp [Expr.eval, hp]
    · rename_i hx; exact (h x hx).symm

theorem map_subst {p : Name} {n : Int} {e1 e2 : Env} (h : Agree p e1 e2) (hp : e1 p = n)
    (es : List Expr) : (es.map (substExpr p n)).map (Expr.eval e2) = es.map (Expr.eval e1) := by
  rw [List.map_map]
  exact List.map_congr_left (fun e _ => eval_subst h hp e)

theorem bindParams_erase (p : Name) : ∀ (params : List Name) (vals : List Int) (i : Nat),
    params[i]? = some p →
    Agree p (bindParams params vals) (bindParams (params.eraseIdx i) (vals.eraseIdx i)) := by
  intro params
  induction params with
  | nil => intro vals i h; simp at h
  | cons q qs ih =>
    intro vals i h
    cases vals with
    | nil =>
      intro x _
      have hr : ∀ ps : List Name, bindParams ps [] = fun _ => 0 := fun ps => by cases ps <;> rfl
      rw [List.eraseIdx_nil, hr, hr]
    | cons v vs =>
      cases i with
      | zero =>
        simp at h; subst h
        intro x hx
        simp [bindParams, TailRec.upd, hx]
      | succ k =>
        have := ih vs k (by simpa using h)
        simp only [List.eraseIdx_cons_succ, bindParams]
        exact upd_agree this q v

theorem bindParams_get (p : Name) : ∀ (params : List Name) (vals : List Int) (i : Nat) (v : Int),
    params[i]? = some p → params.Nodup → vals[i]? = some v → bindParams params vals p = v := by
  intro params
  induction params with
  | nil => intro vals i v h; simp at h
  | cons q qs ih =>
    intro vals i v h hnd hv
    cases vals with
    | nil => simp at hv
    | cons w ws =>
      cases i with
      | zero => simp at h hv; subst h; subst hv; simp [bindParams, TailRec.upd]
      | succ k =>
        have hnd' := List.nodup_cons.mp hnd
        have hq : p ≠ q := by
          intro hpq; subst hpq
          exact hnd'.1 (List.mem_of_getElem? (by simpa using h))
        simp only [bindParams, TailRec.upd, hq, if_false]
        exact ih ws k v (by simpa using h) hnd'.2 (by simpa using hv)

theorem map_eraseIdx' {α β : Type} (f : α → β) : ∀ (l : List α) (i : Nat),
    (l.eraseIdx i).map f = (l.map f).eraseIdx i := by
  intro l
  induction l with
  | nil => intro i; simp
  | cons a r ih =>
    intro i
    cases i with
    | zero => simp
    | succ k => simp [ih k]

theorem map_eraseIdx_congr {α β : Type} {f g : α → β} {l : List α} {i : Nat}
    (h : ∀ (j : Nat) (a : α), j ≠ i → l[j]? = some a → f a = g a) :
    (l.map f).eraseIdx i = (l.eraseIdx i).map g := by
  rw [← map_eraseIdx' f]
  refine List.map_congr_left fun a ha => ?_
  obtain ⟨j, hj, hja⟩ := List.mem_eraseIdx_iff_getElem?.mp ha
  exact h j a hj hja

theorem ne_var_of_not_reads (p : Name) (e : Expr) (h : p ∉ exprReads e) : e ≠ .var p := by
  intro he; subst he; simp [exprReads] at h

theorem mem_argReads (args : List Expr) (p : Name) :
    p ∈ argReads (args.map exprArg) ↔ Expr.var p ∈ args := by
  simp only [argReads, List.mem_filterMap, List.mem_map]
  constructor
  · rintro ⟨a, ⟨e, he, rfl⟩, h⟩
    cases e with
    | lit n => simp [exprArg] at h
    | var x => simp [exprArg] at h; subst h; exact he
  · intro h
    exact ⟨.var p, ⟨.var p, h, rfl⟩, rfl⟩

theorem own_slot_of_not_reads {params : List Name} {p : Name} {i : Nat} (hp : params[i]? = some p)
    (hnd : params.Nodup) {args : List Expr} (h : p ∉ selfCallReads params (args.map exprArg))
    (j : Nat) (hj : j ≠ i) : args[j]? ≠ some (.var p) := by
  intro hcontra
  apply h
  rw [mem_selfCallReads_iff]
  refine ⟨j, by simp [hcontra, exprArg], fun hpj => ?_⟩
  -- `params[j] = p = params[i]` with distinct parameters forces `j = i`
  obtain ⟨hil, hie⟩ := List.getElem?_eq_some_iff.mp hp
  obtain ⟨hjl, hje⟩ := List.getElem?_eq_some_iff.mp hpj
  exact hj ((List.getElem_inj hnd).mp (hje.trans hie.symm))

theorem lit_of_exprArg {args : List Expr} {i : Nat} {n : Int} (hlt : i < args.length)
    (h : ∀ a, (args.map exprArg)[i]? = some a → a = .i32 n) : args[i]? = some (.lit n) := by
  have := h (exprArg args[i]) (by simp [hlt])
  rw [List.getElem?_eq_getElem hlt]
  cases hq : args[i] with
  | lit m => simp [hq, exprArg] at this; subst this; rfl
  | var y => simp [hq, exprArg] at this

/-! Over a `CBody`, for `Lemmas/CpeOne` alone. -/

/-- Names the decision kernel counts as read in a body (cf. `TailRec.localReads`). -/
def readsOf (self : Nat) (params : List Name) (b : CBody) : List Name :=
  (atomsOf self b).flatMap fun a => match a with
    | .read x => [x]
    | .call g args => if g = self then selfCallReads params args else argReads args

theorem localReads_eq (self : Nat) (params : List Name) (b : CBody) :
    localReads { name := self, params := params, atoms := atomsOf self b } = readsOf self params b := rfl

theorem readsOf_ret (self : Nat) (params : List Name) (e : Expr) :
    readsOf self params (.ret e) = exprReads e := by
  cases e <;> rfl

theorem readsOf_bin (self : Nat) (params : List Name) (x : Name) (op : Op) (e1 e2 : Expr) (k : CBody) :
    readsOf self params (.bin x op e1 e2 k) = exprReads e1 ++ exprReads e2 ++ readsOf self params k := by
  cases e1 <;> cases e2 <;> rfl

theorem readsOf_ite (self : Nat) (params : List Name) (c : Expr) (t e : CBody) :
    readsOf self params (.ite c t e) = exprReads c ++ readsOf self params t ++ readsOf self params e := by
  cases c <;> simp [readsOf, atomsOf, exprReads]

theorem readsOf_call (self : Nat) (params : List Name) (x : Name) (args : List Expr) (k : CBody) :
    readsOf self params (.call x args k) =
      selfCallReads params (args.map exprArg) ++ readsOf self params k := by
  simp [readsOf, atomsOf]

/-- `print` is summarised as a call of function 999. -/
theorem readsOf_print (self : Nat) (params : List Name) (es : List Expr) (k : CBody) :
    readsOf self params (.print es k) =
      (if 999 = self then selfCallReads params (es.map exprArg) else argReads (es.map exprArg)) ++
        readsOf self params k := rfl

/-- What `Unused` means for a body: `p` is never an operand, never assigned, and a self call passes
it at most in its own position `i`; self calls have `k` arguments. -/
def okUnused (p : Name) (i k : Nat) : CBody → Prop
  | .ret e => e ≠ .var p
  | .bin x _ e1 e2 b => x ≠ p ∧ e1 ≠ .var p ∧ e2 ≠ .var p ∧ okUnused p i k b
  | .print es b => (∀ e ∈ es, e ≠ .var p) ∧ okUnused p i k b
  | .ite c t e => c ≠ .var p ∧ okUnused p i k t ∧ okUnused p i k e
  | .call x args b => x ≠ p ∧ args.length = k ∧
      (∀ (j : Nat), j ≠ i → args[j]? ≠ some (.var p)) ∧ okUnused p i k b

/-- What "constant `n`" means for a body: `p` is never assigned, and every self call passes the
literal `n` in position `i`; self calls have `k` arguments. -/
def okConst (p : Name) (i : Nat) (n : Int) (k : Nat) : CBody → Prop
  | .ret _ => True
  | .bin x _ _ _ b => x ≠ p ∧ okConst p i n k b
  | .print _ b => okConst p i n k b
  | .ite _ t e => okConst p i n k t ∧ okConst p i n k e
  | .call x args b => x ≠ p ∧ args.length = k ∧ args[i]? = some (.lit n) ∧ okConst p i n k b

end SamVerif.CpeSem
