import SamVerif.Model.ParserLoops
/-! Progress of the parser loop skeletons (C05). The `by decide` on the generated flags is where a
recovery arm that no longer consumes its token makes the proof fail. -/
namespace SamVerif.ParserLoops
open SamVerif.Generated.ParserLoops

theorem consumeIf_cons {flag : Bool} (h : flag = true) (t : TK) (rest : List TK) :
    consumeIf flag (t :: rest) = rest := by
  rw [consumeIf, if_pos h]; rfl

theorem NoUnread.lt {sub : List TK → List TK} (hs : NoUnread sub) {ts : List TK} {f : Nat}
    (h : ts.length < f) : (sub ts).length < f :=
  Nat.lt_of_le_of_lt (hs ts) h

theorem NoUnread.lt_of_cons {sub : List TK → List TK} (hs : NoUnread sub) {ts r : List TK} {u : TK}
    {f : Nat} (h : ts.length < f + 1) (he : sub ts = u :: r) : r.length < f := by
  have := hs.lt h
  rw [he, List.length_cons] at this
  exact Nat.lt_of_succ_lt_succ this

theorem toplevelLoop_progress (sub : List TK → List TK) (hs : NoUnread sub) (f : Nat) (ts : List TK)
    (h : ts.length < f) : toplevelLoop sub f ts ≠ none := by
  fun_induction toplevelLoop sub f ts with
  | case1 => omega
  | case2 => nofun
  | case3 f rest ih =>
    rw [consumeIf_cons (by decide)] at ih
    exact ih (hs.lt (Nat.lt_of_succ_lt_succ h))
  | case4 f t rest _ ih =>
    rw [consumeIf_cons (by decide)] at ih
    exact ih (Nat.lt_of_succ_lt_succ h)

theorem commaLoop_progress (sub : List TK → List TK) (hs : NoUnread sub) (f : Nat) (ts : List TK)
    (h : ts.length < f) : commaLoop sub f ts ≠ none := by
  fun_induction commaLoop sub f ts with
  | case1 => omega
  | case2 => nofun
  | case3 f rest ts' _ ih =>
    rw [show ts' = rest from consumeIf_cons (by decide) ..] at ih
    exact ih (hs.lt (Nat.lt_of_succ_lt_succ h))
  | case4 => nofun

theorem blockLoop_progress (sub : List TK → List TK) (hs : NoUnread sub) (f : Nat) (ts : List TK)
    (h : ts.length < f) : blockLoop sub f ts ≠ none := by
  fun_induction blockLoop sub f ts with
  | case1 => omega
  | case2 => nofun
  | case3 f rest ih =>
    rw [consumeIf_cons (by decide)] at ih
    exact ih (hs.lt (Nat.lt_of_succ_lt_succ h))
  | case4 => nofun
  | case5 f rest ih =>
    rw [consumeIf_cons (by decide)] at ih
    exact ih (Nat.lt_of_succ_lt_succ h)
  | case6 f t rest _ _ _ r he ih =>      -- `sub (t :: rest) = .semi :: r`
    exact ih (hs.lt_of_cons h he)
  | case7 => nofun
  | case8 => nofun
  | case9 f t rest _ _ _ u r _ _ he ih =>      -- `sub (t :: rest) = u :: r`, `u` reported
    rw [consumeIf_cons (by decide)] at ih
    exact ih (hs.lt_of_cons h he)

theorem memberLoop_progress (sub : List TK → List TK) (hs : NoUnread sub) (f : Nat) (ts : List TK)
    (h : ts.length < f) : memberLoop sub f ts ≠ none := by
  fun_induction memberLoop sub f ts with
  | case1 => omega
  | case2 f rest ih =>
    rw [consumeIf_cons (by decide)] at ih
    exact ih (hs.lt (Nat.lt_of_succ_lt_succ h))
  | case3 => nofun

theorem matchLoop_progress (sub : List TK → List TK) (hs : NoUnread sub) (f : Nat) (ts : List TK)
    (h : ts.length < f) : matchLoop sub f ts ≠ none := by
  fun_induction matchLoop sub f ts with
  | case1 => omega
  | case2 f rest ih =>
    rw [consumeIf_cons (by decide)] at ih
    exact ih (hs.lt (Nat.lt_of_succ_lt_succ h))
  | case3 => nofun

end SamVerif.ParserLoops
