import SamVerif.Model.OptKernel
/-! Lemmas behind the C02 property theorems of `Props/C02.lean`: the arithmetic of `wrap32`, trip counts and
derived counters; what DCE, LICM and CSE do on straight-line blocks, read off their definitions; runs of blocks
compared statement by statement (`Sim`, `LoopRel`) under the invariants of local value numbering (`Inv`) and of
inlining (`IInv`). The module also holds two audited property theorems, `lvnSimple_preserves` and
`inlineBody_preserves` (Audit/C02.lean), and the definitions that property statements use besides the model's. -/
namespace SamVerif.Opt

theorem wrap32_of_inRange {x : Int} (h : InRange x) : wrap32 x = x := by
  unfold InRange at h; unfold wrap32; omega

theorem wrap32_inRange (x : Int) : InRange (wrap32 x) := by
  unfold InRange wrap32; omega

/-- with `wrap32_add_mul`, all that the congruence lemmas below use of `wrap32` -/
theorem wrap32_spec (a : Int) : ∃ k : Int, wrap32 a = a + 4294967296 * k :=
  ⟨-((a + 2147483648) / 4294967296), by unfold wrap32; omega⟩

theorem wrap32_add_mul (a k : Int) : wrap32 (a + 4294967296 * k) = wrap32 a := by
  unfold wrap32; rw [Int.add_right_comm, Int.add_mul_emod_self_left]

theorem wrap32_add_left (a b : Int) : wrap32 (wrap32 a + b) = wrap32 (a + b) := by
  obtain ⟨k, hk⟩ := wrap32_spec a
  rw [hk, Int.add_right_comm, wrap32_add_mul]

theorem wrap32_add_right (a b : Int) : wrap32 (a + wrap32 b) = wrap32 (a + b) := by
  rw [Int.add_comm, wrap32_add_left, Int.add_comm]

theorem wrap32_mul_left (a b : Int) : wrap32 (wrap32 a * b) = wrap32 (a * b) := by
  obtain ⟨k, hk⟩ := wrap32_spec a
  rw [hk, Int.add_mul, Int.mul_assoc, wrap32_add_mul]

theorem wrap32_mul_right (a b : Int) : wrap32 (a * wrap32 b) = wrap32 (a * b) := by
  rw [Int.mul_comm, wrap32_mul_left, Int.mul_comm]

theorem emod32_of_range {b : Int} (h : 0 ≤ b ∧ b < 32) : b % 32 = b := by omega

theorem evalTarget_comm (op : Op) (a b : Int)
    (h : op = .mul ∨ op = .add ∨ op = .land ∨ op = .lor ∨ op = .xor ∨ op = .eq ∨ op = .ne) :
    evalTarget op a b = evalTarget op b a := by
  rcases h with rfl | rfl | rfl | rfl | rfl | rfl | rfl <;> simp only [evalTarget]
  · rw [Int.mul_comm]
  · rw [Int.add_comm]
  · rw [BitVec.and_comm]
  · rw [BitVec.or_comm]
  · rw [BitVec.xor_comm]
  · rw [decide_eq_decide.mpr eq_comm]
  · rw [decide_eq_decide.mpr ne_comm]

/-- `n = ⌈d / s⌉`, computed with truncating division as the pass does -/
theorem ceilDiv_spec (d s n : Int) (hd : 0 < d) (hs : 0 < s)
    (hn : Int.tdiv d s + (if Int.tmod d s ≠ 0 then 1 else 0) = n) :
    0 ≤ n ∧ s * n - s < d ∧ d ≤ s * n := by
  rw [Int.tdiv_eq_ediv_of_nonneg (Int.le_of_lt hd), Int.tmod_eq_emod_of_nonneg (Int.le_of_lt hd)] at hn
  have hq := Int.mul_ediv_add_emod d s
  have hr0 := Int.emod_nonneg d (Int.ne_of_gt hs)
  have hr1 := Int.emod_lt_of_pos d hs
  have hq0 := Int.ediv_nonneg (Int.le_of_lt hd) (Int.le_of_lt hs)
  subst hn
  rw [Int.mul_add]
  by_cases hr : d % s = 0
  · rw [if_neg (not_not_intro hr), Int.mul_zero]; omega
  · rw [if_pos hr, Int.mul_one]; omega

theorem tripLT_exact (i0 step bound mx n : Int) (hmx : i0 ≤ mx) (h : tripLT i0 step bound mx = .count n) :
    0 ≤ n ∧ ∀ k : Int, 0 ≤ k → k ≤ n →
      i0 ≤ i0 + step * k ∧ i0 + step * k ≤ mx ∧ (i0 + step * k < bound ↔ k < n) := by
  revert h
  -- the five exits of `tripLT`, in the order of its text
  fun_cases tripLT i0 step bound mx <;> intro h
  -- `i0 ≥ bound`: count 0
  case case1 hb =>
    cases h
    refine ⟨Int.le_refl 0, fun k h0 h1 => ?_⟩
    cases Int.le_antisymm h1 h0
    rw [Int.mul_zero, Int.add_zero]
    exact ⟨Int.le_refl _, hmx, iff_of_false (Int.not_lt.mpr hb) (Int.lt_irrefl 0)⟩
  -- the last exit, count `n' = ⌈(bound - i0) / step⌉`: `i0 < bound` (`hb`), `0 < step` (`hs`), the final counter
  -- value is at most `mx` (`hfin`)
  case case5 hb hs _ n' hfin _ =>
    injection h with h
    subst h
    have hs' : 0 ≤ step := Int.le_of_lt (Int.not_le.mp hs)
    obtain ⟨n0, c1, c2⟩ :=
      ceilDiv_spec (bound - i0) step n' (Int.sub_pos.mpr (Int.not_le.mp hb)) (Int.not_le.mp hs) rfl
    refine ⟨n0, fun k h0 h1 => ?_⟩
    refine ⟨Int.le_add_of_nonneg_right (Int.mul_nonneg hs' h0),
      Int.le_trans (Int.add_le_add_left (Int.mul_le_mul_of_nonneg_left h1 hs') _) (Int.not_lt.mp hfin), ?_⟩
    by_cases hk : k < n'
    · have m1 := Int.mul_le_mul_of_nonneg_left (Int.le_sub_one_of_lt hk) hs'
      rw [Int.mul_sub, Int.mul_one] at m1
      exact iff_of_true (by omega) hk
    · cases Int.le_antisymm h1 (Int.not_lt.mp hk)
      exact iff_of_false (by omega) hk
  -- `step ≤ 0`, counter past `mx`, count above `i32`: the answer is `.unknown`
  all_goals cases h

theorem iterW_eq (i0 step : Int) (hi : InRange i0) (k : Nat) :
    iterW i0 step k = wrap32 (i0 + step * (k : Int)) := by
  induction k with
  | zero => rw [iterW, Int.natCast_zero, Int.mul_zero, Int.add_zero, wrap32_of_inRange hi]
  | succ k ih => rw [iterW, ih, wrap32_add_left, Int.natCast_succ, Int.mul_add, Int.mul_one, Int.add_assoc]

/-- That the counter does not wrap up to step `n` is what the `maxFinal` test of the code guarantees. -/
theorem tripCount_ideal (g : Guard) (i0 step bound n : Int) (hi : InRange i0)
    (h : tripCount g i0 step bound = .count n) :
    0 ≤ n ∧ ∀ k : Int, 0 ≤ k → k ≤ n →
      InRange (i0 + step * k) ∧ g.holds (i0 + step * k) bound = decide (k < n) := by
  -- every guard is a `<` loop for `tripLT`: `i ≤ b` is `i < b + 1`, `>` and `≥` are the mirror images
  have fin {a s b mx : Int} (hmx : a ≤ mx) (ht : tripLT a s b mx = .count n)
      (hstep : ∀ k : Int, a ≤ a + s * k → a + s * k ≤ mx → (a + s * k < b ↔ k < n) →
        InRange (i0 + step * k) ∧ g.holds (i0 + step * k) bound = decide (k < n)) :
      0 ≤ n ∧ ∀ k : Int, 0 ≤ k → k ≤ n →
        InRange (i0 + step * k) ∧ g.holds (i0 + step * k) bound = decide (k < n) := by
    obtain ⟨h0, hk⟩ := tripLT_exact a s b mx n hmx ht
    exact ⟨h0, fun k k0 k1 => hstep k (hk k k0 k1).1 (hk k k0 k1).2.1 (hk k k0 k1).2.2⟩
  unfold InRange at hi fin ⊢
  cases g with
  | lt => exact fin (by omega) h fun k _ _ c => ⟨by omega, decide_eq_decide.mpr c⟩
  | le => exact fin (by omega) h fun k _ _ c => ⟨by omega, decide_eq_decide.mpr (Int.lt_add_one_iff.symm.trans c)⟩
  | gt | ge =>
    refine fin (by omega) h fun k a b c => ?_
    rw [Int.neg_mul] at a b c
    exact ⟨by omega, decide_eq_decide.mpr (by omega)⟩

theorem tripCount_run (g : Guard) (i0 step bound n : Int) (hi : InRange i0)
    (h : tripCount g i0 step bound = .count n) (k : Nat) (hk : (k : Int) ≤ n) :
    iterW i0 step k = i0 + step * k ∧ g.holds (iterW i0 step k) bound = decide ((k : Int) < n) := by
  obtain ⟨hr, hg⟩ := (tripCount_ideal g i0 step bound n hi h).2 k (Int.natCast_nonneg k) hk
  rw [iterW_eq i0 step hi, wrap32_of_inRange hr]
  exact ⟨rfl, hg⟩

theorem derivedOf_eq (m c i : Int) : derivedOf m c i = wrap32 (c + m * i) := by
  unfold derivedOf mulT addT
  split
  · rename_i h; rw [h, Int.zero_add, Int.mul_comm]
  · split
    · rename_i h; rw [h, Int.one_mul, Int.add_comm]
    · rw [wrap32_add_left, Int.add_comm, Int.mul_comm]

theorem iterW_wrap_step (i0 st : Int) (k : Nat) : iterW i0 (wrap32 st) k = iterW i0 st k := by
  induction k with
  | zero => rfl
  | succ k ih => simp only [iterW, ih, wrap32_add_right]

/-- the variable `m * i + c` of a counter `i` with stride `st` is itself a counter, with stride `st * m` -/
theorem iterW_affine (i0 st m c : Int) (k : Nat) :
    iterW (addT c (mulT m i0)) (st * m) k = derivedOf m c (iterW i0 st k) := by
  rw [derivedOf_eq]
  induction k with
  | zero => simp only [iterW, addT, mulT, wrap32_add_right]
  | succ k ih =>
    simp only [iterW]
    rw [ih, wrap32_add_left, ← wrap32_add_right c (m * wrap32 _), wrap32_mul_right, wrap32_add_right,
      Int.mul_add, Int.add_assoc, Int.mul_comm m st]

theorem strength_iter (i0 st m c : Int) (k : Nat) :
    iterW (addT c (mulT m i0)) (wrap32 (st * m)) k = derivedOf m c (iterW i0 st k) := by
  rw [iterW_wrap_step, iterW_affine]

theorem addT_mulT_eq (m c i : Int) : addT c (mulT m i) = wrap32 (c + m * i) := by
  unfold addT mulT; rw [wrap32_add_right]

/-- All that the transformed loops need of `j`: that it tracks the derived value of `i`. The callers
put `strength_iter` in for `hj`. -/
theorem runStrength_eq (L : ObsLoop) (j0 sj : Int) (hj : ∀ k, iterW j0 sj k = L.derived (iterW L.i0 L.step k))
    (fuel k : Nat) (last : Int) (acc : List Int) :
    runStrength L sj fuel (iterW L.i0 L.step k) (iterW j0 sj k) last acc
      = runOrig L fuel (iterW L.i0 L.step k) last acc := by
  induction fuel generalizing k last acc with
  | zero => rfl
  | succ fuel ih =>
    simp only [runStrength, runOrig]
    split
    · rw [← hj k]; exact ih (k + 1) _ _
    · rfl

theorem runElim_eq (L : ObsLoop) (j0 sj bJ : Int) (n : Nat)
    (hj : ∀ k, iterW j0 sj k = L.derived (iterW L.i0 L.step k))
    (hbr : BreaksAt L.g L.i0 L.step L.bound n)
    (hg : ∀ k, k ≤ n → decide (iterW j0 sj k < bJ) = L.g.holds (iterW L.i0 L.step k) L.bound)
    (fuel k : Nat) (hk : k ≤ n) (last : Int) (acc : List Int) :
    runElim j0 sj bJ fuel (iterW j0 sj k) last acc = runOrig L fuel (iterW L.i0 L.step k) last acc := by
  induction fuel generalizing k last acc with
  | zero => rfl
  | succ fuel ih =>
    simp only [runElim, runOrig]
    have hgk := hg k hk
    cases hh : L.g.holds (iterW L.i0 L.step k) L.bound with
    | true =>
      rw [hh] at hgk
      have hkn : k < n := Nat.lt_of_le_of_ne hk fun e => by rw [e, hbr.2] at hh; cases hh
      rw [if_pos (of_decide_eq_true hgk), if_pos rfl, ← hj k]
      exact ih (k + 1) hkn _ _
    | false =>
      rw [hh] at hgk
      rw [if_neg (of_decide_eq_false hgk), if_neg Bool.false_ne_true]

theorem eval_agree (e : Operand) (ρ1 ρ2 : Nat → Int) (h : ∀ x, x ∈ e.vars → ρ1 x = ρ2 x) :
    e.eval ρ1 = e.eval ρ2 := by
  cases e with
  | lit n => rfl
  | var x => exact h x (.head _)

theorem evalTarget_total_of_not_div (op : Op) (a b : Int) (h1 : op ≠ .div) (h2 : op ≠ .mod) :
    ∃ v, evalTarget op a b = some v := by
  cases op
  case div => exact absurd rfl h1
  case mod => exact absurd rfl h2
  all_goals exact ⟨_, rfl⟩

theorem dce_bin (x : Nat) (op : Op) (a b : Operand) (r : List SStmt) (live : List Nat) :
    dce (.bin x op a b :: r) live =
      if x ∉ (dce r live).2 ∧ op ≠ .div ∧ op ≠ .mod then dce r live
      else (.bin x op a b :: (dce r live).1, a.vars ++ b.vars ++ (dce r live).2) := by
  simp only [dce]

theorem dce_print (a : Operand) (r : List SStmt) (live : List Nat) :
    dce (.print a :: r) live = (.print a :: (dce r live).1, a.vars ++ (dce r live).2) := rfl

theorem dce_live_mono (p : List SStmt) (live : List Nat) : ∀ x, x ∈ live → x ∈ (dce p live).2 := by
  induction p with
  | nil => intro x h; exact h
  | cons s r ih =>
    intro x h
    cases s with
    | bin y op a b =>
      rw [dce_bin]
      split
      · exact ih x h
      · exact List.mem_append_right _ (ih x h)
    | print a => exact List.mem_append_right _ (ih x h)

theorem mem_dceU_used (cc : Bool) (p : List US) (live : List Nat) (x : Nat) :
    x ∈ (dceU cc p live).2 ↔ x ∈ live ∨ ∃ s, s ∈ (dceU cc p live).1 ∧ x ∈ s.uses cc := by
  induction p with
  | nil => exact ⟨.inl, fun h => h.elim id fun ⟨_, hs, _⟩ => nomatch hs⟩
  | cons t r ih =>
    simp only [dceU]
    split
    · simp only [List.mem_append, ih, List.mem_cons, or_and_right, exists_or, exists_eq_left]
      exact or_left_comm
    · exact ih

theorem licm_hoisted_noTrap (p : List SStmt) (variant : List Nat) :
    ∀ s ∈ (licm p variant).1, noTrapStmt s = true := by
  induction p generalizing variant with
  | nil => intro s h; simp [licm] at h
  | cons st r ih =>
    intro s h
    cases st with
    | print a => simp only [licm] at h; exact ih variant s h
    | bin x op a b =>
      simp only [licm] at h
      split at h
      · rename_i hc
        simp only [List.mem_cons] at h
        rcases h with rfl | h
        · simp [noTrapStmt, hc.1, hc.2.1]
        · exact ih variant s h
      · exact ih (x :: variant) s h

theorem execS_noTrap (p : List SStmt) (h : ∀ s ∈ p, noTrapStmt s = true) (ρ : Nat → Int) :
    (execS p ρ).1 = [] ∧ (execS p ρ).2.isSome = true := by
  induction p generalizing ρ with
  | nil => simp [execS]
  | cons s r ih =>
    cases s with
    | print a => have := h (.print a) (by simp); simp [noTrapStmt] at this
    | bin x op a b =>
      have hs := h (.bin x op a b) (by simp)
      simp only [noTrapStmt, decide_eq_true_eq] at hs
      obtain ⟨v, hv⟩ := evalTarget_total_of_not_div op (a.eval ρ) (b.eval ρ) hs.1 hs.2
      simp only [execS, hv]
      exact ih (fun s hs => h s (by simp [hs])) _

theorem keysOf_noDiv (p : List Simple) : ∀ k, k ∈ keysOf p → k.1 ≠ .div ∧ k.1 ≠ .mod := by
  induction p with
  | nil => intro k h; simp [keysOf] at h
  | cons st r ih =>
    intro k h
    cases st with
    | print a => exact ih k (by simpa [keysOf] using h)
    | brk a => exact ih k (by simpa [keysOf] using h)
    | bin x op a b =>
      simp only [keysOf] at h
      split at h
      · rename_i hc
        simp only [List.mem_cons] at h
        rcases h with rfl | h
        · exact hc
        · exact ih k h
      · exact ih k h

theorem cseHoisted_total (ks : List Key) (hk : ∀ k, k ∈ ks → k.1 ≠ .div ∧ k.1 ≠ .mod) (fresh : Nat) (ρ : Nat → Int) :
    (execSimple (cseHoisted ks fresh) ρ).1 = [] ∧ ∃ ρ', (execSimple (cseHoisted ks fresh) ρ).2 = .next ρ' := by
  induction ks generalizing fresh ρ with
  | nil => exact ⟨rfl, ρ, rfl⟩
  | cons k r ih =>
    obtain ⟨op, a, b⟩ := k
    have h := hk (op, a, b) (by simp)
    obtain ⟨v, hv⟩ := evalTarget_total_of_not_div op (a.eval ρ) (b.eval ρ) h.1 h.2
    simp only [cseHoisted, execSimple, hv]
    exact ih (fun k hk' => hk k (List.mem_cons_of_mem _ hk')) _ _

/-! The preservation theorems about blocks of `Simple` and `LStmt` compare two runs statement by
statement. `Sim R` says that both print the same and end the same way (`ResR R`: both trap, both break
with the same value, or both fall through into environments related by `R`); `andThen` is how a run
continues after a statement that fell through. The statements of the property theorems spell `ResR` out
for their `R`, so that each can be read with the model alone: under a name (`ResRel` below, `EndRel` and
`ResAgreeS` in `Props/C02.lean`; `resRel_eq`, `endRel_eq`, `resAgreeS_eq` lead back to `ResR`) or as a
`match` (`lvn_preserves`, `lvnL_preserves`; `show Sim _ _ _` leads back). `dce_preserves` (a run of
`SStmt` ends in an `Option`) and `inlineBody_preserves` (no `brk` arm) stand outside. -/

def ResR (R : (Nat → Int) → (Nat → Int) → Prop) : Res → Res → Prop
  | .trap, .trap => True
  | .brk v, .brk w => v = w
  | .next ρ1, .next ρ2 => R ρ1 ρ2
  | _, _ => False

abbrev Sim (R : (Nat → Int) → (Nat → Int) → Prop) (a b : List Int × Res) : Prop :=
  a.1 = b.1 ∧ ResR R a.2 b.2

def AgreeOn (L : List Nat) (ρ1 ρ2 : Nat → Int) : Prop := ∀ x, x ∈ L → ρ1 x = ρ2 x

def AgreeS (F : List Nat) (ρ1 ρ2 : Nat → Int) : Prop := ∀ y, y ∉ F → ρ1 y = ρ2 y

def andThen (a : List Int × Res) (k : (Nat → Int) → List Int × Res) : List Int × Res :=
  match a with
  | (t, .next ρ) => (t ++ (k ρ).1, (k ρ).2)
  | (t, other) => (t, other)

theorem Sim.andThen {R' R : (Nat → Int) → (Nat → Int) → Prop} {a b : List Int × Res}
    {k1 k2 : (Nat → Int) → List Int × Res} (h : Sim R' a b)
    (hk : ∀ ρ1 ρ2, R' ρ1 ρ2 → Sim R (k1 ρ1) (k2 ρ2)) : Sim R (andThen a k1) (andThen b k2) := by
  obtain ⟨t, r1⟩ := a
  obtain ⟨t2, r2⟩ := b
  obtain ⟨ht, hr⟩ := h
  cases (ht : t = t2)
  cases r1 <;> cases r2
  case trap.trap => exact ⟨rfl, trivial⟩
  case brk.brk => exact ⟨rfl, hr⟩
  case next.next => exact ⟨congrArg (t ++ ·) (hk _ _ hr).1, (hk _ _ hr).2⟩
  all_goals exact hr.elim

/-- `Sim.andThen` when the second run has no statement where the first has one: it goes on from `ρ2` at once,
and `k2 ρ2` is `andThen (execSimple [] ρ2) k2` by unfolding -/
theorem Sim.andThen_nil {R' R : (Nat → Int) → (Nat → Int) → Prop} {a : List Int × Res} {ρ2 : Nat → Int}
    {k1 k2 : (Nat → Int) → List Int × Res} (h : Sim R' a (execSimple [] ρ2))
    (hk : ∀ ρ1 ρ2, R' ρ1 ρ2 → Sim R (k1 ρ1) (k2 ρ2)) : Sim R (Opt.andThen a k1) (k2 ρ2) :=
  Sim.andThen (b := execSimple [] ρ2) h hk

theorem Sim.imp {R R' : (Nat → Int) → (Nat → Int) → Prop} {a b : List Int × Res} (h : Sim R a b)
    (hR : ∀ ρ1 ρ2, R ρ1 ρ2 → R' ρ1 ρ2) : Sim R' a b := by
  obtain ⟨t1, r1⟩ := a
  obtain ⟨t2, r2⟩ := b
  refine ⟨h.1, ?_⟩
  cases r1 <;> cases r2
  case next.next => exact hR _ _ h.2
  all_goals exact h.2

theorem AgreeOn.refl (S : List Nat) (ρ : Nat → Int) : AgreeOn S ρ ρ := fun _ _ => rfl

theorem AgreeOn.trans {S S' : List Nat} {ρ σ τ : Nat → Int} (f : AgreeOn S ρ σ) (hS : ∀ v, v ∈ S → v ∈ S')
    (g : AgreeOn S' σ τ) : AgreeOn S ρ τ := fun v hv => (f v hv).trans (g v (hS v hv))

theorem agreeOn_mono {L L' : List Nat} {ρ1 ρ2 : Nat → Int} (h : AgreeOn L' ρ1 ρ2) (hs : ∀ x, x ∈ L → x ∈ L') :
    AgreeOn L ρ1 ρ2 := fun x hx => h x (hs x hx)

/-- a run that continues one whose names in `S` were unchanged so far -/
theorem Sim.frame_trans {S S' : List Nat} {R : (Nat → Int) → (Nat → Int) → Prop} {ρ1 ρ2 σ1 σ2 : Nat → Int}
    {a b : List Int × Res} (h : Sim (fun τ1 τ2 => R τ1 τ2 ∧ AgreeOn S' σ1 τ1 ∧ AgreeOn S' σ2 τ2) a b)
    (hS : ∀ v, v ∈ S → v ∈ S') (f1 : AgreeOn S ρ1 σ1) (f2 : AgreeOn S ρ2 σ2) :
    Sim (fun τ1 τ2 => R τ1 τ2 ∧ AgreeOn S ρ1 τ1 ∧ AgreeOn S ρ2 τ2) a b :=
  h.imp fun _ _ hI => ⟨hI.1, f1.trans hS hI.2.1, f2.trans hS hI.2.2⟩

theorem execL_s (st : Simple) (r : List LStmt) (ρ : Nat → Int) :
    execL (.s st :: r) ρ = andThen (execSimple [st] ρ) (execL r) := rfl

theorem execL_sif (c : Operand) (inv : Bool) (body : List Simple) (r : List LStmt) (ρ : Nat → Int) :
    execL (.sif c inv body :: r) ρ =
      if (decide (c.eval ρ ≠ 0) != inv) then andThen (execSimple body ρ) (execL r) else execL r ρ := rfl

theorem execL_ife (c : Operand) (s1 s2 : List Simple) (fas : List (Nat × Operand × Operand))
    (r : List LStmt) (ρ : Nat → Int) :
    execL (.ife c s1 s2 fas :: r) ρ =
      if c.eval ρ ≠ 0 then
        andThen (execSimple s1 ρ) fun ρ' => execL r (assignAll ρ' (fas.map fun fa => (fa.1, fa.2.1.eval ρ')))
      else
        andThen (execSimple s2 ρ) fun ρ' => execL r (assignAll ρ' (fas.map fun fa => (fa.1, fa.2.2.eval ρ'))) := rfl

theorem andThen_assoc (a : List Int × Res) (k k' : (Nat → Int) → List Int × Res) :
    andThen (andThen a k) k' = andThen a fun ρ => andThen (k ρ) k' := by
  obtain ⟨t, r⟩ := a
  cases r <;> try rfl
  rename_i ρ
  show andThen (t ++ (k ρ).1, (k ρ).2) k' = (t ++ (andThen (k ρ) k').1, (andThen (k ρ) k').2)
  cases k ρ with
  | mk t' r' => cases r' <;> simp only [andThen, List.append_assoc]

theorem execSimple_cons (st : Simple) (r : List Simple) (ρ : Nat → Int) :
    execSimple (st :: r) ρ = andThen (execSimple [st] ρ) (execSimple r) := by
  cases st with
  | brk a => rfl
  | print a => rfl
  | bin x op a b =>
    simp only [execSimple]
    cases evalTarget op (a.eval ρ) (b.eval ρ) <;> rfl

theorem execSimple_append (p q : List Simple) (ρ : Nat → Int) :
    execSimple (p ++ q) ρ = andThen (execSimple p ρ) (execSimple q) := by
  induction p generalizing ρ with
  | nil => rfl
  | cons st r ih =>
    rw [List.cons_append, execSimple_cons, funext ih, ← andThen_assoc, ← execSimple_cons]

theorem execL_prefix (h : List Simple) (p : List LStmt) (ρ : Nat → Int) :
    execL (h.map LStmt.s ++ p) ρ = andThen (execSimple h ρ) (execL p) := by
  induction h generalizing ρ with
  | nil => rfl
  | cons st r ih =>
    rw [List.map_cons, List.cons_append, execL_s, funext ih, ← andThen_assoc, ← execSimple_cons]

/-! A `While` runs with fuel: `none` is "still running". `LoopRel` compares two such runs, `loopStep`
is one round followed by the rest. -/

def LoopRel : Option (List Int × Res) → Option (List Int × Res) → Prop
  | none, none => True
  | some (t1, .trap), some (t2, .trap) => t1 = t2
  | some (t1, .brk v), some (t2, .brk w) => t1 = t2 ∧ v = w
  | _, _ => False

def loopStep (a : List Int × Res) (k : (Nat → Int) → Option (List Int × Res)) : Option (List Int × Res) :=
  match a with
  | (t, .next ρ') => (k ρ').map fun r => (t ++ r.1, r.2)
  | (t, other) => some (t, other)

theorem iterLoop_succ (lvs : List (Nat × Operand × Operand)) (body : List LStmt) (fuel : Nat) (ρ : Nat → Int) :
    iterLoop lvs body (fuel + 1) ρ =
      loopStep (execL body ρ) fun ρ' => iterLoop lvs body fuel (assignAll ρ' (lvs.map fun lv => (lv.1, lv.2.2.eval ρ'))) :=
  rfl

theorem LoopRel.prepend (t : List Int) {o1 o2 : Option (List Int × Res)} (h : LoopRel o1 o2) :
    LoopRel (o1.map fun r => (t ++ r.1, r.2)) (o2.map fun r => (t ++ r.1, r.2)) := by
  cases o1 with
  | none => cases o2 with
    | none => exact h
    | some r2 => exact h.elim
  | some r1 =>
    obtain ⟨a1, b1⟩ := r1
    cases o2 with
    | none => cases b1 <;> exact h.elim
    | some r2 =>
      obtain ⟨a2, b2⟩ := r2
      cases b1 <;> cases b2
      case trap.trap => exact congrArg (t ++ ·) h
      case brk.brk => exact ⟨congrArg (t ++ ·) h.1, h.2⟩
      all_goals exact h.elim

theorem LoopRel.step {R : (Nat → Int) → (Nat → Int) → Prop} {a b : List Int × Res}
    {k1 k2 : (Nat → Int) → Option (List Int × Res)} (h : Sim R a b)
    (hk : ∀ ρ1 ρ2, R ρ1 ρ2 → LoopRel (k1 ρ1) (k2 ρ2)) : LoopRel (loopStep a k1) (loopStep b k2) := by
  obtain ⟨t, r1⟩ := a
  obtain ⟨t2, r2⟩ := b
  obtain ⟨ht, hr⟩ := h
  cases (ht : t = t2)
  cases r1 <;> cases r2
  case trap.trap => exact rfl
  case brk.brk => exact ⟨rfl, hr⟩
  case next.next => exact (hk _ _ hr).prepend t
  all_goals exact hr.elim

theorem lookup_mem {α β : Type} [BEq α] [LawfulBEq α] (l : List (α × β)) (k : α) (v : β)
    (h : l.lookup k = some v) : (k, v) ∈ l := by
  obtain ⟨l1, l2, rfl, _⟩ := List.lookup_eq_some_iff.mp h
  exact List.mem_append_right _ (.head _)

theorem lookup_none_of_not_key {α β : Type} [BEq α] [LawfulBEq α] (l : List (α × β)) (k : α)
    (h : ∀ v, (k, v) ∉ l) : l.lookup k = none := by
  cases hl : l.lookup k with
  | none => rfl
  | some v => exact absurd (lookup_mem l k v hl) (h v)

theorem update_ne {ρ : Nat → Int} {x y : Nat} (v : Int) (h : y ≠ x) : update ρ x v y = ρ y := if_neg h

theorem update_self (ρ : Nat → Int) (x : Nat) (v : Int) : update ρ x v x = v := if_pos rfl

theorem update_congr {ρ1 ρ2 : Nat → Int} {z : Nat} (h : ρ1 z = ρ2 z) (y : Nat) (v : Int) :
    update ρ1 y v z = update ρ2 y v z := by
  unfold update
  split
  · rfl
  · exact h

theorem update_comm (ρ : Nat → Int) (x y : Nat) (v w : Int) (h : x ≠ y) :
    update (update ρ x v) y w = update (update ρ y w) x v := by
  funext z
  by_cases h1 : z = y
  · rw [h1, update_self, update_ne v h.symm, update_self]
  · by_cases h2 : z = x
    · rw [h2, update_ne w h, update_self, update_self]
    · rw [update_ne w h1, update_ne v h2, update_ne v h2, update_ne w h1]

theorem AgreeOn.update {S : List Nat} {x : Nat} (hx : x ∉ S) (ρ : Nat → Int) (v : Int) : AgreeOn S ρ (update ρ x v) :=
  fun _ hw => (update_ne v (ne_of_mem_of_not_mem hw hx)).symm

theorem eval_update_of_not_mem (a : Operand) (ρ : Nat → Int) (x : Nat) (v : Int) (h : x ∉ a.vars) :
    a.eval (update ρ x v) = a.eval ρ :=
  eval_agree a _ _ fun _ hy => update_ne v fun e => h (e ▸ hy)

theorem execSimple_frame (p : List Simple) (ρ ρ' : Nat → Int)
    (h : (execSimple p ρ).2 = .next ρ') : ∀ v, v ∉ defsSimple p → ρ' v = ρ v := by
  induction p generalizing ρ with
  | nil => intro v _; cases h; rfl
  | cons st r ih =>
    intro v hv
    cases st with
    | print a => exact ih ρ h v hv
    | brk a => cases h
    | bin x op a b =>
      simp only [execSimple] at h
      cases hw : evalTarget op (a.eval ρ) (b.eval ρ) with
      | none => rw [hw] at h; cases h
      | some w =>
        rw [hw] at h
        exact (ih _ h v fun hm => hv (.tail _ hm)).trans (update_ne w fun e => hv (e ▸ .head _))

theorem not_mem_of_contains {l : List Nat} {x : Nat} (h : l.contains x = false) : x ∉ l :=
  fun hm => by rw [List.contains_iff_mem.mpr hm] at h; cases h

theorem vars_all {a : Operand} {seen : List Nat} (h : a.vars.all seen.contains = true) :
    ∀ v, v ∈ a.vars → v ∈ seen := by
  intro v hv
  exact List.contains_iff_mem.mp (List.all_eq_true.mp h v hv)

/-- The invariant of local value numbering between the original run (`ρ1`) and the optimised run (`ρ2`), for
the names in scope `seen` and the contexts `cx`. `rel`: a name in scope has in `ρ1` the value its renaming has
in `ρ2`. `renSeen`, `availSeen`: the contexts mention only names in scope, so a name defined later is new to
them. `availVal`: an available value `(op, a, b) ↦ n` is what `ρ2` holds in `n`. -/
structure Inv (seen : List Nat) (cx : Cx) (ρ1 ρ2 : Nat → Int) : Prop where
  rel : ∀ v, v ∈ seen → ρ1 v = ρ2 (rn cx.ren v)
  renSeen : ∀ x y, (x, y) ∈ cx.ren → x ∈ seen ∧ y ∈ seen
  availSeen : ∀ (k : Key) (n : Nat), (k, n) ∈ cx.avail →
    (∀ v, v ∈ k.2.1.vars → v ∈ seen) ∧ (∀ v, v ∈ k.2.2.vars → v ∈ seen) ∧ n ∈ seen
  availVal : ∀ (k : Key) (n : Nat), (k, n) ∈ cx.avail →
    evalTarget k.1 (k.2.1.eval ρ2) (k.2.2.eval ρ2) = some (ρ2 n)

theorem rn_seen {seen cx ρ1 ρ2} (h : Inv seen cx ρ1 ρ2) (v : Nat) (hv : v ∈ seen) : rn cx.ren v ∈ seen := by
  unfold rn
  cases hl : cx.ren.lookup v with
  | none => exact hv
  | some y => exact (h.renSeen v y (lookup_mem _ _ _ hl)).2

theorem rn_fresh {seen cx ρ1 ρ2} (h : Inv seen cx ρ1 ρ2) (x : Nat) (hx : x ∉ seen) : cx.ren.lookup x = none :=
  lookup_none_of_not_key _ _ (fun y hy => hx (h.renSeen x y hy).1)

theorem rnO_eval {seen cx ρ1 ρ2} (h : Inv seen cx ρ1 ρ2) (a : Operand) (ha : ∀ v, v ∈ a.vars → v ∈ seen) :
    (rnO cx.ren a).eval ρ2 = a.eval ρ1 := by
  cases a with
  | lit n => rfl
  | var x => exact (h.rel x (ha x (.head _))).symm

theorem rnO_vars_seen {seen cx ρ1 ρ2} (h : Inv seen cx ρ1 ρ2) (a : Operand) (ha : ∀ v, v ∈ a.vars → v ∈ seen) :
    ∀ v, v ∈ (rnO cx.ren a).vars → v ∈ seen := by
  cases a with
  | lit n => intro v hv; cases hv
  | var x =>
    intro v hv
    cases List.mem_singleton.mp hv
    exact rn_seen h x (ha x (.head _))

/-- the names in scope after a block: `seen` and what its `bin` statements define -/
def seenAfter : List Simple → List Nat → List Nat
  | [], seen => seen
  | .bin x _ _ _ :: r, seen => seenAfter r (x :: seen)
  | _ :: r, seen => seenAfter r seen

def ResRel (seen : List Nat) (cx : Cx) : Res → Res → Prop
  | .trap, .trap => True
  | .brk v, .brk w => v = w
  | .next ρ1, .next ρ2 => Inv seen cx ρ1 ρ2
  | _, _ => False

theorem resRel_eq (seen : List Nat) (cx : Cx) : ResRel seen cx = ResR (Inv seen cx) := rfl

/-- leaving a nested block: the outer contexts are still valid for the environments the block
falls through with -/
theorem inv_frame {seen cx ρ1 ρ2 ρ1' ρ2'} (h : Inv seen cx ρ1 ρ2)
    (f1 : AgreeOn seen ρ1 ρ1') (f2 : AgreeOn seen ρ2 ρ2') : Inv seen cx ρ1' ρ2' := by
  refine ⟨fun v hv => ?_, h.renSeen, h.availSeen, fun k n hk => ?_⟩
  · rw [← f1 v hv, ← f2 _ (rn_seen h v hv)]; exact h.rel v hv
  · have hs := h.availSeen k n hk
    rw [← eval_agree _ ρ2 ρ2' fun x hx => f2 x (hs.1 x hx), ← eval_agree _ ρ2 ρ2' fun x hx => f2 x (hs.2.1 x hx),
      ← f2 n hs.2.2]
    exact h.availVal k n hk

theorem Inv.widen {seen cx σ1 σ2} (h : Inv seen cx σ1 σ2) (x : Nat) (hx : x ∉ seen) (e : σ1 x = σ2 x) :
    Inv (x :: seen) cx σ1 σ2 := by
  refine ⟨fun v hv => ?_, fun a b hab => ?_, fun k n hk => ?_, h.availVal⟩
  · rcases List.mem_cons.mp hv with rfl | hv
    · show σ1 v = σ2 ((cx.ren.lookup v).getD v)
      rw [rn_fresh h v hx]; exact e
    · exact h.rel v hv
  · exact ⟨.tail _ (h.renSeen a b hab).1, .tail _ (h.renSeen a b hab).2⟩
  · have := h.availSeen k n hk
    exact ⟨fun w hw => .tail _ (this.1 w hw), fun w hw => .tail _ (this.2.1 w hw), .tail _ this.2.2⟩

theorem Inv.addRen {seen cx σ1 σ2} (h : Inv seen cx σ1 σ2) (x n : Nat) (hx : x ∉ seen) (hn : n ∈ seen)
    (e : σ1 x = σ2 n) : Inv (x :: seen) { cx with ren := (x, n) :: cx.ren } σ1 σ2 := by
  refine ⟨fun v hv => ?_, fun a b hab => ?_, fun k m hk => ?_, h.availVal⟩
  · show σ1 v = σ2 ((List.lookup v ((x, n) :: cx.ren)).getD v)
    rcases List.mem_cons.mp hv with rfl | hv
    · rw [List.lookup_cons_self]; exact e
    · rw [List.lookup_cons, beq_false_of_ne (ne_of_mem_of_not_mem hv hx)]; exact h.rel v hv
  · rcases List.mem_cons.mp hab with hab | hab
    · cases hab; exact ⟨.head _, .tail _ hn⟩
    · exact ⟨.tail _ (h.renSeen a b hab).1, .tail _ (h.renSeen a b hab).2⟩
  · have := h.availSeen k m hk
    exact ⟨fun w hw => .tail _ (this.1 w hw), fun w hw => .tail _ (this.2.1 w hw), .tail _ this.2.2⟩

theorem Inv.addAvail {seen cx σ1 σ2} (h : Inv seen cx σ1 σ2) (k : Key) (n : Nat)
    (h1 : ∀ v, v ∈ k.2.1.vars → v ∈ seen) (h2 : ∀ v, v ∈ k.2.2.vars → v ∈ seen) (hn : n ∈ seen)
    (hv : evalTarget k.1 (k.2.1.eval σ2) (k.2.2.eval σ2) = some (σ2 n)) :
    Inv seen { cx with avail := (k, n) :: cx.avail } σ1 σ2 := by
  refine ⟨h.rel, h.renSeen, fun k' m hk => ?_, fun k' m hk => ?_⟩
  · rcases List.mem_cons.mp hk with hk | hk
    · cases hk; exact ⟨h1, h2, hn⟩
    · exact h.availSeen k' m hk
  · rcases List.mem_cons.mp hk with hk | hk
    · cases hk; exact hv
    · exact h.availVal k' m hk

theorem inv_update_same {seen cx ρ1 ρ2} (h : Inv seen cx ρ1 ρ2) (x : Nat) (v : Int) (hx : x ∉ seen) :
    Inv (x :: seen) cx (update ρ1 x v) (update ρ2 x v) :=
  (inv_frame h (.update hx ρ1 v) (.update hx ρ2 v)).widen x hx ((update_self ρ1 x v).trans (update_self ρ2 x v).symm)

/-- kept `Binary`: both sides define `x` with the same value -/
theorem inv_bin_kept {seen cx ρ1 ρ2} (h : Inv seen cx ρ1 ρ2) (x : Nat) (op : Op) (a b : Operand)
    (hx : x ∉ seen) (ha : ∀ v, v ∈ a.vars → v ∈ seen) (hb : ∀ v, v ∈ b.vars → v ∈ seen) (v : Int)
    (hv : evalTarget op ((rnO cx.ren a).eval ρ2) ((rnO cx.ren b).eval ρ2) = some v) :
    Inv (x :: seen) { cx with avail := ((op, rnO cx.ren a, rnO cx.ren b), x) :: cx.avail }
      (update ρ1 x v) (update ρ2 x v) := by
  have ha' := rnO_vars_seen h a ha
  have hb' := rnO_vars_seen h b hb
  refine (inv_update_same h x v hx).addAvail _ x (fun w hw => .tail _ (ha' w hw)) (fun w hw => .tail _ (hb' w hw))
    (.head _) ?_
  rw [eval_update_of_not_mem _ _ _ _ fun e => hx (ha' x e), eval_update_of_not_mem _ _ _ _ fun e => hx (hb' x e),
    update_self]
  exact hv

/-- deleted `Binary`: the original defines `x`, the optimised block records `x ↦ n` -/
theorem inv_bin_deleted {seen cx ρ1 ρ2} (h : Inv seen cx ρ1 ρ2) (x n : Nat) (hx : x ∉ seen) (hn : n ∈ seen) :
    Inv (x :: seen) { cx with ren := (x, (cx.ren.lookup x).getD n) :: cx.ren } (update ρ1 x (ρ2 n)) ρ2 := by
  rw [rn_fresh h x hx]
  exact (inv_frame h (.update hx ρ1 _) (.refl _ ρ2)).addRen x n hx hn (update_self ρ1 x _)

/-- `lvnSimple_preserves` with what the proofs about enclosing blocks need besides: the names in scope
before the block keep their values on both sides. -/
theorem lvnSimple_sim (p : List Simple) (seen : List Nat) (cx : Cx) (ρ1 ρ2 : Nat → Int)
    (hwf : wfSimple p seen = true) (h : Inv seen cx ρ1 ρ2) :
    Sim (fun σ1 σ2 => Inv (seenAfter p seen) (lvnSimple p cx).2 σ1 σ2 ∧ AgreeOn seen ρ1 σ1 ∧ AgreeOn seen ρ2 σ2)
      (execSimple p ρ1) (execSimple (lvnSimple p cx).1 ρ2) := by
  induction p generalizing seen cx ρ1 ρ2 with
  | nil => exact ⟨rfl, h, .refl _ _, .refl _ _⟩
  | cons st r ih =>
    cases st with
    | print a =>
      simp only [wfSimple, Bool.and_eq_true] at hwf
      have := ih seen cx ρ1 ρ2 hwf.2 h
      simp only [lvnSimple, lvn1, execSimple, seenAfter, rnO_eval h a (vars_all hwf.1)]
      exact ⟨congrArg (a.eval ρ1 :: ·) this.1, this.2⟩
    | brk a =>
      simp only [wfSimple, Bool.and_eq_true] at hwf
      simp only [lvnSimple, lvn1, execSimple, rnO_eval h a (vars_all hwf.1)]
      exact ⟨rfl, rfl⟩
    | bin x op a b =>
      simp only [wfSimple, Bool.and_eq_true, Bool.not_eq_true'] at hwf
      obtain ⟨⟨⟨hx, ha⟩, hb⟩, hr⟩ := hwf
      have hx := not_mem_of_contains hx
      have ha := vars_all ha
      have hb := vars_all hb
      have ea := rnO_eval h a ha
      have eb := rnO_eval h b hb
      simp only [lvnSimple, lvn1, seenAfter]
      cases hl : cx.avail.lookup (op, rnO cx.ren a, rnO cx.ren b) with
      | some n =>
        -- the value is available as `n`: the statement goes, `x` is renamed to `n`
        have hmem := lookup_mem _ _ _ hl
        have hval := h.availVal _ n hmem
        simp only [ea, eb] at hval
        simp only [execSimple, hval]
        exact (ih (x :: seen) _ _ _ hr (inv_bin_deleted h x n hx (h.availSeen _ n hmem).2.2)).frame_trans
          (fun _ hv => .tail _ hv) (.update hx ρ1 _) (.refl _ ρ2)
      | none =>
        simp only [execSimple, ea, eb]
        cases hv : evalTarget op (a.eval ρ1) (b.eval ρ1) with
        | none => exact ⟨rfl, trivial⟩
        | some v =>
          exact (ih (x :: seen) _ _ _ hr (inv_bin_kept h x op a b hx ha hb v (by rw [ea, eb]; exact hv))).frame_trans
            (fun _ hv => .tail _ hv) (.update hx ρ1 v) (.update hx ρ2 v)

/-- FULL STRENGTH: local value numbering of a block of `bin` / `print` / `brk` statements. For every
SSA block, every renaming/availability context and every pair of environments related by it: the
optimised block prints the same values and ends the same way (trap / break with the same value /
falls through into related environments). -/
theorem lvnSimple_preserves (p : List Simple) (seen : List Nat) (cx : Cx) (ρ1 ρ2 : Nat → Int)
    (hwf : wfSimple p seen = true) (h : Inv seen cx ρ1 ρ2) :
    (execSimple p ρ1).1 = (execSimple (lvnSimple p cx).1 ρ2).1 ∧
    ResRel (seenAfter p seen) (lvnSimple p cx).2 (execSimple p ρ1).2 (execSimple (lvnSimple p cx).1 ρ2).2 := by
  rw [resRel_eq]
  exact (lvnSimple_sim p seen cx ρ1 ρ2 hwf h).imp fun _ _ hI => hI.1

theorem inv_empty (seen : List Nat) (ρ : Nat → Int) : Inv seen { ren := [], avail := [] } ρ ρ :=
  ⟨fun _ _ => rfl, fun _ _ h => (nomatch h), fun _ _ h => (nomatch h), fun _ _ h => (nomatch h)⟩

/-- the names bound together at the end of an if/else or at the head of a loop are new, also to one another -/
def wfFa : List Nat → List Nat → Bool
  | [], _ => true
  | x :: r, seen => !seen.contains x && wfFa r (x :: seen)

def seenFa : List Nat → List Nat → List Nat
  | [], seen => seen
  | x :: r, seen => seenFa r (x :: seen)

/-- SSA discipline of a block of `LStmt`: `wfSimple` for every statement and every branch; what a branch
defines goes out of scope at its end (only the final assignments may read it), the final-assignment names stay -/
def wfL : List LStmt → List Nat → Bool
  | [], _ => true
  | .s st :: r, seen => wfSimple [st] seen && wfL r (seenAfter [st] seen)
  | .sif c _ body :: r, seen => c.vars.all seen.contains && wfSimple body seen && wfL r seen
  | .ife c s1 s2 fas :: r, seen =>
    c.vars.all seen.contains && wfSimple s1 seen && wfSimple s2 seen
      && fas.all (fun fa => fa.2.1.vars.all (seenAfter s1 seen).contains && fa.2.2.vars.all (seenAfter s2 seen).contains)
      && wfFa (fas.map (·.1)) seen && wfL r (seenFa (fas.map (·.1)) seen)

theorem assign_inv {cx} (l : List (Nat × Int)) (seen : List Nat) (ρ1 ρ2 : Nat → Int)
    (h : Inv seen cx ρ1 ρ2) (hw : wfFa (l.map (·.1)) seen = true) :
    Inv (seenFa (l.map (·.1)) seen) cx (assignAll ρ1 l) (assignAll ρ2 l) ∧
    AgreeOn seen ρ1 (assignAll ρ1 l) ∧ AgreeOn seen ρ2 (assignAll ρ2 l) := by
  induction l generalizing seen ρ1 ρ2 with
  | nil => exact ⟨h, .refl _ _, .refl _ _⟩
  | cons p r ih =>
    obtain ⟨x, v⟩ := p
    simp only [List.map_cons, wfFa, Bool.and_eq_true, Bool.not_eq_true'] at hw
    have hx := not_mem_of_contains hw.1
    obtain ⟨hI, f1, f2⟩ := ih (x :: seen) _ _ (inv_update_same h x v hx) hw.2
    exact ⟨hI, (AgreeOn.update hx ρ1 v).trans (fun _ hw => .tail _ hw) f1,
      (AgreeOn.update hx ρ2 v).trans (fun _ hw => .tail _ hw) f2⟩

theorem map_fst_map {α β : Type} (l : List (Nat × α)) (f : Nat × α → β) :
    (l.map fun p => (p.1, f p)).map (·.1) = l.map (·.1) := by
  rw [List.map_map]; rfl

theorem mem_seenFa (l seen : List Nat) (v : Nat) : v ∈ seenFa l seen ↔ v ∈ l ∨ v ∈ seen := by
  induction l generalizing seen with
  | nil => simp [seenFa]
  | cons x r ih => rw [seenFa, ih, List.mem_cons, List.mem_cons, or_left_comm, or_assoc]

theorem mem_seenAfter (p : List Simple) (seen : List Nat) (v : Nat) :
    v ∈ seenAfter p seen ↔ v ∈ defsSimple p ∨ v ∈ seen := by
  induction p generalizing seen with
  | nil => simp [seenAfter, defsSimple]
  | cons st r ih =>
    cases st with
    | bin x op a b => rw [seenAfter, defsSimple, ih, List.mem_cons, List.mem_cons, or_left_comm, or_assoc]
    | print a => exact ih seen
    | brk a => exact ih seen

/-- One branch of an if/else followed by its final assignments: the contexts of the enclosing block are valid
again, with the final-assignment names in scope. `sel` picks the branch's side of a final assignment (`(·.1)` for
the first branch, `(·.2)` for the second); the optimised side reads it through the renaming at the end of the
branch. -/
theorem lvn_branch {seen cx ρ1 ρ2} (h : Inv seen cx ρ1 ρ2) (body : List Simple)
    (hb : wfSimple body seen = true) (fas : List (Nat × Operand × Operand))
    (sel : Operand × Operand → Operand)
    (hfa : ∀ fa, fa ∈ fas → ∀ v, v ∈ (sel fa.2).vars → v ∈ seenAfter body seen)
    (hw : wfFa (fas.map (·.1)) seen = true) :
    Sim (fun σ1 σ2 =>
          let τ1 := assignAll σ1 (fas.map fun fa => (fa.1, (sel fa.2).eval σ1))
          let τ2 := assignAll σ2 (fas.map fun fa => (fa.1, (rnO (lvnSimple body cx).2.ren (sel fa.2)).eval σ2))
          Inv (seenFa (fas.map (·.1)) seen) cx τ1 τ2 ∧ AgreeOn seen ρ1 τ1 ∧ AgreeOn seen ρ2 τ2)
      (execSimple body ρ1) (execSimple (lvnSimple body cx).1 ρ2) :=
  (lvnSimple_sim body seen cx ρ1 ρ2 hb h).imp fun σ1 σ2 ⟨hI, f1, f2⟩ => by
    dsimp only
    have hvals : (fas.map fun fa => (fa.1, (rnO (lvnSimple body cx).2.ren (sel fa.2)).eval σ2))
        = (fas.map fun fa => (fa.1, (sel fa.2).eval σ1)) :=
      List.map_congr_left fun fa hfa' => by rw [rnO_eval hI (sel fa.2) (hfa fa hfa')]
    rw [hvals]
    obtain ⟨hJ, g1, g2⟩ := assign_inv (fas.map fun fa => (fa.1, (sel fa.2).eval σ1)) seen σ1 σ2
      (inv_frame h f1 f2) (by rw [map_fst_map]; exact hw)
    rw [map_fst_map] at hJ
    exact ⟨hJ, f1.trans (fun _ hv => hv) g1, f2.trans (fun _ hv => hv) g2⟩

/-- the names in scope after a block of `LStmt`: `seen`, top-level definitions and final-assignment names -/
def seenAfterL : List LStmt → List Nat → List Nat
  | [], seen => seen
  | .s st :: r, seen => seenAfterL r (seenAfter [st] seen)
  | .sif _ _ _ :: r, seen => seenAfterL r seen
  | .ife _ _ _ fas :: r, seen => seenAfterL r (seenFa (fas.map (·.1)) seen)

/-- the contexts at the end of a block: only top-level statements thread them -/
def lvnCx : List LStmt → Cx → Cx
  | [], cx => cx
  | .s st :: r, cx => lvnCx r (lvn1 st cx).2
  | _ :: r, cx => lvnCx r cx

theorem lvnL_s (st : Simple) (r : List LStmt) (cx : Cx) :
    lvnL (.s st :: r) cx = (lvnSimple [st] cx).1.map LStmt.s ++ lvnL r (lvn1 st cx).2 := by
  simp only [lvnL, lvnSimple]
  cases lvn1 st cx with
  | mk o cx1 => cases o <;> rfl

theorem lvnLc_eq (p : List LStmt) (cx : Cx) : lvnLc p cx = (lvnL p cx, lvnCx p cx) := by
  induction p generalizing cx with
  | nil => rfl
  | cons st r ih =>
    cases st with
    | s st =>
      simp only [lvnLc, lvnL, lvnCx, ih]
    | sif c inv body => simp only [lvnLc, lvnL, lvnCx, ih]
    | ife c s1 s2 fas => simp only [lvnLc, lvnL, lvnCx, ih]

/-- `lvnSimple_sim` for blocks of `LStmt`. A branch is numbered in a copy of the contexts; after it the contexts
of the enclosing block hold again because the branch left the names in scope unchanged (`inv_frame`). -/
theorem lvnL_sim (p : List LStmt) (seen : List Nat) (cx : Cx) (ρ1 ρ2 : Nat → Int)
    (hwf : wfL p seen = true) (h : Inv seen cx ρ1 ρ2) :
    Sim (fun σ1 σ2 => Inv (seenAfterL p seen) (lvnCx p cx) σ1 σ2 ∧ AgreeOn seen ρ1 σ1 ∧ AgreeOn seen ρ2 σ2)
      (execL p ρ1) (execL (lvnL p cx) ρ2) := by
  induction p generalizing seen cx ρ1 ρ2 with
  | nil => exact ⟨rfl, h, .refl _ _, .refl _ _⟩
  | cons st r ih =>
    cases st with
    | s st =>
      simp only [wfL, Bool.and_eq_true] at hwf
      rw [lvnL_s, execL_s, execL_prefix]
      exact (lvnSimple_sim [st] seen cx ρ1 ρ2 hwf.1 h).andThen fun σ1 σ2 ⟨hI, f1, f2⟩ =>
        (ih _ _ σ1 σ2 hwf.2 hI).frame_trans (fun v hv => (mem_seenAfter _ _ v).mpr (.inr hv)) f1 f2
    | sif c inv body =>
      simp only [wfL, Bool.and_eq_true] at hwf
      obtain ⟨⟨hc, hb⟩, hr⟩ := hwf
      simp only [lvnL, execL_sif, rnO_eval h c (vars_all hc)]
      split
      · exact (lvnSimple_sim body seen cx ρ1 ρ2 hb h).andThen fun σ1 σ2 ⟨_, f1, f2⟩ =>
          (ih seen cx σ1 σ2 hr (inv_frame h f1 f2)).frame_trans (fun _ hv => hv) f1 f2
      · exact ih seen cx ρ1 ρ2 hr h
    | ife c s1 s2 fas =>
      simp only [wfL, Bool.and_eq_true] at hwf
      obtain ⟨⟨⟨⟨⟨hc, hb1⟩, hb2⟩, hfas⟩, hwfa⟩, hr⟩ := hwf
      have hfas := List.all_eq_true.mp hfas
      have sub : ∀ v, v ∈ seen → v ∈ seenFa (fas.map (·.1)) seen := fun v hv => (mem_seenFa _ _ v).mpr (.inr hv)
      simp only [lvnL, execL_ife, rnO_eval h c (vars_all hc), List.map_map, Function.comp_def]
      split
      · exact (lvn_branch h s1 hb1 fas (·.1)
            (fun fa hfa => vars_all (Bool.and_eq_true_iff.mp (hfas fa hfa)).1) hwfa).andThen
          fun σ1 σ2 ⟨hI, f1, f2⟩ => (ih _ cx _ _ hr hI).frame_trans sub f1 f2
      · exact (lvn_branch h s2 hb2 fas (·.2)
            (fun fa hfa => vars_all (Bool.and_eq_true_iff.mp (hfas fa hfa)).2) hwfa).andThen
          fun σ1 σ2 ⟨hI, f1, f2⟩ => (ih _ cx _ _ hr hI).frame_trans sub f1 f2

def keys (cx : ICx) : List Nat := cx.map (·.1)

theorem lookup_some_of_key (cx : ICx) (n : Nat) (h : n ∈ keys cx) : ∃ e, cx.lookup n = some e := by
  obtain ⟨p, hp, rfl⟩ := List.mem_map.mp h
  cases hl : cx.lookup p.1 with
  | some e => exact ⟨e, rfl⟩
  | none =>
    have := List.lookup_eq_none_iff.mp hl p hp
    rw [bne_self_eq_false] at this
    cases this

/-- The invariant of inlining between the callee's run (environment `σ`) and the run of the inlined statements in
the caller (environment `ρ'`), for the caller's environment `ρ` at the call, its names `S`, the mangling `mg` and
the rewrite context `cx`. `rep`: a callee name has in `σ` the value of the operand `cx` puts for it in `ρ'`, and
that operand reads only names of `S` or mangled names of names bound so far, so that binding one more mangled
name leaves it alone (`IInv.bind`). `frame`: the names of `S` are unchanged since the call. -/
structure IInv (mg : Nat → Nat) (S : List Nat) (cx : ICx) (σ ρ' ρ : Nat → Int) : Prop where
  rep : ∀ n e, cx.lookup n = some e → σ n = e.eval ρ' ∧ (∀ v, v ∈ e.vars → v ∈ S ∨ ∃ y, y ∈ keys cx ∧ v = mg y)
  frame : ∀ v, v ∈ S → ρ' v = ρ v

theorem irw_eval {mg S cx σ ρ' ρ} (h : IInv mg S cx σ ρ' ρ) (a : Operand) (ha : ∀ v, v ∈ a.vars → v ∈ keys cx) :
    (irw cx a).eval ρ' = a.eval σ := by
  cases a with
  | lit n => rfl
  | var x =>
    obtain ⟨e, he⟩ := lookup_some_of_key cx x (ha x (.head _))
    simp only [irw, he, Option.getD, Operand.eval]
    exact (h.rep x e he).1.symm

/-- SSA discipline of the callee body relative to the names bound so far -/
def wfCallee : List Simple → List Nat → Bool
  | [], _ => true
  | .bin x _ a b :: r, sc => !sc.contains x && a.vars.all sc.contains && b.vars.all sc.contains && wfCallee r (x :: sc)
  | .print a :: r, sc => a.vars.all sc.contains && wfCallee r sc
  | .brk _ :: _, _ => false

theorem irw_cons_of_not_mem (cx : ICx) (x : Nat) (e : Operand) (a : Operand) (h : x ∉ a.vars) :
    irw ((x, e) :: cx) a = irw cx a := by
  cases a with
  | lit n => rfl
  | var y =>
    have : (y == x) = false := beq_false_of_ne fun e' => h (e' ▸ .head _)
    simp only [irw, List.lookup_cons, this]

theorem IInv.bind {mg S cx σ ρ' ρ} (hinj : ∀ x y, mg x = mg y → x = y) (hfresh : ∀ x, mg x ∉ S)
    (h : IInv mg S cx σ ρ' ρ) (x : Nat) (hx : x ∉ keys cx) (v : Int) :
    IInv mg S ((x, .var (mg x)) :: cx) (update σ x v) (update ρ' (mg x) v) ρ := by
  refine ⟨fun n e hl => ?_, fun w hw => (update_ne v (ne_of_mem_of_not_mem hw (hfresh x))).trans (h.frame w hw)⟩
  rw [List.lookup_cons] at hl
  by_cases hn : n = x
  · subst hn
    rw [beq_self_eq_true] at hl
    cases hl
    exact ⟨(update_self σ n v).trans (update_self ρ' (mg n) v).symm,
      fun w hw => .inr ⟨n, .head _, List.mem_singleton.mp hw⟩⟩
  · rw [beq_false_of_ne hn] at hl
    obtain ⟨h1, h2⟩ := h.rep n e hl
    -- `e` was bound earlier, so it does not mention `mg x`
    have hnot : mg x ∉ e.vars := fun hm => by
      rcases h2 (mg x) hm with hs | ⟨y, hy, hmy⟩
      · exact hfresh x hs
      · exact hx (hinj x y hmy ▸ hy)
    exact ⟨(update_ne v hn).trans (h1.trans (eval_update_of_not_mem e ρ' (mg x) v hnot).symm),
      fun w hw => (h2 w hw).imp_right fun ⟨y, hy, e'⟩ => ⟨y, .tail _ hy, e'⟩⟩

theorem keys_inlineBody (mg : Nat → Nat) (body : List Simple) (cx : ICx) :
    ∀ v, v ∈ keys (inlineBody mg body cx).2 ↔ v ∈ defsSimple body ∨ v ∈ keys cx := by
  induction body generalizing cx with
  | nil => intro v; simp [inlineBody, defsSimple]
  | cons st r ih =>
    intro v
    cases st with
    | print a => exact ih cx v
    | brk a => exact ih cx v
    | bin x op a b =>
      simp only [inlineBody, defsSimple]
      rw [ih, List.mem_cons]
      show v ∈ defsSimple r ∨ v ∈ x :: keys cx ↔ _
      rw [List.mem_cons]
      exact or_left_comm.trans or_assoc.symm

/-- A callee body has no `Break` (`wfCallee`), so the runs are compared without a `brk` arm. That the bound
names only grow (`inlineBody_preserves`, from `keys_inlineBody`) does not depend on the run and is kept out of
this induction. -/
theorem inlineBody_sim (mg : Nat → Nat) (S : List Nat) (hinj : ∀ x y, mg x = mg y → x = y)
    (hfresh : ∀ x, mg x ∉ S)
    (body : List Simple) (cx : ICx) (σ ρ' ρ : Nat → Int)
    (hwf : wfCallee body (keys cx) = true) (h : IInv mg S cx σ ρ' ρ) :
    (execSimple body σ).1 = (execSimple (inlineBody mg body cx).1 ρ').1 ∧
    (match (execSimple body σ).2, (execSimple (inlineBody mg body cx).1 ρ').2 with
     | .trap, .trap => True
     | .next σ', .next ρ'' => IInv mg S (inlineBody mg body cx).2 σ' ρ'' ρ
     | _, _ => False) := by
  induction body generalizing cx σ ρ' with
  | nil => exact ⟨rfl, h⟩
  | cons st r ih =>
    cases st with
    | brk a => cases hwf
    | print a =>
      simp only [wfCallee, Bool.and_eq_true] at hwf
      have := ih cx σ ρ' hwf.2 h
      simp only [inlineBody, execSimple, irw_eval h a (vars_all hwf.1)]
      exact ⟨congrArg (a.eval σ :: ·) this.1, this.2⟩
    | bin x op a b =>
      simp only [wfCallee, Bool.and_eq_true, Bool.not_eq_true'] at hwf
      obtain ⟨⟨⟨hx, ha⟩, hb⟩, hr⟩ := hwf
      have hx := not_mem_of_contains hx
      have ha := vars_all ha
      have hb := vars_all hb
      simp only [inlineBody, execSimple, irw_cons_of_not_mem _ _ _ _ fun e => hx (ha x e),
        irw_cons_of_not_mem _ _ _ _ fun e => hx (hb x e), irw_eval h a ha, irw_eval h b hb]
      cases evalTarget op (a.eval σ) (b.eval σ) with
      | none => exact ⟨rfl, trivial⟩
      | some v => exact ih ((x, .var (mg x)) :: cx) _ _ hr (h.bind hinj hfresh x hx v)

/-- FULL STRENGTH: inlining of a callee body of `bin` / `print` statements. For every SSA body without `Break`,
every injective mangling into names the caller does not have, every rewrite context and environments related by
`IInv`: the inlined statements print the same values and trap iff the body traps, or both fall through, `IInv`
holds for the context at the end and every name bound before is still bound in it. -/
theorem inlineBody_preserves (mg : Nat → Nat) (S : List Nat) (hinj : ∀ x y, mg x = mg y → x = y)
    (hfresh : ∀ x, mg x ∉ S)
    (body : List Simple) (cx : ICx) (σ ρ' ρ : Nat → Int)
    (hwf : wfCallee body (keys cx) = true) (h : IInv mg S cx σ ρ' ρ) :
    (execSimple body σ).1 = (execSimple (inlineBody mg body cx).1 ρ').1 ∧
    (match (execSimple body σ).2, (execSimple (inlineBody mg body cx).1 ρ').2 with
     | .trap, .trap => True
     | .next σ', .next ρ'' => IInv mg S (inlineBody mg body cx).2 σ' ρ'' ρ ∧
         (∀ v, v ∈ keys cx → v ∈ keys (inlineBody mg body cx).2)
     | _, _ => False) := by
  obtain ⟨ht, hr⟩ := inlineBody_sim mg S hinj hfresh body cx σ ρ' ρ hwf h
  refine ⟨ht, ?_⟩
  have hk : ∀ v, v ∈ keys cx → v ∈ keys (inlineBody mg body cx).2 :=
    fun v hv => (keys_inlineBody mg body cx v).mpr (.inr hv)
  generalize (execSimple body σ).2 = r1, (execSimple (inlineBody mg body cx).1 ρ').2 = r2 at hr ⊢
  cases r1 <;> cases r2
  case next.next => exact ⟨hr, hk⟩
  all_goals exact hr

theorem iinv_init (mg : Nat → Nat) (S : List Nat) (ps : List Nat) (args : List Operand) (ρ : Nat → Int)
    (hargs : ∀ a, a ∈ args → ∀ v, v ∈ a.vars → v ∈ S) :
    IInv mg S (ps.zip args) (bindParams ps (args.map (·.eval ρ))) ρ ρ := by
  refine ⟨?_, fun _ _ => rfl⟩
  induction ps generalizing args with
  | nil => intro n e h; cases h
  | cons p ps ih =>
    cases args with
    | nil => intro n e h; cases h
    | cons a as =>
      intro n e h
      rw [List.zip_cons_cons, List.lookup_cons] at h
      by_cases hn : n = p
      · rw [hn, beq_self_eq_true] at h
        cases h
        exact ⟨hn ▸ update_self _ p _, fun v hv => .inl (hargs _ (.head _) v hv)⟩
      · rw [beq_false_of_ne hn] at h
        obtain ⟨h1, h2⟩ := ih as (fun a' ha' => hargs a' (.tail _ ha')) n e h
        exact ⟨(update_ne _ hn).trans h1, fun v hv => (h2 v hv).imp_right fun ⟨y, hy, e'⟩ => ⟨y, .tail _ hy, e'⟩⟩

end SamVerif.Opt
