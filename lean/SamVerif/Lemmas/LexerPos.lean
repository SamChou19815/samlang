import SamVerif.Lemmas.LexerValid
/-! One scanner step against the whole contract a caller relies on (`Scans`), one path at a time,
each unfolded once. Positions (C14): the tracked position advances exactly as the ground truth
`advanceAll` does over the bytes consumed. Safety and progress (C05): a valid `&str` is cut at a char
boundary, so no path panics; an `error` token comes with its diagnostic; every token consumes at
least one byte (`0 < n` in `StepSpec`).

`blockEnd_pos_exact`, `strEnd_no_newline`, `logosNext_spec` and the four `lex…_spec` are used by no
other proof: they state what a single loop or path guarantees on its own, for C14's account of each
of them. `regexMatch_kind` (a regex match is never of keyword or operator kind) is used by none
either. -/
namespace SamVerif.Lexer
open SamVerif.Generated.Keywords

/-- bytes without a newline only move the column (`next_n_column`, `loc_of_advance`) -/
theorem advanceAll_no_newline (p : Pos) (bs : Bytes) (h : ∀ b ∈ bs, b.toNat ≠ 10) :
    advanceAll p bs = addCol p bs.length := by
  induction bs generalizing p with
  | nil => simp [advanceAll, addCol]
  | cons b bs ih =>
    have hb : b.toNat ≠ 10 := h b (List.mem_cons_self ..)
    have := ih (advance p b) (fun x hx => h x (List.mem_cons_of_mem _ hx))
    simp only [advanceAll, List.foldl_cons] at this ⊢
    rw [this]
    simp [advance, hb, addCol, Nat.add_assoc, Nat.add_comm 1]

theorem advanceAll_append (p : Pos) (a b : Bytes) :
    advanceAll p (a ++ b) = advanceAll (advanceAll p a) b := by
  simp [advanceAll, List.foldl_append]

theorem advanceAll_take_add (p : Pos) (bs : Bytes) (k n : Nat) :
    advanceAll p (bs.take (k + n)) = advanceAll (advanceAll p (bs.take k)) ((bs.drop k).take n) := by
  rw [← advanceAll_append, List.take_add]

theorem advance_of_ne {b : UInt8} (h : b.toNat ≠ 10) (p : Pos) : advance p b = addCol p 1 := by
  simp [advance, h, addCol]

theorem addCol_addCol (p : Pos) (a b : Nat) : addCol (addCol p a) b = addCol p (a + b) := by
  simp only [addCol, Nat.add_assoc]

/-- **skip_whitespace tracks positions exactly**: after the whitespace run the tracked position is
the ground-truth position of the bytes skipped (newlines, CR, tabs, form feeds included). -/
theorem wsPos_exact (bs : Bytes) (p : Pos) :
    wsPos bs p = advanceAll p (bs.take (run isAsciiWs bs)) := by
  fun_induction wsPos bs p with
  | case1 => rfl
  | case2 b bs p hb ih => simp [run, hb, ih, advanceAll]
  | case3 b bs p hb => simp [run, hb, advanceAll]

/-- **the block-comment loop tracks positions exactly**: when `blockEnd` finds the closing `*/`
after `m - n` bytes, the position it reports is the ground-truth position after those bytes
(multi-line comments included). -/
theorem blockEnd_pos_exact (cs : Bytes) (p : Pos) (n m : Nat) (q : Pos)
    (h : blockEnd cs p n = some (m, q)) : n ≤ m ∧ q = advanceAll p (cs.take (m - n)) := by
  obtain ⟨i, _, rfl, _, _, rfl⟩ := blockEnd_some h
  exact ⟨Nat.le_add_right .., by rw [Nat.add_sub_cancel_left]⟩

/-- a string literal never spans a line: the bytes `strEnd` accepts contain no newline, so the
column-only update `position.1 += pos + 1` (lexer.rs:344) is exact -/
theorem strEnd_no_newline (cs : Bytes) (esc pos n : Nat) (h : strEnd cs esc pos = some n) :
    ∀ b ∈ cs.take (n - pos), b.toNat ≠ 10 := by
  obtain ⟨i, _, rfl, _, _, hnl⟩ := strEnd_some h
  rwa [Nat.add_sub_cancel_left]

/-- what one sub-lexer establishes: it consumed `n ≥ 1` bytes, the token starts at `pos`, and its
end (= the tracked position afterwards) is the ground-truth position after those bytes; identifier
tokens spell exactly the consumed bytes on one line. -/
def StepSpec (rest : Bytes) (pos : Pos) (s : Scanned) : Prop :=
  ∃ n, 0 < n ∧ n ≤ rest.length ∧ s.rest = rest.drop n ∧ s.tok.start = pos ∧
    s.tok.stop = advanceAll pos (rest.take n) ∧ s.pos = s.tok.stop ∧
    ((s.tok.kind = .upper ∨ s.tok.kind = .lower) →
      s.tok.text = rest.take n ∧ s.tok.stop = addCol pos n)

/-- The whole contract of one scanner path that turns `rest` at `pos` into `s`: positions
(`StepSpec`), a valid `&str` is cut at a char boundary, and an `error` token comes with its
"Invalid token." entry. -/
structure Scans (rest : Bytes) (pos : Pos) (s : Scanned) : Prop where
  spec : StepSpec rest pos s
  valid : Valid rest → Valid s.rest
  err : s.tok.kind = .error → (⟨s.tok.start, s.tok.stop, .tok⟩ : Err) ∈ s.errs

/-- A path that consumes `n ≥ 1` bytes without a newline and ends at `addCol pos n` meets `Scans`;
`hv` is its char-boundary argument, `hid` and `herr` the identifier and the error clause. -/
theorem Scans.of_line {rest : Bytes} {pos : Pos} {n : Nat} {k : Kind} {text : Bytes}
    {errs : List Err} (hn : 0 < n) (hle : n ≤ rest.length)
    (hnl : ∀ b ∈ rest.take n, b.toNat ≠ 10) (hv : Valid rest → Valid (rest.drop n))
    (hid : k = .upper ∨ k = .lower → text = rest.take n)
    (herr : k = .error → (⟨pos, addCol pos n, .tok⟩ : Err) ∈ errs) :
    Scans rest pos ⟨⟨k, text, pos, addCol pos n⟩, errs, rest.drop n, addCol pos n⟩ :=
  ⟨⟨n, hn, hle, rfl, rfl,
    by rw [advanceAll_no_newline _ _ hnl, List.length_take, Nat.min_eq_left hle], rfl,
    fun h => ⟨hid h, rfl⟩⟩, hv, herr⟩

/-- what a sub-lexer's answer on `rest` is held to: it panics only if `rest` is not a valid `&str`,
and a token it returns meets `Scans` -/
def Sub (rest : Bytes) (pos : Pos) : Try Scanned → Prop
  | .no => True
  | .panic => ¬ Valid rest
  | .yes s => Scans rest pos s

theorem Sub.spec {rest : Bytes} {pos : Pos} {t : Try Scanned} {s : Scanned}
    (ht : Sub rest pos t) (h : t = .yes s) : StepSpec rest pos s := by
  subst h; exact Scans.spec ht

/-- The tail every sub-lexer shares: `bump` to the cut, panic off a char boundary. What is bumped
(`bs` by `k`) and what the contract speaks of (`rest` by `n`) differ only for the error token, which
bumps the remainder behind the error scalar; `hd` says both cuts leave the same bytes. -/
theorem Sub.of_bump {rest bs : Bytes} {pos : Pos} {k n : Nat} {tok : Token} {errs : List Err}
    {p : Pos} (hk : k ≤ bs.length) (hd : bs.drop k = rest.drop n)
    (hs : Scans rest pos ⟨tok, errs, rest.drop n, p⟩) :
    Sub rest pos (match bump bs k with
      | none => .panic
      | some r => .yes ⟨tok, errs, r, p⟩) := by
  cases hb : bump bs k with
  | none =>
    intro hv
    rw [bump_of_valid_drop hk (hd ▸ hs.valid hv)] at hb
    cases hb
  | some r =>
    cases bump_eq hb
    rw [hd]
    exact hs

theorem lexStrLit_sub (rest : Bytes) (pos : Pos) : Sub rest pos (lexStrLit rest pos) := by
  unfold lexStrLit
  split
  · rename_i q body
    split
    · rename_i hq
      split
      · trivial
      · rename_i n hn
        obtain ⟨i, c, rfl, hi, hc, hnl⟩ := strEnd_some hn
        have hle : 1 + (i + 1) ≤ (q :: body).length := by
          have := (List.getElem?_eq_some_iff.mp hi).1
          simp only [List.length_cons]; omega
        refine Sub.of_bump hle rfl (Scans.of_line (by omega) hle ?_ ?_ nofun nofun)
        · rw [Nat.add_comm, List.take_succ_cons]
          exact List.forall_mem_cons.mpr ⟨by omega, hnl⟩
        · rw [Nat.add_comm]
          exact fun h => h.drop_after_ascii (n := i + 1) hi (by omega)
    · trivial
  · trivial

theorem lexStrLit_spec {rest : Bytes} {pos : Pos} {s : Scanned}
    (h : lexStrLit rest pos = .yes s) : StepSpec rest pos s :=
  (lexStrLit_sub rest pos).spec h

theorem lexLineComment_sub (rest : Bytes) (pos : Pos) : Sub rest pos (lexLineComment rest pos) := by
  unfold lexLineComment
  split
  · rename_i a b body
    split
    · rename_i hq
      have hv : Valid (a :: b :: body) →
          Valid ((a :: b :: body).drop (2 + run (fun c => decide (c.toNat ≠ 10)) body)) :=
        fun h => h.drop_run_until (fun x hx => not_isCont_of_lt (by simp at hx; omega)) 2
      have hk := run_le (fun c => decide (c.toNat ≠ 10)) body
      have hall := run_all (fun c => decide (c.toNat ≠ 10)) body
      generalize run (fun c => decide (c.toNat ≠ 10)) body = k at *
      have hle : 2 + k ≤ (a :: b :: body).length := by simp only [List.length_cons]; omega
      refine Sub.of_bump hle rfl (Scans.of_line (by omega) hle ?_ hv nofun nofun)
      rw [Nat.add_comm, List.take_succ_cons, List.take_succ_cons]
      exact List.forall_mem_cons.mpr ⟨by omega, List.forall_mem_cons.mpr ⟨by omega,
        fun x hx => of_decide_eq_true (hall x hx)⟩⟩
    · trivial
  · trivial

theorem lexLineComment_spec {rest : Bytes} {pos : Pos} {s : Scanned}
    (h : lexLineComment rest pos = .yes s) : StepSpec rest pos s :=
  (lexLineComment_sub rest pos).spec h

theorem lexBlockComment_sub (rest : Bytes) (pos : Pos) : Sub rest pos (lexBlockComment rest pos) := by
  unfold lexBlockComment
  split
  · rename_i a b body
    split
    · rename_i hq
      split
      · trivial
      · rename_i n stop hn
        obtain ⟨i, d, hn', hi, hd, hstop⟩ := blockEnd_some hn
        have hle : n ≤ (a :: b :: body).length := by
          have := (List.getElem?_eq_some_iff.mp hi).1
          simp only [List.length_cons]; omega
        have hlen : ((a :: b :: body).take n).length = n := by
          rw [List.length_take, Nat.min_eq_left hle]
        dsimp only
        generalize List.take n (a :: b :: body) = chars at hlen ⊢
        -- the slice `[3..len-2]` is only taken when `len > 4`, `[2..len-2]` always has `len ≥ 4`
        have h4 : 2 + 2 ≤ chars.length := by omega
        rw [slice_eq (ite_le (fun h => Nat.le_sub_of_add_le h.1) (Nat.le_sub_of_add_le h4))
          (Nat.sub_le ..)]
        -- a block comment may span lines, so `Scans.of_line` does not apply: the contract is built
        -- field by field, the kind being `if isDoc then .doc else .block`
        refine Sub.of_bump hle rfl
          { spec := ⟨n, by omega, hle, rfl, rfl, ?stop, rfl, ?ident⟩, valid := ?valid, err := ?err }
        case stop =>
          -- `blockEnd` started behind `/*` at `addCol pos 2`; re-base its answer over these two bytes
          have e : advance (advance pos a) b = addCol pos 2 := by
            rw [advance_of_ne (by omega), advance_of_ne (by omega), addCol_addCol]
          subst hn' hstop
          rw [Nat.add_comm 2]
          exact congrArg (advanceAll · _) e.symm
        case ident =>
          -- neither kind is an identifier
          rintro (hk | hk) <;> split at hk <;> cases hk
        case valid =>
          -- the cut stands behind the closing `/`, an ASCII byte
          intro h
          have := h.drop_after_ascii (n := i + 1 + 2) hi (by omega)
          rwa [show i + 1 + 2 + 1 = n by omega] at this
        case err =>
          -- neither kind is `.error`
          intro hk; split at hk <;> cases hk
    · trivial
  · trivial

theorem lexBlockComment_spec {rest : Bytes} {pos : Pos} {s : Scanned}
    (h : lexBlockComment rest pos = .yes s) : StepSpec rest pos s :=
  (lexBlockComment_sub rest pos).spec h

theorem lexError_ne_no (rest : Bytes) (pos : Pos) : lexError rest pos ≠ .no := by
  fun_cases lexError rest pos <;> nofun

theorem lexError_sub {b : UInt8} {tl : Bytes} (hb : isAsciiWs b = false) (pos : Pos) :
    Sub (b :: tl) pos (lexError (b :: tl) pos) := by
  -- The token is the first byte, then `k` continuation bytes, then `j` bytes that are not
  -- whitespace. None of them is a newline, so `Scans.of_line` applies; the cut stands in front of an
  -- ASCII whitespace byte or at the end of the input, hence on a char boundary (`hv`).
  unfold lexError
  dsimp only
  have hv (h : Valid (b :: tl)) := h.drop_run_until (p := fun c => !isAsciiWs c)
    (fun x hx => not_isCont_of_lt (isAsciiWs_lt (by simpa using hx)))
    (1 + run isCont ((b :: tl).drop 1))
  have hc := run_le isCont ((b :: tl).drop 1)
  have hcall := run_all isCont ((b :: tl).drop 1)
  generalize run isCont ((b :: tl).drop 1) = k at *
  have hs := run_le (fun c => !isAsciiWs c) ((b :: tl).drop (1 + k))
  have hsall := run_all (fun c => !isAsciiWs c) ((b :: tl).drop (1 + k))
  generalize run (fun c => !isAsciiWs c) ((b :: tl).drop (1 + k)) = j at *
  have hle : 1 + k + j ≤ (b :: tl).length := by
    simp only [List.length_drop, List.length_cons] at hs hc ⊢
    omega
  rw [addCol_addCol]
  refine Sub.of_bump hs (List.drop_drop ..)
    (Scans.of_line (by omega) hle ?_ hv nofun fun _ => List.mem_singleton.mpr rfl)
  rw [List.take_add, List.take_add]
  intro x hx
  rcases List.mem_append.mp hx with hx | hx
  · rcases List.mem_append.mp hx with hx | hx
    · -- the first byte: not whitespace
      cases List.mem_singleton.mp hx
      exact ne_newline_of_not_ws hb
    · -- a continuation byte: at least 128
      have := isCont_ge (hcall x hx); omega
  · -- a byte of the run that stops at whitespace
    exact ne_newline_of_not_ws (Bool.not_eq_true' _ ▸ hsall x hx)

theorem lexError_spec {b : UInt8} {tl : Bytes} {pos : Pos} {s : Scanned}
    (hb : isAsciiWs b = false) (h : lexError (b :: tl) pos = .yes s) : StepSpec (b :: tl) pos s :=
  (lexError_sub hb pos).spec h

/-- by `decide`: re-checked by the kernel whenever the tables are regenerated from the source -/
theorem keywords_plain : ∀ e ∈ keywords, ∀ b ∈ e.1, b.toNat < 128 ∧ b.toNat ≠ 10 := by decide
theorem operators_plain : ∀ e ∈ operators, ∀ b ∈ e.1, b.toNat < 128 ∧ b.toNat ≠ 10 := by decide

theorem regexMatch_kind (rest : Bytes) (h : 0 < (regexMatch rest).2) :
    (regexMatch rest).1 ≠ .kw ∧ (regexMatch rest).1 ≠ .op := by
  rcases regexMatch_spec rest with h0 | ⟨hk, _⟩
  · omega
  · constructor
    · intro h'; rw [h'] at hk; simp at hk
    · intro h'; rw [h'] at hk; simp at hk

theorem logosNext_tok {rest : Bytes} {k : Kind} {n : Nat} {t : Bytes}
    (h : logosNext rest = .tok k n t) :
    0 < n ∧ n ≤ rest.length ∧ (∀ b ∈ rest.take n, b.toNat < 128 ∧ b.toNat ≠ 10) ∧ k ≠ .error ∧
      ((k = .upper ∨ k = .lower) → t = rest.take n) := by
  rw [logosNext] at h
  by_cases h0 : (bestLit keywords rest).1 = 0 ∧ (bestLit operators rest).1 = 0 ∧ (regexMatch rest).2 = 0
  · rw [if_pos h0] at h; cases h
  rw [if_neg h0] at h
  by_cases hkw : (bestLit operators rest).1 ≤ (bestLit keywords rest).1 ∧
      (regexMatch rest).2 ≤ (bestLit keywords rest).1
  · rw [if_pos hkw] at h
    cases h
    have kw := bestLit_bytes keywords_plain rest
    exact ⟨by omega, kw.1, kw.2, nofun, nofun⟩
  rw [if_neg hkw] at h
  by_cases hop : (regexMatch rest).2 ≤ (bestLit operators rest).1
  · rw [if_pos hop] at h
    cases h
    have op := bestLit_bytes operators_plain rest
    exact ⟨by omega, op.1, op.2, nofun, nofun⟩
  rw [if_neg hop] at h
  cases h
  have hn : 0 < (regexMatch rest).2 := by omega
  rcases regexMatch_spec rest with h0 | ⟨hk, hle, hall⟩
  · omega
  · refine ⟨hn, hle, fun b hb => isAlnum_plain (hall b hb), ?_, fun _ => rfl⟩
    rcases hk with hk | hk | hk <;> rw [hk] <;> nofun

theorem logosNext_spec {rest : Bytes} {k : Kind} {n : Nat} {t : Bytes}
    (h : logosNext rest = .tok k n t) :
    0 < n ∧ n ≤ rest.length ∧ (∀ b ∈ rest.take n, b.toNat ≠ 10) ∧
      ((k = .upper ∨ k = .lower) → t = rest.take n) :=
  have ⟨hn, hle, hb, _, hid⟩ := logosNext_tok h
  ⟨hn, hle, fun b hb' => (hb b hb').2, hid⟩

theorem logosNext_scans {rest : Bytes} {k : Kind} {n : Nat} {t : Bytes}
    (h : logosNext rest = .tok k n t) (pos : Pos) :
    Scans rest pos ⟨⟨k, t, pos, addCol pos n⟩, [], rest.drop n, addCol pos n⟩ :=
  have ⟨hn, hle, hb, hk, hid⟩ := logosNext_tok h
  .of_line hn hle (fun b hb' => (hb b hb').2)
    (fun hv => hv.drop_of_ascii fun b hb' => (hb b hb').1) hid (fun he => absurd he hk)

/-- `Sub` for a whole scanner step -/
def StepOk (rest : Bytes) (pos : Pos) : Step → Prop
  | .eof => True
  | .panic => ¬ Valid rest
  | .tok s => Scans rest pos s

theorem StepOk.ofTry {rest : Bytes} {pos : Pos} {t : Try Scanned} {o : Step}
    (ht : Sub rest pos t) (ho : t = .no → StepOk rest pos o) : StepOk rest pos (ofTry t o) := by
  cases t with
  | no => exact ho rfl
  | panic => exact ht
  | yes s => exact ht

/-- One `next_token` call, relative to the input behind the skipped whitespace: the first sub-lexer
that answers decides, each is held to `Sub`, the logos token to `logosNext_scans`. -/
theorem nextRaw_ok (input : Bytes) (pos0 : Pos) :
    StepOk (input.drop (run isAsciiWs input)) (wsPos input pos0) (nextRaw input pos0) := by
  unfold nextRaw
  dsimp only
  have hhead := drop_run_head isAsciiWs input
  split
  · rename_i hb
    intro hv
    rw [bump_of_valid_drop (run_le _ _) hv] at hb
    cases hb
  · rename_i rest hb
    cases bump_eq hb
    generalize input.drop (run isAsciiWs input) = rest at hhead ⊢
    generalize wsPos input pos0 = pos
    refine .ofTry (lexStrLit_sub ..) fun _ => .ofTry (lexLineComment_sub ..) fun _ =>
      .ofTry (lexBlockComment_sub ..) fun _ => ?_
    split
    · trivial
    · rename_i hne
      split
      · -- error token: the first byte of `rest` is not whitespace
        rcases hhead with rfl | ⟨b, tl, rfl, hb⟩
        · cases hne rfl
        · exact .ofTry (lexError_sub hb pos) fun h => absurd h (lexError_ne_no _ _)
      · rename_i hl
        exact logosNext_scans hl pos

theorem nextRaw_tok {input : Bytes} {pos0 : Pos} {s : Scanned} (h : nextRaw input pos0 = .tok s) :
    Scans (input.drop (run isAsciiWs input)) (wsPos input pos0) s := by
  have := nextRaw_ok input pos0
  rwa [h] at this

/-- **one scanner step tracks positions exactly**: `nextRaw` skips `k1` bytes of whitespace and then
consumes a token of `k2 - k1 ≥ 1` bytes; the token's start and end are the ground-truth positions
of the offsets `k1` and `k2`. -/
theorem nextRaw_spec {input : Bytes} {pos0 : Pos} {s : Scanned} (h : nextRaw input pos0 = .tok s) :
    ∃ k1 k2, k1 < k2 ∧ k2 ≤ input.length ∧ s.rest = input.drop k2 ∧
      s.tok.start = advanceAll pos0 (input.take k1) ∧ s.tok.stop = advanceAll pos0 (input.take k2) ∧
      s.pos = s.tok.stop ∧
      ((s.tok.kind = .upper ∨ s.tok.kind = .lower) →
        s.tok.text = (input.drop k1).take (k2 - k1) ∧ s.tok.stop = addCol s.tok.start (k2 - k1)) := by
  obtain ⟨⟨n, hn0, hnl, hr, hst, hsp, hp, hid⟩, -, -⟩ := nextRaw_tok h
  rw [wsPos_exact] at hst hsp hid
  have hk := run_le isAsciiWs input
  generalize run isAsciiWs input = k at *
  rw [List.length_drop] at hnl
  refine ⟨k, k + n, by omega, by omega, by rw [hr, List.drop_drop], hst, ?_, hp, ?_⟩
  · rw [hsp, advanceAll_take_add]
  · rw [Nat.add_sub_cancel_left, hst]
    exact hid

theorem nextRaw_safe (input : Bytes) (pos0 : Pos) (h : Valid input) :
    nextRaw input pos0 ≠ .panic ∧ ∀ s, nextRaw input pos0 = .tok s → Valid s.rest := by
  have hv : Valid (input.drop (run isAsciiWs input)) :=
    h.drop_of_ascii fun b hb => isAsciiWs_lt (run_all _ _ b hb)
  refine ⟨fun hp => ?_, fun s hs => (nextRaw_tok hs).valid hv⟩
  have := nextRaw_ok input pos0
  rw [hp] at this
  exact this hv

theorem posOf_take_add (doc : Bytes) (o k : Nat) :
    posOf (doc.take (o + k)) = advanceAll (posOf (doc.take o)) ((doc.drop o).take k) :=
  advanceAll_take_add ..

/-- The tokens `ts` sit in `doc` at strictly increasing, non-overlapping byte ranges `[a, b)` at or
after offset `o`; each token's `start`/`stop` are the ground-truth positions of `a` and `b`; an
identifier token's text is exactly the bytes of its range and its span stays on one line with
length = name length. -/
def TokensAt (doc : Bytes) : Nat → List Token → Prop
  | _, [] => True
  | o, t :: ts => ∃ a b, o ≤ a ∧ a < b ∧ b ≤ doc.length ∧
      t.start = posOf (doc.take a) ∧ t.stop = posOf (doc.take b) ∧
      ((t.kind = .upper ∨ t.kind = .lower) →
        t.text = (doc.drop a).take (b - a) ∧ t.stop = addCol t.start t.text.length) ∧
      TokensAt doc b ts

theorem rawLoop_tracked (doc : Bytes) (fuel o : Nat) (ho : o ≤ doc.length) :
    TokensAt doc o (rawLoop fuel (doc.drop o) (posOf (doc.take o))).toks := by
  induction fuel generalizing o with
  | zero => trivial
  | succ fuel ih =>
    unfold rawLoop
    split
    · trivial
    · trivial
    · rename_i s hs
      obtain ⟨k1, k2, hlt, hle, hrest, hstart, hstop, hpos, hid⟩ := nextRaw_spec hs
      rw [List.length_drop] at hle
      rw [← posOf_take_add] at hstart hstop
      have hb : o + k2 ≤ doc.length := by omega
      refine ⟨o + k1, o + k2, Nat.le_add_right .., by omega, hb, hstart, hstop, fun hk => ?_, ?_⟩
      · obtain ⟨ht, hs'⟩ := hid hk
        rw [List.drop_drop] at ht
        rw [Nat.add_sub_add_left]
        refine ⟨ht, ?_⟩
        rw [hs', ht, List.length_take, List.length_drop]
        congr 1; omega
      · rw [hrest, List.drop_drop, hpos, hstop]
        exact ih (o + k2) hb

end SamVerif.Lexer
