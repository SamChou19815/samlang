import SamVerif.Model.TailRec
/-! C01 / K3: sequential vs parallel loop-variable update; one activation of the recursive function
vs one iteration of the rewritten loop. -/
namespace SamVerif.TailRec
open SamVerif.Opt (Op)

theorem seqAssign_notin (env : Env) (pairs : List (Name × Expr)) (x : Name)
    (h : x ∉ pairs.map Prod.fst) : seqAssign env pairs x = env x := by
  induction pairs generalizing env with
  | nil => rfl
  | cons pa rest ih =>
    obtain ⟨p, a⟩ := pa
    simp at h
    simp only [seqAssign]
    rw [ih]
    · simp [upd, h.1]
    · simpa using h.2

theorem eval_upd_of_ne (env : Env) (p : Name) (v : Int) (b : Expr) (h : b ≠ .var p) :
    b.eval (upd env p v) = b.eval env := by
  cases b with
  | lit n => rfl
  | var x =>
    have : x ≠ p := fun hx => h (by rw [hx])
    simp [Expr.eval, upd, this]

theorem upd_self (env : Env) (p : Name) : upd env p (env p) = env := by
  funext y
  simp only [upd]
  split
  · rename_i h; rw [h]
  · rfl

/-- Sequential loop-variable update = parallel update, when no loop value reads a parameter
already overwritten. -/
theorem seqAssign_eq_par (params : List Name) :
    ∀ (args : List Expr) (env : Env), params.Nodup → args.length = params.length →
      noBackwardRef params args = true →
      params.map (seqAssign env (params.zip args)) = args.map (Expr.eval env) := by
  induction params with
  | nil => intro args env _ hl _; cases args with
    | nil => rfl
    | cons a r => simp at hl
  | cons p ps ih =>
    intro args env hnd hl hs
    cases args with
    | nil => simp at hl
    | cons a rest =>
      -- Head: `p` is not written again (`Nodup`). Tail: the induction hypothesis in the environment after
      -- the first assignment, where the remaining loop values read the same: either `a` is `p` itself
      -- (`upd_self`) or none of them is `p`.
      simp only [List.zip_cons_cons, seqAssign, List.map_cons]
      have hnd' := List.nodup_cons.mp hnd
      simp only [noBackwardRef, Bool.and_eq_true, Bool.or_eq_true] at hs
      have hl' : rest.length = ps.length := by simpa using hl
      have hhead : seqAssign (upd env p (a.eval env)) (ps.zip rest) p = a.eval env := by
        rw [seqAssign_notin]
        · simp [upd]
        · intro hm
          have : p ∈ ps := by
            have := List.map_fst_zip (l₁ := ps) (l₂ := rest) (by omega)
            rw [this] at hm
            exact hm
          exact hnd'.1 this
      rw [hhead, ih rest _ hnd'.2 hl' hs.2]
      congr 1
      apply List.map_congr_left
      intro b hb
      cases hs.1 with
      | inl h =>
        have : a = .var p := by simpa using h
        subst this
        simp only [Expr.eval]
        rw [upd_self]
      | inr h =>
        apply eval_upd_of_ne
        have := (List.all_eq_true.mp h) b hb
        simpa using this

theorem readsOther_false_iff (params : List Name) (args : List Expr) :
    readsOther params args = false ↔
      ∀ (i j : Nat) (x : Name), args[i]? = some (.var x) → params[j]? = some x → i = j := by
  unfold readsOther
  rw [List.any_eq_false]
  constructor
  · intro h i j x hi hj
    have hil : i < args.length := (List.getElem?_eq_some_iff.mp hi).1
    have hjl : j < params.length := (List.getElem?_eq_some_iff.mp hj).1
    have hrow := h i (List.mem_range.mpr hil)
    simp only [hi] at hrow
    rw [Bool.not_eq_true, List.any_eq_false] at hrow
    simpa [hj] using hrow j (List.mem_range.mpr hjl)
  · intro h i hi
    cases ha : args[i]? with
    | none => simp
    | some a =>
      cases a with
      | lit n => simp
      | var x =>
        simp only [Bool.not_eq_true, List.any_eq_false]
        intro j hj
        by_cases hp : params[j]? = some x
        · have := h i j x ha hp
          simp [this]
        · simp [hp]

/-- From the characterisation of `readsOther … = false` (the right-hand side of `readsOther_false_iff`):
a loop value that is a parameter is the parameter of its own position. -/
theorem noBackwardRef_of_char (params : List Name) : ∀ (args : List Expr),
    (∀ (i j : Nat) (x : Name), args[i]? = some (.var x) → params[j]? = some x → i = j) →
    noBackwardRef params args = true := by
  induction params with
  | nil => intro args _; cases args <;> simp [noBackwardRef]
  | cons p ps ih =>
    intro args h
    cases args with
    | nil => simp [noBackwardRef]
    | cons a rest =>
      simp only [noBackwardRef, Bool.and_eq_true, Bool.or_eq_true]
      refine ⟨Or.inr ?_, ih rest ?_⟩
      · rw [List.all_eq_true]
        intro b hb
        obtain ⟨k, hk⟩ := List.getElem?_of_mem hb
        by_cases hbp : b = .var p
        · subst hbp
          have := h (k + 1) 0 p (by simpa using hk) (by simp)
          omega
        · simpa using hbp
      · intro i j x hi hj
        have := h (i + 1) (j + 1) x (by simpa using hi) (by simpa using hj)
        omega

theorem noBackwardRef_of_disjoint (params : List Name) (args : List Expr)
    (h : ∀ a ∈ args, ∀ p ∈ params, a ≠ .var p) : noBackwardRef params args = true := by
  apply noBackwardRef_of_char
  intro i j x hi hj
  exact absurd rfl (h (.var x) (List.mem_of_getElem? hi) x (List.mem_of_getElem? hj))

theorem seqAssign_eq_par_of_not_readsOther (params : List Name) (args : List Expr) (env : Env)
    (hnd : params.Nodup) (hl : args.length = params.length) (hro : readsOther params args = false) :
    params.map (seqAssign env (params.zip args)) = args.map (Expr.eval env) :=
  seqAssign_eq_par params args env hnd hl
    (noBackwardRef_of_char params args ((readsOther_false_iff params args).mp hro))

/-- Outcomes of one activation of the recursive function vs one iteration of the loop body. -/
inductive Rel : Option Walk → Option LWalk → Prop where
  | trap : Rel none none
  | value (v : Int) : Rel (some (.value v)) (some (.brk v))
  | vals (vs : List Int) : Rel (some (.again vs)) (some (.nextVals vs))
  | exprs (env : Env) (args : List Expr) :
      Rel (some (.again (args.map (Expr.eval env)))) (some (.next env args))

theorem rw_none_walk (ev : Op → Int → Int → Option Int) (b : Body) :
    ∀ (env : Env), rw b = none → ∀ vs, walkRec ev env b ≠ some (.again vs) := by
  -- the cases are those of `rw`, in its order
  fun_induction rw b <;> intro env h vs
  case case1 => simp [walkRec]                                  -- `ret`
  case case2 => cases h                                         -- `tail`: rewritten
  case case3 ih =>                                              -- `bin`
    simp only [walkRec]
    split
    · simp
    · exact ih _ (Option.map_eq_none_iff.mp h) vs
  case case4 he ht iht ihe =>                                   -- `ite`, neither branch rewritten
    simp only [walkRec]
    split
    · exact iht env ht vs
    · exact ihe env he vs
  case case5 | case6 | case7 => cases h                         -- `ite`, a branch rewritten

/-- A branch without tail call, kept as the body of a `SingleIf`, returns or traps (the `match` is
`walkLoop`'s at `sif`). -/
theorem Rel.of_rw_none (ev : Op → Int → Int → Option Int) (t : Body) (env : Env) (h : rw t = none) :
    Rel (walkRec ev env t)
      (match walkRec ev env t with
        | some (.value r) => some (.brk r)
        | _ => none) := by
  cases hw : walkRec ev env t with
  | none => exact Rel.trap
  | some w =>
    cases w with
    | value r => exact Rel.value r
    | again vs => exact absurd hw (rw_none_walk ev t env h vs)

/-- Behind a `merge` the loop values have gone through the final assignments (the `match` is
`walkLoop`'s at `merge`). -/
theorem Rel.merge {a : Option Walk} {b : Option LWalk} :
    Rel a b → Rel a
      (match b with
        | none => none
        | some (.brk v) => some (.brk v)
        | some (.next env' args) => some (.nextVals (args.map (Expr.eval env')))
        | some (.nextVals vs) => some (.nextVals vs)) := by
  intro r
  cases r with
  | trap => exact Rel.trap
  | value v => exact Rel.value v
  | vals vs => exact Rel.vals vs
  | exprs env' args => exact Rel.vals _

theorem walk_rel (ev : Op → Int → Int → Option Int) (b : Body) :
    ∀ (l : LBody) (env : Env), rw b = some l → Rel (walkRec ev env b) (walkLoop ev env l) := by
  -- the cases are those of `rw`, in its order; `ht`, `he` say how `rw` fared on the branches of an `ite`
  fun_induction rw b <;> intro l env h
  case case1 => cases h                                         -- `ret`: not rewritten
  case case2 => cases h; exact Rel.exprs env _                  -- `tail`
  case case3 ih =>                                              -- `bin`
    obtain ⟨k', hk, rfl⟩ := Option.map_eq_some_iff.mp h
    simp only [walkRec, walkLoop]
    split
    · exact Rel.trap
    · exact ih k' _ hk
  case case4 => cases h                                         -- `(Err, Err)`: not rewritten
  case case5 c t e l2 he ht iht ihe =>                          -- `(Err, Ok)`: `SingleIf c { t; Break }`, then `e` rewritten
    cases h
    simp only [walkRec, walkLoop]
    by_cases hc : c.eval env ≠ 0
    · rw [if_pos hc, if_pos (by simpa using hc)]
      exact Rel.of_rw_none ev t env ht
    · rw [if_neg hc, if_neg (by simpa using hc)]
      exact ihe l2 env he
  case case6 c t e l1 he ht iht ihe =>                          -- `(Ok, Err)`: `SingleIf !c { e; Break }`, then `t` rewritten
    cases h
    simp only [walkRec, walkLoop]
    by_cases hc : c.eval env ≠ 0
    · rw [if_pos hc, if_neg (by simpa using hc)]
      exact iht l1 env ht
    · rw [if_neg hc, if_pos (by simpa using hc)]
      exact Rel.of_rw_none ev e env he
  case case7 c t e l1 l2 he ht iht ihe =>                       -- `(Ok, Ok)`: both rewritten, values through temporaries
    cases h
    simp only [walkRec, walkLoop]
    by_cases hc : c.eval env ≠ 0
    · rw [if_pos hc, if_pos hc]
      exact (iht l1 env ht).merge
    · rw [if_neg hc, if_neg hc]
      exact (ihe l2 env he).merge

end SamVerif.TailRec
