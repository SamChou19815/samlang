import SamVerif.Model.CommentText
/-! `trim` of blank-joined words with blanks around them (`trim_pad_joinSp`), for the comment-text
part of `Props/C09.lean`. -/
namespace SamVerif.CommentText
open SamVerif.Doc (isWs)

theorem dropWhile_replicate_sp (n : Nat) (s : Str) :
    (List.replicate n ' ' ++ s).dropWhile isWs = s.dropWhile isWs := by
  induction n with
  | zero => rfl
  | succ k ih =>
    have h : isWs ' ' = true := by decide
    simp [List.replicate_succ, h, ih]

theorem trimStart_of_head (c : Char) (s : Str) (h : isWs c = false) : trimStart (c :: s) = c :: s := by
  simp [trimStart, List.dropWhile, h]

theorem trimEnd_of_last (s : Str) (c : Char) (h : isWs c = false) : trimEnd (s ++ [c]) = s ++ [c] := by
  simp [trimEnd, h]

theorem joinSp_head (w : Str) (ws : List Str) (hw : Word w) :
    ∃ c r, joinSp (w :: ws) = c :: r ∧ isWs c = false := by
  obtain ⟨hne, hc⟩ := hw
  cases w with
  | nil => exact absurd rfl hne
  | cons c r =>
    cases ws with
    | nil => exact ⟨c, r, rfl, hc c (by simp)⟩
    | cons y rest => exact ⟨c, r ++ ' ' :: joinSp (y :: rest), by simp [joinSp], hc c (by simp)⟩

theorem joinSp_last (ws : List Str) (hne : ws ≠ []) (hw : ∀ w ∈ ws, Word w) :
    ∃ r c, joinSp ws = r ++ [c] ∧ isWs c = false := by
  fun_induction joinSp ws with
  | case1 => exact absurd rfl hne
  | case2 w =>
    obtain ⟨hwne, hc⟩ := hw w (.head _)
    exact ⟨w.dropLast, w.getLast hwne, (List.dropLast_concat_getLast hwne).symm,
      hc _ (List.getLast_mem hwne)⟩
  | case3 w y ys ih =>
    obtain ⟨r, c, hr, hc⟩ := ih (List.cons_ne_nil _ _) fun x hx => hw x (.tail _ hx)
    exact ⟨w ++ ' ' :: r, c, by rw [hr, List.append_assoc]; rfl, hc⟩

/-- Blanks around the blank-joined words are all that `trim` removes: the words begin and end
with a non-whitespace character. -/
theorem trim_pad_joinSp (n m : Nat) (ws : List Str) (hne : ws ≠ []) (hw : ∀ w ∈ ws, Word w) :
    trim (List.replicate n ' ' ++ joinSp ws ++ List.replicate m ' ') = joinSp ws := by
  cases ws with
  | nil => exact absurd rfl hne
  | cons w rest =>
    obtain ⟨c, r, hj, hc⟩ := joinSp_head w rest (hw w (.head _))
    obtain ⟨r', c', hj', hc'⟩ := joinSp_last (w :: rest) hne hw
    have h1 : trimStart (List.replicate n ' ' ++ joinSp (w :: rest) ++ List.replicate m ' ') =
        joinSp (w :: rest) ++ List.replicate m ' ' := by
      rw [List.append_assoc, trimStart, dropWhile_replicate_sp, hj]
      exact trimStart_of_head c _ hc
    rw [trim, h1, hj', trimEnd, List.reverse_append, List.reverse_replicate, dropWhile_replicate_sp]
    exact trimEnd_of_last r' c' hc'

theorem trim_sp_joinSp (ws : List Str) (hne : ws ≠ []) (hw : ∀ w ∈ ws, Word w) :
    trim (' ' :: joinSp ws) = joinSp ws := by
  have := trim_pad_joinSp 1 0 ws hne hw
  rwa [List.replicate_zero, List.append_nil] at this

end SamVerif.CommentText
