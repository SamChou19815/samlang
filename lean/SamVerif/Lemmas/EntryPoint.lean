import SamVerif.Model.EntryPoint
/-! Totality of type rewriting when every free type variable has a replacement (C05 entry points). -/
namespace SamVerif.EntryPoint

mutual
theorem substOpt_total (m : List (Nat × Ty)) (t : Ty)
    (h : ∀ v ∈ freeVars t, (m.find? (·.1 == v)).isSome) : (substOpt m t).isSome := by
  match t with
  | .prim => rfl
  | .generic v =>
    rw [substOpt, Option.isSome_map]
    exact h v (List.mem_singleton.mpr rfl)
  | .nominal args =>
    rw [substOpt, Option.isSome_map]
    exact substOptL_total m args h
  | .fn args ret =>
    rw [freeVars] at h
    obtain ⟨a, ha⟩ := Option.isSome_iff_exists.mp
      (substOptL_total m args fun v hv => h v (List.mem_append_left _ hv))
    obtain ⟨r, hr⟩ := Option.isSome_iff_exists.mp
      (substOpt_total m ret fun v hv => h v (List.mem_append_right _ hv))
    rw [substOpt, ha, hr]
    rfl
theorem substOptL_total (m : List (Nat × Ty)) (ts : List Ty)
    (h : ∀ v ∈ freeVarsL ts, (m.find? (·.1 == v)).isSome) : (substOptL m ts).isSome := by
  match ts with
  | [] => rfl
  | t :: rest =>
    rw [freeVarsL] at h
    obtain ⟨a, ha⟩ := Option.isSome_iff_exists.mp
      (substOpt_total m t fun v hv => h v (List.mem_append_left _ hv))
    obtain ⟨r, hr⟩ := Option.isSome_iff_exists.mp
      (substOptL_total m rest fun v hv => h v (List.mem_append_right _ hv))
    rw [substOptL, ha, hr]
    rfl
end

end SamVerif.EntryPoint
