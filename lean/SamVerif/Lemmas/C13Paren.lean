import SamVerif.Lemmas.Fmt
/-!
For C13 (parentheses in operand position): the instance of `frame` at a continuation that starts
with `)`, where the loops of all levels stop.
-/
namespace SamVerif.Fmt

theorem ptop_append_rp {f : Nat} {ts : List Tok} {e : Expr} {r : List Tok}
    (h : parseTop f ts = some (e, r)) (T : List Tok) : PTop f (ts ++ .rp :: T) e (r ++ .rp :: T) :=
  (frame (stopsAbove_rp 0 T) f).top h

end SamVerif.Fmt
