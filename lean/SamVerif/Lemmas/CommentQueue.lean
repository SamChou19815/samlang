import SamVerif.Model.CommentQueue
/-! `remaining`, the comments not yet handed out, and what the operations of the queue do to it. -/
namespace SamVerif.CommentQueue

theorem drain_comments (r : List RawTok) (pend : List Comment) :
    (drain r pend).2.2 ++ commentsOf (drain r pend).2.1 = pend ++ commentsOf r := by
  fun_induction drain r pend with
  | case1 pend => rfl
  | case2 c r pend ih => rw [ih, commentsOf, List.append_assoc]; rfl
  | case3 t r pend => rfl

/-- The comments not yet handed out: pending ones, then those still in the stream. -/
def remaining (st : State) : List Comment := st.pending ++ commentsOf st.rest

theorem peek_remaining (st : State) : remaining (peek st).1 = remaining st := by
  unfold peek
  split
  · rfl
  · simp only [remaining]
    exact drain_comments st.rest st.pending

theorem consume_remaining (st : State) :
    (consume st).2 ++ remaining (consume st).1 = remaining st := by
  have h := peek_remaining st
  simp only [consume, remaining] at h ⊢
  simpa using h

/-- `peek_remaining` and `consume_remaining` in the form in which the model's
`let (st', cs) := consume st` hands them to an induction over `run` or `parseList`. -/
theorem peek_eq {st st' : State} {t : PTok} (h : peek st = (st', t)) :
    remaining st' = remaining st := by
  rw [← peek_remaining st, h]

theorem consume_eq {st st' : State} {cs : List Comment} (h : consume st = (st', cs)) :
    cs ++ remaining st' = remaining st := by
  rw [← consume_remaining st, h]

theorem run_conserves (ops : List Op) (st : State) :
    (run ops st).2.flatten ++ remaining (run ops st).1 = remaining st := by
  fun_induction run ops st with
  | case1 => exact List.nil_append _
  | case2 ops st ih => exact ih.trans (peek_remaining st)
  | case3 ops st st1 cs h st2 out h' ih =>
    rw [h'] at ih
    rw [List.flatten_cons, List.append_assoc, ih]
    exact consume_eq h

theorem pushBack_remaining (cs : List Comment) (st : State) :
    remaining (pushBack cs st) = cs ++ remaining st := by
  simp [pushBack, remaining]

/-- handed-out comments of the elements -/
def elemComments (es : List (Str × List Comment)) : List Comment := es.flatMap (·.2)

theorem elemComments_nil : elemComments [] = [] := rfl

/-- `parseList` collects the elements in reverse: a new head is the last element handed out. -/
theorem elemComments_reverse_cons (acc : List (Str × List Comment)) (x : Str × List Comment) :
    elemComments (x :: acc).reverse = elemComments acc.reverse ++ x.2 := by
  simp [elemComments]

theorem parseList_conserves (endTok : Str) (fuel : Nat) (st : State) (extra : List Comment)
    (acc : List (Str × List Comment)) :
    elemComments (parseList endTok fuel st extra acc).2.1 ++ (parseList endTok fuel st extra acc).2.2 ++
        remaining (parseList endTok fuel st extra acc).1 =
      elemComments acc.reverse ++ extra ++ remaining st := by
  -- Every exit has handed `extra ++ cs` to the element. It is enough that the comments handed out
  -- after it (`X`) and those left (`S`) are what was left after the element.
  have key {st st0 st1 : State} {t cs extra acc} (h0 : peek st = (st0, t)) (h1 : consume st0 = (st1, cs))
      (name X S) (hX : X ++ remaining S = remaining st1) :
      elemComments ((name, extra ++ cs) :: acc).reverse ++ X ++ remaining S =
        elemComments acc.reverse ++ extra ++ remaining st := by
    rw [elemComments_reverse_cons, ← peek_eq h0, ← consume_eq h1, ← hX]
    simp only [List.append_assoc]
  -- a comma, whose comments `ccs` are consumed, and the `peek` behind it
  have comma {st1 st2 : State} {ccs} (h2 : consume (peek st1).1 = (st2, ccs)) :
      ccs ++ remaining (peek st2).1 = remaining st1 :=
    (congrArg (ccs ++ ·) (peek_remaining st2)).trans ((consume_eq h2).trans (peek_remaining st1))
  fun_induction parseList endTok fuel st extra acc with
  | case1 => rfl
  | case2 fuel st extra acc st0 t h0 st1 cs h1 name acc' st2 ccs h2 st3 ecs h3 =>
    -- `elem , end`: the comma's comments are pushed back and go to the closing token
    exact key h0 h1 _ _ _ ((consume_eq h3).trans ((pushBack_remaining ccs _).trans (comma h2)))
  | case3 fuel st extra acc st0 t h0 st1 cs h1 name acc' st2 ccs h2 s _ _ _ ih =>
    -- `elem , elem …`: they go to the next element
    exact ih.trans (key h0 h1 _ _ _ (comma h2))
  | case4 fuel st extra acc st0 t h0 st1 cs h1 name acc' st2 ccs h2 =>  -- `elem ,` and the input ends
    exact key h0 h1 _ _ _ (comma h2)
  | case5 fuel st extra acc st0 t h0 st1 cs h1 name acc' st3 ecs h3 =>  -- `elem end`
    exact key h0 h1 _ _ _ ((consume_eq h3).trans (peek_remaining _))
  | case6 fuel st extra acc st0 t h0 st1 cs h1 =>  -- `elem` and a token that is neither
    exact key h0 h1 _ [] _ (peek_remaining _)
  | case7 fuel st extra acc st0 t h0 st1 cs h1 =>  -- `elem` and the input ends
    exact key h0 h1 _ [] _ (peek_remaining _)

end SamVerif.CommentQueue
