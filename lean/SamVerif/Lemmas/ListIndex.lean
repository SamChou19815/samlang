/-! Two facts about reading a list behind which elements have been appended. The enum layout (C01,
C04c), the interning heap (C17) and the `Vec` runtimes (C04b) all grow a table at its end and ask
what an index finds afterwards. -/
namespace SamVerif

theorem getElem?_snoc_eq_some {α : Type} {l : List α} {a b : α} {i : Nat} :
    (l ++ [a])[i]? = some b ↔ l[i]? = some b ∨ (i = l.length ∧ a = b) := by
  rcases Nat.lt_trichotomy i l.length with h | h | h
  · rw [List.getElem?_append_left h]
    exact ⟨Or.inl, fun h' => h'.elim id fun e => absurd e.1 (Nat.ne_of_lt h)⟩
  · subst h
    rw [List.getElem?_concat_length, List.getElem?_eq_none (Nat.le_refl _)]
    exact ⟨fun e => Or.inr ⟨rfl, Option.some.inj e⟩, fun h' => h'.elim nofun fun e => e.2 ▸ rfl⟩
  · rw [List.getElem?_eq_none (by simp; omega), List.getElem?_eq_none (Nat.le_of_lt h)]
    exact ⟨nofun, fun h' => h'.elim nofun fun e => absurd e.1 (Nat.ne_of_gt h)⟩

theorem getElem?_append_of_some {α : Type} {l : List α} {i : Nat} {x : α} (e : List α)
    (h : l[i]? = some x) : (l ++ e)[i]? = some x := by
  rw [List.getElem?_append_left (List.getElem?_eq_some_iff.mp h).1, h]

end SamVerif
