import SamVerif.Lemmas.Useful
/-! The source→abstract normalisation (`check_matching_pattern`) always yields abstract patterns that
are well-typed for the scrutinee type — so the typing hypotheses of the theorems in `Props/C07.lean`
hold for *every* program the checker analyses, including ill-formed patterns ("bad patterns default"):
`normalize_typed` with its three list companions, and `normTuple_pats_eq`, the columns of a tuple node
of full length.  Before them what `fieldIndex` returns (`fieldIndex_get` and its corollaries, also
used by `Lemmas/UsefulSem.lean` and `Props/C07.lean`).  At the end, soundness of the computed checks
on a definition table (`cxOk_of_check`, `sigNodup_of_check`). -/
namespace SamVerif.Useful

theorem patTy_badDefault (sig : Sig) (w : Bool) (t : Nat) : patTy sig (badDefault w) t = true := by
  cases w <;> simp [badDefault, patTy, patTyAll]

theorem patTy_mkOr (sig : Sig) (t : Nat) : ∀ (ps : List Pat), (∀ p ∈ ps, patTy sig p t = true) →
    patTy sig (mkOr ps) t = true := by
  intro ps
  fun_cases mkOr ps with
  | case1 => intro _; rfl
  | case2 p => intro h; exact h p List.mem_cons_self
  | case3 ps h1 h2 => intro h; rw [patTy]; exact (patTyAll_iff sig _ t).mpr h

theorem patTys_set (sig : Sig) (acc : List Pat) (ts : List Nat) (i : Nat) (p : Pat)
    (h : patTys sig acc ts = true) (hp : ∀ t, ts[i]? = some t → patTy sig p t = true) :
    patTys sig (acc.set i p) ts = true := by
  induction acc generalizing ts i with
  | nil => exact h
  | cons a acc ih =>
    cases ts with
    | nil => rw [patTys] at h; cases h
    | cons t ts =>
      rw [patTys, Bool.and_eq_true] at h
      cases i with
      | zero => rw [List.set_cons_zero, patTys, hp t rfl, h.2]; rfl
      | succ i => rw [List.set_cons_succ, patTys, h.1, ih ts i h.2 hp]; rfl

theorem fieldIndex_go_get (name : Nat) (fs : List (Nat × Nat)) (k i t : Nat) :
    fieldIndex.go name fs k = some (i, t) → ∃ j, i = k + j ∧ fs[j]? = some (name, t) := by
  fun_induction fieldIndex.go name fs k with
  | case1 => intro h; cases h
  | case2 t' rest k => intro h; cases h; exact ⟨0, rfl, rfl⟩
  | case3 n t' rest k e ih =>
    intro h
    obtain ⟨j, rfl, hg⟩ := ih h
    exact ⟨j + 1, by rw [Nat.add_assoc, Nat.add_comm 1], hg⟩

theorem fieldIndex_get {fs : List (Nat × Nat)} {name i t : Nat} (h : fieldIndex fs name = some (i, t)) :
    fs[i]? = some (name, t) := by
  obtain ⟨j, rfl, hg⟩ := fieldIndex_go_get name fs 0 i t h
  rw [Nat.zero_add]; exact hg

theorem fieldIndex_some {fs : List (Nat × Nat)} {name i t : Nat} (h : fieldIndex fs name = some (i, t)) :
    (fs.map (·.2))[i]? = some t := by
  rw [List.getElem?_map, fieldIndex_get h]; rfl

theorem fieldIndex_lt {fs : List (Nat × Nat)} {name i t : Nat} (h : fieldIndex fs name = some (i, t)) :
    i < fs.length :=
  (List.getElem?_eq_some_iff.mp (fieldIndex_get h)).1

theorem fieldIndex_inj {fs : List (Nat × Nat)} {n1 n2 i t1 t2 : Nat}
    (h1 : fieldIndex fs n1 = some (i, t1)) (h2 : fieldIndex fs n2 = some (i, t2)) : n1 = n2 := by
  have := (fieldIndex_get h1).symm.trans (fieldIndex_get h2)
  cases this; rfl

theorem patTys_wilds_n (sig : Sig) (ts : List Nat) (n : Nat) (h : n = ts.length) :
    patTys sig (wilds n) ts = true := by subst h; exact patTys_wilds sig ts

theorem patTys_pad (sig : Sig) (ps : List Pat) (k : Nat) (tys : List Nat)
    (h : patTys sig ps (tys.take k) = true) :
    patTys sig (ps ++ wilds (tys.length - k)) tys = true := by
  have := patTys_append h (patTys_wilds_n sig (tys.drop k) (tys.length - k) (by simp))
  rwa [List.take_append_drop] at this

/-- typed at `ty`; at `any` (`none`) the node is typed at every type -/
def NormTyped (sig : Sig) (p : Pat) (ty : Option Nat) : Prop :=
  match ty with
  | some t => patTy sig p t = true
  | none => ∀ t, patTy sig p t = true

mutual
theorem normalize_typed (sig : Sig) (w : Bool) : ∀ (p : SPat) (ty : Option Nat),
    NormTyped sig (normalize sig w p ty).pat ty
  | .id _, ty => by cases ty <;> simp [NormTyped, normalize, patTy]
  | .wild, ty => by cases ty <;> simp [NormTyped, normalize, patTy]
  | .tuple ps, ty => by
    cases ty with
    | none => intro t; simp [normalize, sigAt, patTy_badDefault]
    | some t =>
      simp only [NormTyped, normalize, sigAt]
      cases hs : sig t with
      | prim => simp [patTy_badDefault]
      | enum c vs => simp [patTy_badDefault]
      | struct fs =>
        simp only [patTy, ctorFields, hs]
        have := normTuple_typed sig w ps (fs.map (·.2))
        have h2 := patTys_pad sig _ ps.length _ this
        simpa using h2
  | .object names es, ty => by
    cases ty with
    | none => intro t; simp [normalize, sigAt, patTy_badDefault]
    | some t =>
      simp only [NormTyped, normalize, sigAt]
      cases hs : sig t with
      | prim => simp [patTy_badDefault]
      | enum c vs => simp [patTy_badDefault]
      | struct fs =>
        simp only [patTy, ctorFields, hs]
        exact normObject_typed sig w fs es names (wilds fs.length)
          (patTys_wilds_n sig _ _ (by simp))
  | .variant tag ps, ty => by
    cases ty with
    | none => intro t; simp [normalize, sigAt, patTy_badDefault]
    | some t =>
      simp only [NormTyped, normalize, sigAt]
      cases hs : sig t with
      | prim => simp [patTy_badDefault]
      | struct fs => simp [patTy_badDefault]
      | enum c vs =>
        simp only
        cases hf : findVariant vs tag with
        | none => simp [patTy, patTyAll]
        | some tys =>
          simp only [patTy, ctorFields, hs, if_true, hf]
          exact patTys_pad sig _ ps.length _ (normTuple_typed sig w ps tys)
  | .or ps, ty => by
    have hall := normAll_typed sig w ps ty
    simp only [normalize]
    cases ty with
    | none =>
      intro t
      split
      · exact patTy_badDefault sig w t
      · exact patTy_mkOr sig t _ (fun p hp => hall p hp t)
    | some t =>
      simp only [NormTyped]
      split
      · exact patTy_badDefault sig w t
      · exact patTy_mkOr sig t _ (fun p hp => hall p hp)
theorem normTuple_typed (sig : Sig) (w : Bool) : ∀ (ps : List SPat) (tys : List Nat),
    patTys sig (normTuple sig w ps tys).pats (tys.take ps.length) = true
  | [], tys => by simp [normTuple, patTys]
  | p :: ps, [] => by
    have := normTuple_typed sig w ps []
    simpa [normTuple] using this
  | p :: ps, t :: ts => by
    have h1 := normalize_typed sig w p (some t)
    have h2 := normTuple_typed sig w ps ts
    simp only [NormTyped] at h1
    simp [normTuple, patTys, h1, h2]
theorem normObject_typed (sig : Sig) (w : Bool) (fs : List (Nat × Nat)) :
    ∀ (es : List SPat) (names : List Nat) (acc : List Pat), patTys sig acc (fs.map (·.2)) = true →
      patTys sig (normObject sig w fs es names acc).pats (fs.map (·.2)) = true
  | [], _, acc, h => by simpa [normObject] using h
  | _ :: _, [], acc, h => by simpa [normObject] using h
  | p :: es, name :: names, acc, h => by
    simp only [normObject]
    cases hf : fieldIndex fs name with
    | none =>
      simp only
      have h1 := normalize_typed sig w p none
      exact normObject_typed sig w fs es names _ (patTys_set sig acc _ 0 _ h (fun t _ => h1 t))
    | some it =>
      obtain ⟨i, t⟩ := it
      simp only
      have h1 := normalize_typed sig w p (some t)
      have hi := fieldIndex_some hf
      exact normObject_typed sig w fs es names _ (patTys_set sig acc _ i _ h (fun t' ht' => by
        rw [hi] at ht'; cases ht'; exact h1))
theorem normAll_typed (sig : Sig) (w : Bool) : ∀ (ps : List SPat) (ty : Option Nat),
    ∀ q ∈ (normAll sig w ps ty).pats, NormTyped sig q ty
  | [], _ => by simp [normAll]
  | p :: ps, ty => by
    intro q hq
    simp only [normAll, List.mem_cons] at hq
    rcases hq with hq | hq
    · rw [hq]; exact normalize_typed sig w p ty
    · exact normAll_typed sig w ps ty q hq
end

theorem normTuple_pats_eq (sig : Sig) (w : Bool) : ∀ (ps : List SPat) (tys : List Nat),
    ps.length = tys.length →
    (normTuple sig w ps tys).pats = List.zipWith (fun p t => (normalize sig w p (some t)).pat) ps tys
  | [], [], _ => by simp [normTuple]
  | p :: ps, t :: ts, h => by
    simp [normTuple, normTuple_pats_eq sig w ps ts (by simpa using h)]
  | [], _ :: _, h => by simp at h
  | _ :: _, [], h => by simp at h

theorem cxOk_of_check (defs : List Def) (h : cxOkCheck defs = true) : CxOk (sigOfTable defs) (cxOf defs) := by
  intro t cls vs hs
  by_cases ht : t < defs.length
  · simp only [cxOkCheck, List.all_eq_true, List.mem_range] at h
    have := h t ht
    simpa [hs] using this
  · rw [sigOfTable_ge defs t ht] at hs; cases hs

theorem nodup_of_nodupNatL : ∀ (l : List Nat), nodupNatL l = true → l.Nodup
  | [], _ => List.nodup_nil
  | x :: xs, h => by
    simp only [nodupNatL, Bool.and_eq_true, Bool.not_eq_true'] at h
    refine List.nodup_cons.mpr ⟨?_, nodup_of_nodupNatL xs h.2⟩
    intro hm
    have : xs.contains x = true := by simpa using hm
    rw [h.1] at this; cases this

theorem sigNodup_of_check (defs : List Def) (h : nodupCheck defs = true) : SigNodup (sigOfTable defs) := by
  intro t cls vs hs
  by_cases ht : t < defs.length
  · simp only [nodupCheck, List.all_eq_true, List.mem_range] at h
    have := h t ht
    simp only [hs] at this
    exact nodup_of_nodupNatL _ this
  · rw [sigOfTable_ge defs t ht] at hs; cases hs

end SamVerif.Useful
