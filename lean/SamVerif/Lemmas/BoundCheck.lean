import SamVerif.Model.BoundCheck
/-! C03 §6: `validateFrom` reports exactly the bounded positions whose argument fails the bound. -/
namespace SamVerif.BoundCheck

theorem validateFrom_iff (sat : Nat → Nat → Bool) : ∀ (ps : List (Option Nat)) (as : List Nat) (i k : Nat),
    k ∈ validateFrom sat ps as i ↔
      ∃ j b a, k = i + j ∧ ps[j]? = some (some b) ∧ as[j]? = some a ∧ sat a b = false
  | [], as, i, k => by simp [validateFrom]
  | p :: ps, [], i, k => by simp [validateFrom]
  | p :: ps, a :: as, i, k => by
    -- a failing position is the head, or one more than a failing position of the tails
    have ih := validateFrom_iff sat ps as (i + 1) k
    simp only [Nat.add_right_comm i 1] at ih
    rw [← Nat.or_exists_add_one]
    simp only [List.getElem?_cons_succ, ← Nat.add_assoc]
    rw [← ih]
    cases p with
    | none => simp [validateFrom]
    | some b => cases hs : sat a b <;> simp [validateFrom, hs]

end SamVerif.BoundCheck
