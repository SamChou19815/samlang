import SamVerif.Model.Incremental
/-! What `Props/C10.lean` rests on. The `transitive_set` loop is reachability (`mem_transitiveSet`); under the
hypotheses `Frame`, `LocalW`, `Kinds` on the checker parameter, `recheck` establishes the refinement invariant
`Inv` (`recheck_inv`) from the loop invariant `Prep`, which the loops of all three operations keep.  Beside
that line: the file map follows the file-system view of the history (`sources_run`), `checked_modules` tracks
the sources (`CheckedOk`, loop invariant `CheckedPrep`), the LSP handlers (`glue_file_view`), epochs
(`runE_eq_run`). -/
namespace SamVerif.Incremental

section AList
variable {Mod : Type} [DecidableEq Mod] {α β : Type}

theorem lookup_cons (p : Mod × α) (t : List (Mod × α)) (k : Mod) :
    lookup (p :: t) k = if p.1 = k then some p.2 else lookup t k := rfl

theorem erase_cons (p : Mod × α) (t : List (Mod × α)) (k : Mod) :
    erase (p :: t) k = if p.1 = k then erase t k else p :: erase t k := by
  simp only [erase, List.filter_cons, ne_eq, decide_not, Bool.not_eq_eq_eq_not, Bool.not_true,
    decide_eq_false_iff_not, ite_not]

theorem lookup_erase (l : List (Mod × α)) (k x : Mod) :
    lookup (erase l k) x = if k = x then none else lookup l x := by
  induction l with
  | nil => exact (ite_self _).symm
  | cons p t ih =>
    rw [erase_cons]
    by_cases h : p.1 = k
    · rw [if_pos h, ih, lookup_cons]
      by_cases hx : k = x
      · rw [if_pos hx, if_pos hx]
      · rw [if_neg hx, if_neg hx, if_neg (h ▸ hx)]
    · rw [if_neg h, lookup_cons, lookup_cons, ih]
      by_cases hx : p.1 = x
      · rw [if_pos hx, if_pos hx, if_neg (hx ▸ Ne.symm h)]
      · rw [if_neg hx, if_neg hx]

theorem lookup_insert (l : List (Mod × α)) (k : Mod) (v : α) (x : Mod) :
    lookup (insert l k v) x = if k = x then some v else lookup l x := by
  rw [insert, lookup_cons, lookup_erase]
  by_cases h : k = x
  · rw [if_pos h, if_pos h]
  · rw [if_neg h, if_neg h, if_neg h]

theorem lookup_eq_none_iff (l : List (Mod × α)) (k : Mod) : lookup l k = none ↔ k ∉ keys l := by
  -- the cases of `lookup`: empty list, key at the head, key further down
  fun_induction lookup l k with
  | case1 => exact ⟨fun _ h => (nomatch h), fun _ => rfl⟩
  | case2 v t => exact ⟨fun h' => (nomatch h'), fun h' => absurd List.mem_cons_self h'⟩
  | case3 k' v t h ih =>
    rw [ih, keys, keys, List.map_cons, List.mem_cons, not_or]
    exact ⟨fun h' => ⟨fun e => h e.symm, h'⟩, fun h' => h'.2⟩

theorem mem_keys_of_lookup {l : List (Mod × α)} {k : Mod} {v : α} (h : lookup l k = some v) :
    k ∈ keys l :=
  Decidable.of_not_not fun hn => nomatch ((lookup_eq_none_iff l k).mpr hn).symm.trans h

theorem lookup_some_of_mem_keys {l : List (Mod × α)} {k : Mod} (h : k ∈ keys l) :
    ∃ v, lookup l k = some v :=
  Option.ne_none_iff_exists'.mp fun hn => (lookup_eq_none_iff l k).mp hn h

theorem lookup_map_val (l : List (Mod × α)) (f : Mod → α → β) (x : Mod) :
    lookup (l.map (fun p => (p.1, f p.1 p.2))) x = (lookup l x).map (f x) := by
  fun_induction lookup l x with
  | case1 => rfl
  | case2 v t => exact if_pos rfl
  | case3 k' v t h ih => exact (if_neg h).trans ih

theorem keys_erase (l : List (Mod × α)) (k x : Mod) :
    x ∈ keys (erase l k) ↔ x ∈ keys l ∧ x ≠ k := by
  simp only [keys, erase, List.mem_map, List.mem_filter, decide_eq_true_eq]
  constructor
  · rintro ⟨p, ⟨hp, hne⟩, rfl⟩; exact ⟨⟨p, hp, rfl⟩, hne⟩
  · rintro ⟨⟨p, hp, rfl⟩, hne⟩; exact ⟨p, ⟨hp, hne⟩, rfl⟩

/-- Each key once (what a Rust `HashMap` guarantees). -/
def NodupKeys (l : List (Mod × α)) : Prop := (keys l).Nodup

theorem nodupKeys_erase (l : List (Mod × α)) (k : Mod) (h : NodupKeys l) :
    NodupKeys (erase l k) :=
  List.Nodup.sublist (List.Sublist.map _ List.filter_sublist) h

theorem nodupKeys_insert (l : List (Mod × α)) (k : Mod) (v : α) (h : NodupKeys l) :
    NodupKeys (insert l k v) :=
  List.nodup_cons.mpr ⟨fun hk => ((keys_erase l k k).mp hk).2 rfl, nodupKeys_erase l k h⟩

theorem mem_iff_lookup_of_nodup {l : List (Mod × α)} (h : NodupKeys l) (k : Mod) (v : α) :
    (k, v) ∈ l ↔ lookup l k = some v := by
  -- the cases of `lookup`: empty list, key at the head, key further down
  fun_induction lookup l k with
  | case1 => exact ⟨fun h => (nomatch h), fun h => (nomatch h)⟩
  | case2 w t =>
    rw [List.mem_cons]
    constructor
    · rintro (e | hm)
      · cases e; rfl
      · exact absurd (List.mem_map_of_mem hm : (k, v).1 ∈ keys t) (List.nodup_cons.mp h).1
    · intro hv; exact .inl (by rw [Option.some.inj hv])
  | case3 k' w t hk ih =>
    rw [List.mem_cons, ← ih (List.nodup_cons.mp h).2]
    exact ⟨fun h' => h'.resolve_left fun e => hk (Prod.mk.inj e).1.symm, .inr⟩

theorem lookup_foldl_insert (f : α → β) (U : List (Mod × α)) (hU : NodupKeys U)
    (S : List (Mod × β)) (x : Mod) :
    lookup (U.foldl (fun S p => insert S p.1 (f p.2)) S) x = ((lookup U x).map f).or (lookup S x) := by
  induction U generalizing S with
  | nil => rfl
  | cons p t ih =>
    obtain ⟨hp, ht⟩ := List.nodup_cons.mp hU
    rw [List.foldl_cons, ih ht, lookup_insert, lookup_cons]
    by_cases hk : p.1 = x
    · rw [if_pos hk, if_pos hk, (lookup_eq_none_iff t x).mpr (hk ▸ hp)]; rfl
    · rw [if_neg hk, if_neg hk]

end AList

section Dfs
variable {Mod : Type} [DecidableEq Mod]

inductive Reach (g : Mod → List Mod) : Mod → Mod → Prop
  | refl (a : Mod) : Reach g a a
  | step {a b c : Mod} : b ∈ g a → Reach g b c → Reach g a c

omit [DecidableEq Mod] in
theorem Reach.trans {g : Mod → List Mod} {a b c : Mod} (h1 : Reach g a b) (h2 : Reach g b c) :
    Reach g a c := by
  induction h1 with
  | refl => exact h2
  | step e _ ih => exact .step e (ih h2)

omit [DecidableEq Mod] in
theorem Reach.tail {g : Mod → List Mod} {a b c : Mod} (h1 : Reach g a b) (e : c ∈ g b) :
    Reach g a c := h1.trans (.step e (.refl c))

theorem dfs_cons (g : Mod → List Mod) (n : Nat) (m : Mod) (st r : List Mod) :
    dfs g (n + 1) (m :: st) r =
      if m ∈ r then dfs g n st r else dfs g n (g m ++ st) (m :: r) := rfl

theorem wsum_cons (g : Mod → List Mod) (u : Mod) (U r : List Mod) :
    wsum g (u :: U) r = (if u ∈ r then 0 else 1 + (g u).length) + wsum g U r := rfl

theorem dfs_sound (g : Mod → List Mod) (n : Nat) (st r : List Mod) (x : Mod)
    (hx : x ∈ dfs g n st r) : x ∈ r ∨ ∃ s ∈ st, Reach g s x := by
  -- the cases of `dfs`: no fuel, empty stack, top of the stack visited, top of the stack new
  fun_induction dfs g n st r with
  | case1 => exact .inl hx
  | case2 => exact .inl hx
  | case3 n m st r hm ih =>
    exact (ih hx).imp_right fun ⟨s, hs, hr⟩ => ⟨s, List.mem_cons_of_mem _ hs, hr⟩
  | case4 n m st r hm ih =>
    rcases ih hx with h | ⟨s, hs, hr⟩
    · rcases List.mem_cons.mp h with rfl | h
      · exact .inr ⟨x, List.mem_cons_self, .refl x⟩
      · exact .inl h
    · rcases List.mem_append.mp hs with hs | hs
      · exact .inr ⟨m, List.mem_cons_self, .step hs hr⟩
      · exact .inr ⟨s, List.mem_cons_of_mem _ hs, hr⟩

/-- Visiting `m` takes its weight off every occurrence of `m` in `U` and adds nothing. -/
theorem wsum_visit (g : Mod → List Mod) (U r : List Mod) (m : Mod) (hr : m ∉ r) :
    wsum g U (m :: r) + (if m ∈ U then 1 + (g m).length else 0) ≤ wsum g U r := by
  induction U with
  | nil => exact Nat.le_refl _
  | cons u U ih =>
    rw [wsum_cons, wsum_cons]
    by_cases hum : u = m
    · subst hum
      rw [if_pos List.mem_cons_self, if_pos List.mem_cons_self, if_neg hr, Nat.zero_add,
        Nat.add_comm]
      exact Nat.add_le_add_left (Nat.le_trans (Nat.le_add_right _ _) ih) _
    · have e1 : (u ∈ m :: r) = (u ∈ r) := propext ⟨fun h => (List.mem_cons.mp h).resolve_left hum,
        List.mem_cons_of_mem _⟩
      have e2 : (m ∈ u :: U) = (m ∈ U) := propext ⟨fun h => (List.mem_cons.mp h).resolve_left
        (Ne.symm hum), List.mem_cons_of_mem _⟩
      simp only [e1, e2, Nat.add_assoc]
      exact Nat.add_le_add_left ih _

/-- With enough fuel (`st.length + wsum g U r` counts the pops still possible: one per stack entry, and
one plus its out-degree per unvisited node of `U`) the result contains the stack and the visited nodes,
and every node the loop adds has all its successors in it. -/
theorem dfs_closed (g : Mod → List Mod) (U : List Mod) (hU : ∀ x y, y ∈ g x → y ∈ U)
    (n : Nat) (st r : List Mod) (hst : ∀ x ∈ st, x ∈ U)
    (hfuel : st.length + wsum g U r < n) :
    (∀ x ∈ st, x ∈ dfs g n st r) ∧ (∀ x ∈ r, x ∈ dfs g n st r) ∧
      ∀ x ∈ dfs g n st r, x ∈ r ∨ ∀ y ∈ g x, y ∈ dfs g n st r := by
  -- the cases of `dfs`: no fuel, empty stack, top of the stack visited, top of the stack new
  fun_induction dfs g n st r with
  | case1 => exact absurd hfuel (Nat.not_lt_zero _)
  | case2 => exact ⟨nofun, fun _ h => h, fun _ h => .inl h⟩
  | case3 n m st r hm ih =>
    rw [List.length_cons] at hfuel
    obtain ⟨h1, h2, h3⟩ := ih (fun x hx => hst x (List.mem_cons_of_mem _ hx))
      (by rw [Nat.add_right_comm] at hfuel; exact Nat.lt_of_succ_lt_succ hfuel)
    exact ⟨fun x hx => (List.mem_cons.mp hx).elim (fun e => e ▸ h2 m hm) (h1 x), h2, h3⟩
  | case4 n m st r hm ih =>
    rw [List.length_cons] at hfuel
    have hw := wsum_visit g U r m hm
    rw [if_pos (hst m List.mem_cons_self)] at hw
    obtain ⟨h1, h2, h3⟩ := ih
      (fun x hx => (List.mem_append.mp hx).elim (hU m x)
        fun hx => hst x (List.mem_cons_of_mem _ hx))
      (by rw [List.length_append]; omega)
    refine ⟨fun x hx => (List.mem_cons.mp hx).elim (fun e => e ▸ h2 m List.mem_cons_self)
        fun hx => h1 x (List.mem_append_right _ hx),
      fun x hx => h2 x (List.mem_cons_of_mem _ hx), fun x hx => ?_⟩
    rcases h3 x hx with h | h
    · rcases List.mem_cons.mp h with rfl | h
      · exact .inr fun y hy => h1 y (List.mem_append_left _ hy)
      · exact .inl h
    · exact .inr h

theorem mem_transitiveSet (g : Mod → List Mod) (U : List Mod) (hU : ∀ x y, y ∈ g x → y ∈ U)
    (init : List Mod) (x : Mod) :
    x ∈ transitiveSet g U init ↔ ∃ i ∈ init, Reach g i x := by
  constructor
  · intro h
    exact (dfs_sound g _ init [] x h).resolve_left nofun
  · rintro ⟨i, hi, hr⟩
    obtain ⟨h1, -, h3⟩ := dfs_closed g (U ++ init) (fun a b hb => List.mem_append_left _ (hU a b hb))
      (init.length + wsum g (U ++ init) [] + 1) init []
      (fun a ha => List.mem_append_right _ ha) (by omega)
    have hi' : i ∈ transitiveSet g U init := h1 i hi
    clear hi
    induction hr with
    | refl => exact hi'
    | step e _ ih => exact ih ((h3 _ hi').resolve_left nofun _ e)

end Dfs

section Server
variable {Mod Content Sig Err : Type} [DecidableEq Mod]
variable (ck : Checker Mod Content Sig Err)

theorem mem_fwdEdges (S : Sources Mod Content) (x y : Mod) :
    y ∈ fwdEdges ck S x ↔ ∃ c, lookup S x = some c ∧ y ∈ ck.imports c := by
  unfold fwdEdges
  cases lookup S x with
  | none => exact ⟨nofun, nofun⟩
  | some c => exact ⟨fun h => ⟨c, rfl, h⟩, fun ⟨_, hc, h⟩ => Option.some.inj hc ▸ h⟩

theorem fwd_mem_nodes (S : Sources Mod Content) (x y : Mod) (h : y ∈ fwdEdges ck S x) :
    y ∈ nodes ck S := by
  obtain ⟨c, hc, _⟩ := (mem_fwdEdges ck S x y).mp h
  exact List.mem_append_right _ (List.mem_flatMap.mpr ⟨x, mem_keys_of_lookup hc, h⟩)

theorem mem_revEdges (S : Sources Mod Content) (x m : Mod) :
    m ∈ revEdges ck S x ↔ x ∈ fwdEdges ck S m := by
  simp only [revEdges, List.mem_filter, decide_eq_true_eq]
  refine ⟨fun h => h.2, fun h => ⟨?_, h⟩⟩
  obtain ⟨c, hc, _⟩ := (mem_fwdEdges ck S m x).mp h
  exact mem_keys_of_lookup hc

theorem rev_mem_nodes (S : Sources Mod Content) (x y : Mod) (h : y ∈ revEdges ck S x) :
    y ∈ nodes ck S := by
  simp only [revEdges, List.mem_filter] at h
  exact List.mem_append_left _ h.1

theorem reach_rev (S : Sources Mod Content) (d m : Mod) :
    Reach (revEdges ck S) d m ↔ Reach (fwdEdges ck S) m d := by
  constructor
  · intro h
    induction h with
    | refl => exact .refl _
    | step e _ ih => exact ih.tail ((mem_revEdges ck S _ _).mp e)
  · intro h
    induction h with
    | refl => exact .refl _
    | step e _ ih => exact ih.tail ((mem_revEdges ck S _ _).mpr e)

theorem mem_affectedSet (S : Sources Mod Content) (dirty : List Mod) (k : Mod) :
    k ∈ affectedSet ck S dirty ↔
      ∃ a, (∃ d ∈ dirty, Reach (fwdEdges ck S) a d) ∧ Reach (fwdEdges ck S) a k := by
  unfold affectedSet
  simp only [mem_transitiveSet _ _ (fwd_mem_nodes ck S), mem_transitiveSet _ _ (rev_mem_nodes ck S),
    reach_rev]

theorem self_mem_affectedSet (S : Sources Mod Content) (D : List Mod) (x : Mod) (hx : x ∈ D) :
    x ∈ affectedSet ck S D :=
  (mem_affectedSet ck S D x).mpr ⟨x, ⟨x, hx, .refl x⟩, .refl x⟩

theorem cov_affectedSet (S : Sources Mod Content) (D : List Mod) (k : Mod)
    (hk : k ∉ affectedSet ck S D) : ∀ x, Reach (fwdEdges ck S) k x → x ∉ D :=
  fun x hx hxD => hk ((mem_affectedSet ck S D k).mpr ⟨k, ⟨x, hxD, hx⟩, .refl k⟩)

theorem affected_imports (S : Sources Mod Content) (D : List Mod) (y : Mod) (c : Content) (x : Mod)
    (hy : y ∈ affectedSet ck S D) (hc : lookup S y = some c) (hx : x ∈ ck.imports c) :
    x ∈ affectedSet ck S D := by
  obtain ⟨a, ha, hay⟩ := (mem_affectedSet ck S D y).mp hy
  exact (mem_affectedSet ck S D x).mpr ⟨a, ha, hay.tail ((mem_fwdEdges ck S y x).mpr ⟨c, hc, hx⟩)⟩

theorem mem_groupFor (es : List (Mod × Err)) (k : Mod) (e : Err) :
    e ∈ groupFor es k ↔ (k, e) ∈ es := by
  simp only [groupFor, List.mem_map, List.mem_filter, decide_eq_true_eq]
  constructor
  · rintro ⟨⟨k', e'⟩, ⟨h1, rfl⟩, rfl⟩; exact h1
  · intro h; exact ⟨(k, e), ⟨h, rfl⟩, rfl⟩

theorem lookup_overwrite (errs : List (Mod × List Err)) (produced : List (Mod × Err))
    (touched : List Mod) (k : Mod) :
    lookup (overwrite errs produced touched) k =
      if k ∈ touched then some (groupFor produced k) else lookup errs k := by
  unfold overwrite
  induction touched generalizing errs with
  | nil => simp
  | cons t ts ih =>
    simp only [List.foldl_cons, ih, lookup_insert, List.mem_cons]
    by_cases h1 : k ∈ ts
    · simp [h1]
    · by_cases h2 : t = k
      · subst h2; simp [h1]
      · have h3 : ¬ k = t := fun h => h2 h.symm
        simp [h1, h2, h3]

theorem mem_checkAll (S : Sources Mod Content) (G : List (Mod × Sig)) (R : List Mod)
    (k : Mod) (e : Err) :
    (k, e) ∈ checkAll ck S G R ↔
      ∃ m ∈ R, ∃ c, lookup S m = some c ∧ (k, e) ∈ ck.check m c (lookup G) := by
  simp only [checkAll, List.mem_flatMap]
  constructor
  · rintro ⟨m, hm, h⟩
    split at h
    · rename_i c hc; exact ⟨m, hm, c, hc, h⟩
    · simp at h
  · rintro ⟨m, hm, c, hc, h⟩
    exact ⟨m, hm, by simp [hc, h]⟩

theorem mem_retained (s : State Mod Content Sig Err) (R : List Mod) (k : Mod) (e : Err) :
    (k, e) ∈ retained ck s R ↔ k ∈ R ∧ e ∈ getErrors s k ∧ ck.isSyntax e = true := by
  simp only [retained, List.mem_flatMap, tagged, List.mem_map, List.mem_filter, Prod.mk.injEq]
  constructor
  · rintro ⟨m, hm, a, ⟨ha, hs⟩, rfl, rfl⟩; exact ⟨hm, ha, hs⟩
  · rintro ⟨h1, h2, h3⟩; exact ⟨k, h1, e, ⟨h2, h3⟩, rfl, rfl⟩

theorem mem_overwrite (errs : List (Mod × List Err)) (produced : List (Mod × Err)) (T : List Mod)
    (k : Mod) (e : Err) :
    e ∈ (lookup (overwrite errs produced (produced.map (·.1) ++ T)) k).getD [] ↔
      (k, e) ∈ produced ∨
        (k ∉ T ∧ (∀ e', (k, e') ∉ produced) ∧ e ∈ (lookup errs k).getD []) := by
  rw [lookup_overwrite]
  split
  · rename_i ht
    rw [Option.getD_some, mem_groupFor]
    refine ⟨.inl, fun h => h.elim id fun ⟨h1, h2, _⟩ => ?_⟩
    rcases List.mem_append.mp ht with ht | ht
    · obtain ⟨⟨k', e'⟩, hp, rfl⟩ := List.mem_map.mp ht
      exact absurd hp (h2 e')
    · exact absurd ht h1
  · rename_i ht
    have h2 : ∀ e', (k, e') ∉ produced := fun e' h =>
      ht (List.mem_append_left _ (List.mem_map_of_mem h))
    exact ⟨fun h => .inr ⟨fun h => ht (List.mem_append_right _ h), h2, h⟩,
      fun h => h.elim (fun h => absurd h (h2 e)) (·.2.2)⟩

theorem mem_getErrors_recheck (s : State Mod Content Sig Err) (pending : List (Mod × Err))
    (R : List Mod) (k : Mod) (e : Err) :
    e ∈ getErrors (recheck ck s pending R) k ↔
      (k, e) ∈ pending ++ (retained ck s R ++ checkAll ck s.sources s.globalCx R) ∨
        (k ∉ R ∧
          (∀ e', (k, e') ∉ pending ++ (retained ck s R ++ checkAll ck s.sources s.globalCx R)) ∧
          e ∈ getErrors s k) :=
  mem_overwrite s.errors _ R k e

theorem lookup_freshCx (S : Sources Mod Content) (x : Mod) :
    lookup (freshCx ck S) x =
      if ck.root = x then some ck.builtin else (lookup S x).map (ck.sig x) := by
  simp only [freshCx, lookup_insert, lookup_map_val]

omit [DecidableEq Mod] in
theorem mem_tagged (m k : Mod) (es : List Err) (e : Err) :
    (k, e) ∈ tagged m es ↔ k = m ∧ e ∈ es := by
  simp only [tagged, List.mem_map, Prod.mk.injEq]
  constructor
  · rintro ⟨a, ha, rfl, rfl⟩; exact ⟨rfl, ha⟩
  · rintro ⟨rfl, h⟩; exact ⟨e, h, rfl, rfl⟩

theorem mem_flatMap_tagged {α : Type} (U : List (Mod × α)) (hU : NodupKeys U) (f : α → List Err)
    (k : Mod) (e : Err) :
    (k, e) ∈ U.flatMap (fun p => tagged p.1 (f p.2)) ↔
      ∃ es, lookup (U.map (fun p => (p.1, f p.2))) k = some es ∧ e ∈ es := by
  rw [lookup_map_val U (fun _ a => f a) k]
  simp only [List.mem_flatMap, mem_tagged]
  constructor
  · rintro ⟨⟨k', a⟩, hp, rfl, he⟩
    exact ⟨f a, by rw [(mem_iff_lookup_of_nodup hU k a).mp hp]; rfl, he⟩
  · rintro ⟨es, h1, h2⟩
    obtain ⟨a, ha, rfl⟩ := Option.map_eq_some_iff.mp h1
    exact ⟨(k, a), (mem_iff_lookup_of_nodup hU k a).mpr ha, rfl, h2⟩

theorem mem_getErrors_fresh (S : Sources Mod Content) (k : Mod) (e : Err) :
    e ∈ getErrors (fresh ck S) k ↔
      (∃ c, lookup S k = some c ∧ e ∈ ck.parseErrs c) ∨
        ∃ m c, lookup S m = some c ∧ (k, e) ∈ ck.check m c (lookup (freshCx ck S)) := by
  have h := mem_overwrite [] (freshProduced ck S) [] k e
  rw [List.append_nil] at h
  refine (h.trans ⟨fun h => h.elim id fun h => absurd h.2.2 List.not_mem_nil, .inl⟩).trans ?_
  simp only [freshProduced, List.mem_append, mem_checkAll, List.mem_flatMap]
  constructor
  · rintro (⟨m, hm, h⟩ | ⟨m, _, c, hc, h⟩)
    · split at h
      · rename_i c hc
        obtain ⟨rfl, he⟩ := (mem_tagged _ _ _ _).mp h
        exact .inl ⟨c, hc, he⟩
      · simp at h
    · exact .inr ⟨m, c, hc, h⟩
  · rintro (⟨c, hc, he⟩ | ⟨m, c, hc, h⟩)
    · exact .inl ⟨k, mem_keys_of_lookup hc, by simp [hc, mem_tagged, he]⟩
    · exact .inr ⟨m, mem_keys_of_lookup hc, c, hc, h⟩

/-- **Frame hypothesis**: the diagnostics of `m` against a from-scratch global signature depend
only on the sources in the forward import closure of `m` (ROOT's builtin signature is the same in
every from-scratch signature). -/
def Frame : Prop :=
  ∀ (S S' : Sources Mod Content) (m : Mod) (c : Content), lookup S m = some c →
    (∀ x, Reach (fwdEdges ck S) m x → lookup S' x = lookup S x) →
    ck.check m c (lookup (freshCx ck S')) = ck.check m c (lookup (freshCx ck S))

/-- **Weak locality hypothesis** (what the real checker satisfies): an error that checking `m`
against a from-scratch signature reports *into another module* `k` lies in the forward import
closure of `m` and is also reported by `k`'s own check.  (E.g. `interface A : E` re-reports E's
supertype error at E's location.) -/
def LocalW : Prop :=
  ∀ (S : Sources Mod Content) (m : Mod) (c : Content) (k : Mod) (e : Err),
    lookup S m = some c → (k, e) ∈ ck.check m c (lookup (freshCx ck S)) →
    k = m ∨ (Reach (fwdEdges ck S) m k ∧
      ∃ c', lookup S k = some c' ∧ (k, e) ∈ ck.check k c' (lookup (freshCx ck S)))

/-- Parse errors are syntax errors, type-check errors are not (`ErrorDetail::InvalidSyntax` is
only ever reported by the parser). -/
def Kinds : Prop :=
  (∀ (c : Content) (e : Err), e ∈ ck.parseErrs c → ck.isSyntax e = true) ∧
    ∀ (S : Sources Mod Content) (m : Mod) (c : Content) (k : Mod) (e : Err),
      (k, e) ∈ ck.check m c (lookup (freshCx ck S)) → ck.isSyntax e = false

def GoodCx (S : Sources Mod Content) (G : List (Mod × Sig)) : Prop :=
  ∀ x, lookup G x = lookup (freshCx ck S) x

def ErrInv (s : State Mod Content Sig Err) : Prop :=
  ∀ k e, e ∈ getErrors s k ↔ e ∈ getErrors (fresh ck s.sources) k

/-- **The refinement invariant**: signature and diagnostics are those of `fresh ck s.sources`.  The
other two fields have invariants of their own: `GraphFresh` for `graph`, `CheckedOk` for `checked`. -/
def Inv (s : State Mod Content Sig Err) : Prop :=
  GoodCx ck s.sources s.globalCx ∧ ErrInv ck s

/-- Errors other modules report into `k` are duplicates of `k`'s own, by `LocalW`. -/
theorem fresh_char (hL : LocalW ck) (S : Sources Mod Content) (k : Mod) (e : Err) :
    e ∈ getErrors (fresh ck S) k ↔
      ∃ c, lookup S k = some c ∧
        (e ∈ ck.parseErrs c ∨ (k, e) ∈ ck.check k c (lookup (freshCx ck S))) := by
  rw [mem_getErrors_fresh]
  constructor
  · rintro (⟨c, h1, h2⟩ | ⟨m, c, h1, h2⟩)
    · exact ⟨c, h1, .inl h2⟩
    · rcases hL S m c k e h1 h2 with rfl | ⟨_, c', h3, h4⟩
      · exact ⟨c, h1, .inr h2⟩
      · exact ⟨c', h3, .inr h4⟩
  · rintro ⟨c, h1, h2 | h2⟩
    · exact .inl ⟨c, h1, h2⟩
    · exact .inr ⟨k, c, h1, h2⟩

theorem fresh_frame (hF : Frame ck) (hL : LocalW ck) (S S' : Sources Mod Content) (k : Mod)
    (h : ∀ x, Reach (fwdEdges ck S) k x → lookup S' x = lookup S x) (e : Err) :
    e ∈ getErrors (fresh ck S') k ↔ e ∈ getErrors (fresh ck S) k := by
  rw [fresh_char ck hL, fresh_char ck hL, h k (.refl k)]
  exact exists_congr fun c => and_congr_right fun hc => by rw [hF S S' k c hc h]

theorem reach_closed (S : Sources Mod Content) (R : List Mod)
    (hcl : ∀ y c x, y ∈ R → lookup S y = some c → x ∈ ck.imports c → x ∈ R)
    (m k : Mod) (hm : m ∈ R) (hr : Reach (fwdEdges ck S) m k) : k ∈ R := by
  induction hr with
  | refl => exact hm
  | @step a b _ e _ ih =>
    obtain ⟨c, hc, hb⟩ := (mem_fwdEdges ck S a b).mp e
    exact ih (hcl a c b hm hc hb)

theorem mem_checkAll_closed (hL : LocalW ck) (S : Sources Mod Content) (G : List (Mod × Sig))
    (hG : GoodCx ck S G) (R : List Mod)
    (hcl : ∀ y c x, y ∈ R → lookup S y = some c → x ∈ ck.imports c → x ∈ R) (k : Mod) (e : Err) :
    (k, e) ∈ checkAll ck S G R ↔
      k ∈ R ∧ ∃ c, lookup S k = some c ∧ (k, e) ∈ ck.check k c (lookup (freshCx ck S)) := by
  rw [mem_checkAll, funext hG]
  constructor
  · rintro ⟨m, hm, c, h1, h2⟩
    rcases hL S m c k e h1 h2 with rfl | ⟨hr, hown⟩
    · exact ⟨hm, c, h1, h2⟩
    · exact ⟨reach_closed ck S R hcl m k hm hr, hown⟩
  · rintro ⟨hk, c, h1, h2⟩
    exact ⟨k, hk, c, h1, h2⟩

theorem syntax_of_errInv (hL : LocalW ck) (hK : Kinds ck) (s : State Mod Content Sig Err)
    (h : ErrInv ck s) (k : Mod) (e : Err) :
    e ∈ getErrors s k ∧ ck.isSyntax e = true ↔
      ∃ c, lookup s.sources k = some c ∧ e ∈ ck.parseErrs c := by
  rw [h k e, fresh_char ck hL]
  constructor
  · rintro ⟨⟨c, hc, hp | ht⟩, hs⟩
    · exact ⟨c, hc, hp⟩
    · rw [hK.2 s.sources k c k e ht] at hs; cases hs
  · rintro ⟨c, hc, hp⟩
    exact ⟨⟨c, hc, .inl hp⟩, hK.1 c e hp⟩

/-- The common core of the three operations.  `s1` is the state the caller hands to `recheck`:
sources changed only inside `D`; `global_cx` equal to the from-scratch one; for every module
either nothing was touched (`errors` entry, source, no pending syntax errors) or its `errors`
entry was dropped and its pending syntax errors are those of its current text (`syn`); the
recheck set covers `D` and every module whose forward closure (old or new graph) meets `D`, and
is closed under the imports of the new sources. -/
theorem recheck_inv (hF : Frame ck) (hL : LocalW ck) (hK : Kinds ck)
    (s s1 : State Mod Content Sig Err) (syn : List (Mod × List Err))
    (pending : List (Mod × Err)) (D R : List Mod) (hinv : Inv ck s)
    (hcx : GoodCx ck s1.sources s1.globalCx)
    (hpend : ∀ k e, (k, e) ∈ pending ↔ ∃ es, lookup syn k = some es ∧ e ∈ es)
    (hQ : ∀ k, (lookup s1.errors k = lookup s.errors k ∧ lookup s1.sources k = lookup s.sources k ∧
        lookup syn k = none) ∨
      (lookup s1.errors k = none ∧ lookup syn k = (lookup s1.sources k).map ck.parseErrs))
    (hQA : ∀ k, k ∉ D → lookup s1.errors k = lookup s.errors k ∧ lookup syn k = none)
    (hD : ∀ x, x ∉ D → lookup s1.sources x = lookup s.sources x)
    (hDR : ∀ x ∈ D, x ∈ R)
    (hcov : ∀ k, k ∉ R → (∀ x, Reach (fwdEdges ck s.sources) k x → x ∉ D) ∨
      (∀ x, Reach (fwdEdges ck s1.sources) k x → x ∉ D))
    (hcl : ∀ y c x, y ∈ R → lookup s1.sources y = some c → x ∈ ck.imports c → x ∈ R) :
    Inv ck (recheck ck s1 pending R) := by
  refine ⟨hcx, fun k e => ?_⟩
  have hchk := mem_checkAll_closed ck hL s1.sources s1.globalCx hcx R hcl k
  rw [mem_getErrors_recheck]
  show _ ↔ e ∈ getErrors (fresh ck s1.sources) k
  by_cases hk : k ∈ R
  · -- the new entry of `k`: pending and retained syntax errors are the parse errors of its text
    have hsyn : ((∃ es, lookup syn k = some es ∧ e ∈ es) ∨
        e ∈ getErrors s1 k ∧ ck.isSyntax e = true) ↔
        ∃ c, lookup s1.sources k = some c ∧ e ∈ ck.parseErrs c := by
      rcases hQ k with ⟨he, hsrc, hn⟩ | ⟨he, hs⟩
      · rw [hn, getErrors, he, hsrc, ← getErrors, syntax_of_errInv ck hL hK s hinv.2]
        exact or_iff_right fun ⟨_, h, _⟩ => nomatch h
      · rw [hs, getErrors, he]
        refine (or_iff_left fun h => nomatch h.1).trans ⟨?_, ?_⟩
        · rintro ⟨es, h1, h2⟩
          obtain ⟨c, hc, rfl⟩ := Option.map_eq_some_iff.mp h1
          exact ⟨c, hc, h2⟩
        · rintro ⟨c, hc, h2⟩
          exact ⟨ck.parseErrs c, by rw [hc]; rfl, h2⟩
    rw [fresh_char ck hL, List.mem_append, List.mem_append, hpend, mem_retained, hchk, ← or_assoc]
    simp only [hk, true_and, not_true_eq_false, false_and, or_false, hsyn, ← exists_or,
      ← and_or_left]
  · -- the entry of `k` is kept, and a from-scratch server would not see the change either
    obtain ⟨he, hn⟩ := hQA k fun h => hk (hDR k h)
    have hframe : e ∈ getErrors (fresh ck s1.sources) k ↔ e ∈ getErrors (fresh ck s.sources) k := by
      rcases hcov k hk with h | h
      · exact fresh_frame ck hF hL s.sources s1.sources k (fun x hx => hD x (h x hx)) e
      · exact (fresh_frame ck hF hL s1.sources s.sources k
          (fun x hx => (hD x (h x hx)).symm) e).symm
    rw [hframe, ← hinv.2 k e]
    -- nothing is produced for `k`: no pending entry, and `retained`, `checkAll` speak of `R` only
    simp only [List.mem_append, hpend, mem_retained, hchk, hn, hk, getErrors, he, reduceCtorEq,
      false_and, exists_false, or_false, not_false_eq_true, implies_true, true_and, false_or]

section
-- these five do not use the section's `[DecidableEq Mod]`, which their signatures include
set_option linter.unusedSectionVars false
@[simp] theorem rebuildGraph_sources (s : State Mod Content Sig Err) :
    (rebuildGraph s).sources = s.sources := rfl
@[simp] theorem rebuildGraph_globalCx (s : State Mod Content Sig Err) :
    (rebuildGraph s).globalCx = s.globalCx := rfl
@[simp] theorem rebuildGraph_errors (s : State Mod Content Sig Err) :
    (rebuildGraph s).errors = s.errors := rfl
@[simp] theorem rebuildGraph_checked (s : State Mod Content Sig Err) :
    (rebuildGraph s).checked = s.checked := rfl
@[simp] theorem rebuildGraph_graph (s : State Mod Content Sig Err) :
    (rebuildGraph s).graph = s.sources := rfl
end

@[simp] theorem recheck_sources (s : State Mod Content Sig Err) (pending : List (Mod × Err))
    (R : List Mod) : (recheck ck s pending R).sources = s.sources := rfl
@[simp] theorem recheck_globalCx (s : State Mod Content Sig Err) (pending : List (Mod × Err))
    (R : List Mod) : (recheck ck s pending R).globalCx = s.globalCx := rfl

theorem goodCx_insert {S : Sources Mod Content} {G : List (Mod × Sig)} (h : GoodCx ck S G)
    (m : Mod) (c : Content) (hm : m ≠ ck.root) :
    GoodCx ck (insert S m c) (insert G m (ck.sig m c)) := by
  intro x
  rw [lookup_insert, lookup_freshCx, lookup_insert, h x, lookup_freshCx]
  by_cases hx : m = x
  · subst hx; rw [if_pos rfl, if_pos rfl, if_neg (Ne.symm hm)]; rfl
  · rw [if_neg hx, if_neg hx]

theorem goodCx_erase {S : Sources Mod Content} {G : List (Mod × Sig)} (h : GoodCx ck S G)
    (m : Mod) (hm : m ≠ ck.root) : GoodCx ck (erase S m) (erase G m) := by
  intro x
  rw [lookup_erase, lookup_freshCx, lookup_erase, h x, lookup_freshCx]
  by_cases hx : m = x
  · subst hx; rw [if_pos rfl, if_pos rfl, if_neg (Ne.symm hm)]; rfl
  · rw [if_neg hx, if_neg hx]

theorem writeBatch_nodup (root : Mod) (ups : List (Mod × Content)) :
    NodupKeys (writeBatch root ups) :=
  List.foldlRecOn (motive := NodupKeys) _ _ List.nodup_nil
    fun acc h p _ => nodupKeys_insert acc p.1 p.2 h

theorem writeBatch_noroot (root : Mod) (ups : List (Mod × Content)) :
    root ∉ keys (writeBatch root ups) := by
  unfold writeBatch
  refine List.foldlRecOn (motive := fun acc : List (Mod × Content) => root ∉ keys acc) _ _
    List.not_mem_nil ?_
  intro acc hacc p hp h
  rcases List.mem_cons.mp h with h | h
  · exact of_decide_eq_true (List.mem_filter.mp hp).2 h.symm
  · exact hacc ((keys_erase acc p.1 root).mp h).1

theorem renameOne_none (acc : State Mod Content Sig Err × List (Mod × List Err)) (p : Mod × Mod)
    (h : lookup acc.1.sources p.1 = none) :
    renameOne ck acc p =
      ({ acc.1 with checked := acc.1.checked.filter (fun m => m ≠ p.1) }, acc.2) := by
  simp only [renameOne, h]

theorem renameOne_some (acc : State Mod Content Sig Err × List (Mod × List Err)) (p : Mod × Mod)
    (c : Content) (h : lookup acc.1.sources p.1 = some c) :
    renameOne ck acc p = (updateOne ck (removeOne acc.1 p.1) (p.2, c),
      insert (erase acc.2 p.1) p.2 (ck.parseErrs c)) := by
  simp only [renameOne, h]; rfl

section Prep
/-- Invariant of the loop of every operation over a batch with names `D`; `s` is the state before the
loop, `acc.1` the state in the loop, `acc.2` the syntax errors found so far, by current name.  A name is
either untouched, or it is in `D`, its `errors` entry is dropped, its syntax errors are those of its
current text, and that text satisfies `P`. -/
def Prep (P : Content → Prop) (s : State Mod Content Sig Err) (D : List Mod)
    (acc : State Mod Content Sig Err × List (Mod × List Err)) : Prop :=
  GoodCx ck acc.1.sources acc.1.globalCx ∧ NodupKeys acc.2 ∧
    ∀ k, (lookup acc.1.errors k = lookup s.errors k ∧ lookup acc.1.sources k = lookup s.sources k ∧
        lookup acc.2 k = none) ∨
      (k ∈ D ∧ lookup acc.1.errors k = none ∧
        lookup acc.2 k = (lookup acc.1.sources k).map ck.parseErrs ∧
        ∀ c, lookup acc.1.sources k = some c → P c)

variable {P : Content → Prop} {s : State Mod Content Sig Err} {D : List Mod}
  {acc : State Mod Content Sig Err × List (Mod × List Err)}

theorem prep_start (h : GoodCx ck s.sources s.globalCx) : Prep ck P s D (s, []) :=
  ⟨h, List.nodup_nil, fun _ => .inl ⟨rfl, rfl, rfl⟩⟩

theorem prep_write (h : Prep ck P s D acc) (m : Mod) (c : Content) (hm : m ∈ D) (hr : m ≠ ck.root)
    (hc : P c) :
    Prep ck P s D (updateOne ck acc.1 (m, c), insert acc.2 m (ck.parseErrs c)) := by
  obtain ⟨hcx, hn, hkey⟩ := h
  refine ⟨goodCx_insert ck hcx m c hr, nodupKeys_insert _ _ _ hn, fun k => ?_⟩
  simp only [updateOne, lookup_insert, lookup_erase]
  by_cases hk : m = k
  · subst hk
    simp only [↓reduceIte, true_and]
    exact .inr ⟨hm, rfl, fun c' hc' => Option.some.inj hc' ▸ hc⟩
  · simp only [hk, ↓reduceIte]
    exact hkey k

theorem prep_delete (h : Prep ck P s D acc) (m : Mod) (hm : m ∈ D) (hr : m ≠ ck.root) :
    Prep ck P s D (removeOne acc.1 m, erase acc.2 m) := by
  obtain ⟨hcx, hn, hkey⟩ := h
  refine ⟨goodCx_erase ck hcx m hr, nodupKeys_erase _ _ hn, fun k => ?_⟩
  simp only [removeOne, lookup_erase]
  by_cases hk : m = k
  · subst hk
    simp only [↓reduceIte, true_and]
    exact .inr ⟨hm, rfl, nofun⟩
  · simp only [hk, ↓reduceIte]
    exact hkey k

theorem prep_renameOne (p : Mod × Mod) (h1 : p.1 ∈ D) (h2 : p.2 ∈ D) (hr1 : p.1 ≠ ck.root)
    (hr2 : p.2 ≠ ck.root) (h : Prep ck (fun c => ∃ o ∈ D, lookup s.sources o = some c) s D acc) :
    Prep ck (fun c => ∃ o ∈ D, lookup s.sources o = some c) s D (renameOne ck acc p) := by
  cases hl : lookup acc.1.sources p.1 with
  | none => rw [renameOne_none ck acc p hl]; exact h
  | some c =>
    rw [renameOne_some ck acc p c hl]
    refine prep_write ck (prep_delete ck h p.1 h1 hr1) p.2 c h2 hr2 ?_
    -- the text that moves was, before the loop, the text of a name of the batch
    rcases h.2.2 p.1 with ⟨_, hs, _⟩ | ⟨_, _, _, ho⟩
    · exact ⟨p.1, h1, hs ▸ hl⟩
    · exact ho c hl

theorem prep_recheck (hF : Frame ck) (hL : LocalW ck) (hK : Kinds ck) (hinv : Inv ck s)
    (h : Prep ck P s D acc) (pending : List (Mod × Err)) (R : List Mod)
    (hpend : ∀ k e, (k, e) ∈ pending ↔ ∃ es, lookup acc.2 k = some es ∧ e ∈ es)
    (hDR : ∀ x ∈ D, x ∈ R)
    (hcov : ∀ k, k ∉ R → (∀ x, Reach (fwdEdges ck s.sources) k x → x ∉ D) ∨
      (∀ x, Reach (fwdEdges ck acc.1.sources) k x → x ∉ D))
    (hcl : ∀ y c x, y ∈ R → lookup acc.1.sources y = some c → x ∈ ck.imports c → x ∈ R) :
    Inv ck (recheck ck (rebuildGraph acc.1) pending R) :=
  -- `recheck_inv` takes the disjunction of `Prep` in three parts: per name, and what it says outside of `D`
  -- of the `errors` entry and the table, and of the source
  recheck_inv ck hF hL hK s _ acc.2 pending D R hinv h.1 hpend
    (fun k => (h.2.2 k).imp id fun h => ⟨h.2.1, h.2.2.1⟩)
    (fun k hk => (h.2.2 k).elim (fun h => ⟨h.1, h.2.2⟩) fun h => absurd h.1 hk)
    (fun k hk => (h.2.2 k).elim (fun h => h.2.1) fun h => absurd h.1 hk) hDR hcov hcl

/-- `rename_module` and `remove` take the recheck set from the graph of the old sources: it is closed
under the imports of the new sources because texts only move between names of the batch. -/
theorem prep_recheck_old (hF : Frame ck) (hL : LocalW ck) (hK : Kinds ck) (hinv : Inv ck s)
    (h : Prep ck (fun c => ∃ o ∈ D, lookup s.sources o = some c) s D acc)
    (pending : List (Mod × Err))
    (hpend : ∀ k e, (k, e) ∈ pending ↔ ∃ es, lookup acc.2 k = some es ∧ e ∈ es) :
    Inv ck (recheck ck (rebuildGraph acc.1) pending (affectedSet ck s.sources D)) := by
  refine prep_recheck ck hF hL hK hinv h pending _ hpend (self_mem_affectedSet ck _ _)
    (fun k hk => .inl (cov_affectedSet ck _ _ k hk)) fun y c x hy hc hx => ?_
  rcases h.2.2 y with ⟨_, hs, _⟩ | ⟨_, _, _, ho⟩
  · exact affected_imports ck _ _ y c x hy (hs ▸ hc) hx
  · obtain ⟨o, hoD, ho⟩ := ho c hc
    exact affected_imports ck _ _ o c x (self_mem_affectedSet ck _ _ o hoD) ho hx

end Prep

/-- The loop body of `update` with the syntax errors of the written text recorded beside the state, as
`renameOne` records them (`update` itself reads them off the batch after the loop). -/
def updateOneSyn (acc : State Mod Content Sig Err × List (Mod × List Err)) (p : Mod × Content) :
    State Mod Content Sig Err × List (Mod × List Err) :=
  (updateOne ck acc.1 p, insert acc.2 p.1 (ck.parseErrs p.2))

theorem foldl_updateOneSyn (U : List (Mod × Content))
    (acc : State Mod Content Sig Err × List (Mod × List Err)) :
    U.foldl (updateOneSyn ck) acc =
      (U.foldl (updateOne ck) acc.1, U.foldl (fun S p => insert S p.1 (ck.parseErrs p.2)) acc.2) := by
  induction U generalizing acc with
  | nil => rfl
  | cons p t ih => exact ih _

theorem update_inv (hF : Frame ck) (hL : LocalW ck) (hK : Kinds ck)
    (s : State Mod Content Sig Err) (ups : List (Mod × Content)) (hinv : Inv ck s) :
    Inv ck (update ck s ups) := by
  unfold update
  generalize hUdef : writeBatch ck.root ups = U
  have hUn : NodupKeys U := hUdef ▸ writeBatch_nodup ck.root ups
  have hUr : ck.root ∉ keys U := hUdef ▸ writeBatch_noroot ck.root ups
  have h := List.foldlRecOn (motive := Prep ck (fun _ => True) s (keys U)) U (updateOneSyn ck)
    (prep_start ck hinv.1) fun acc h p hp => prep_write ck h p.1 p.2 (List.mem_map_of_mem hp)
      (fun e => hUr (e ▸ List.mem_map_of_mem hp)) trivial
  rw [foldl_updateOneSyn] at h
  refine prep_recheck ck hF hL hK hinv h _ _ (fun k e => ?_)
    (self_mem_affectedSet ck _ _) (fun k hk => .inr (cov_affectedSet ck _ _ k hk))
    (affected_imports ck _ _)
  -- left: `update`'s pending errors are, name by name, the table of syntax errors the loop has built
  rw [(lookup_foldl_insert ck.parseErrs U hUn [] k).trans Option.or_none,
    ← lookup_map_val U (fun _ a => ck.parseErrs a)]
  exact mem_flatMap_tagged U hUn ck.parseErrs k e

theorem remove_inv (hF : Frame ck) (hL : LocalW ck) (hK : Kinds ck)
    (s : State Mod Content Sig Err) (ms : List Mod) (hg : s.graph = s.sources) (hinv : Inv ck s) :
    Inv ck (remove ck s ms) := by
  unfold remove
  rw [hg]
  have h := List.foldlRecOn
    (motive := fun s1 => Prep ck
      (fun c => ∃ o ∈ ms.filter (fun m => m ≠ ck.root), lookup s.sources o = some c)
      s (ms.filter fun m => m ≠ ck.root) (s1, []))
    _ removeOne (prep_start ck hinv.1)
    fun s1 h m hm => prep_delete ck h m hm (of_decide_eq_true (List.mem_filter.mp hm).2)
  exact prep_recheck_old ck hF hL hK hinv h [] fun k e => ⟨nofun, nofun⟩

omit [DecidableEq Mod] in
theorem mem_renameNames (rs : List (Mod × Mod)) (p : Mod × Mod) (hp : p ∈ rs) :
    p.1 ∈ rs.flatMap (fun p => [p.1, p.2]) ∧ p.2 ∈ rs.flatMap (fun p => [p.1, p.2]) :=
  ⟨List.mem_flatMap.mpr ⟨p, hp, List.mem_cons_self⟩,
    List.mem_flatMap.mpr ⟨p, hp, List.mem_cons_of_mem _ List.mem_cons_self⟩⟩

theorem rename_inv (hF : Frame ck) (hL : LocalW ck) (hK : Kinds ck)
    (s : State Mod Content Sig Err) (rens : List (Mod × Mod)) (hg : s.graph = s.sources)
    (hinv : Inv ck s) :
    Inv ck (rename ck s rens) := by
  unfold rename
  generalize hrdef : renamePairs ck.root rens = rs
  have hroot : ∀ p ∈ rs, p.1 ≠ ck.root ∧ p.2 ≠ ck.root := fun p hp => by
    rw [← hrdef] at hp; exact of_decide_eq_true (List.mem_filter.mp hp).2
  simp only
  rw [hg]
  have h := List.foldlRecOn (motive := Prep ck _ s (rs.flatMap fun p => [p.1, p.2])) rs
    (renameOne ck) (prep_start ck hinv.1) fun acc h p hp => prep_renameOne ck p
      (mem_renameNames rs p hp).1 (mem_renameNames rs p hp).2 (hroot p hp).1 (hroot p hp).2 h
  have hpend := mem_flatMap_tagged (rs.foldl (renameOne ck) (s, [])).2 h.2.1 (fun es => es)
  rw [List.map_id'' (fun _ => rfl)] at hpend
  exact prep_recheck_old ck hF hL hK hinv h _ hpend

theorem step_inv (hF : Frame ck) (hL : LocalW ck) (hK : Kinds ck)
    (s : State Mod Content Sig Err) (op : Op Mod Content) (hg : s.graph = s.sources)
    (hinv : Inv ck s) : Inv ck (step ck s op) := by
  cases op with
  | update ups => exact update_inv ck hF hL hK s ups hinv
  | rename rens => exact rename_inv ck hF hL hK s rens hg hinv
  | remove ms => exact remove_inv ck hF hL hK s ms hg hinv

theorem fresh_inv (S : Sources Mod Content) : Inv ck (fresh ck S) :=
  ⟨fun _ => rfl, fun _ _ => Iff.rfl⟩

/-- `remove` and `rename` take their recheck set from the graph they find and need this of the state they
start from (hypothesis `hg` of `remove_inv`, `rename_inv`, `step_inv`); every operation rebuilds the graph
after it has changed the sources and so establishes it. -/
def GraphFresh (s : State Mod Content Sig Err) : Prop := s.graph = s.sources

theorem graphFresh_step (s : State Mod Content Sig Err) (op : Op Mod Content) :
    GraphFresh (step ck s op) := by
  cases op <;> rfl

theorem renamePairs_cons (root : Mod) (p : Mod × Mod) (rens : List (Mod × Mod)) :
    renamePairs root (p :: rens) =
      if p.1 ≠ root ∧ p.2 ≠ root then p :: renamePairs root rens else renamePairs root rens := by
  simp only [renamePairs, List.filter_cons, decide_eq_true_eq]

theorem lookup_renameOne (acc : State Mod Content Sig Err × List (Mod × List Err)) (p : Mod × Mod)
    (c : Content) (h : lookup acc.1.sources p.1 = some c) (x : Mod) :
    lookup (renameOne ck acc p).1.sources x =
        (if p.2 = x then some c else if p.1 = x then none else lookup acc.1.sources x) ∧
      lookup (renameOne ck acc p).1.globalCx x =
        if p.2 = x then some (ck.sig p.2 c) else if p.1 = x then none else lookup acc.1.globalCx x := by
  rw [renameOne_some ck acc p c h]
  exact ⟨(lookup_insert _ _ _ _).trans (by rw [removeOne, lookup_erase]),
    (lookup_insert _ _ _ _).trans (by rw [removeOne, lookup_erase])⟩

theorem rename_sources (s : State Mod Content Sig Err) (rens : List (Mod × Mod)) :
    (rename ck s rens).sources =
      ((renamePairs ck.root rens).foldl (renameOne ck) (s, [])).1.sources := by
  simp only [rename, recheck_sources, rebuildGraph_sources]

theorem rename_globalCx (s : State Mod Content Sig Err) (rens : List (Mod × Mod)) :
    (rename ck s rens).globalCx =
      ((renamePairs ck.root rens).foldl (renameOne ck) (s, [])).1.globalCx := by
  simp only [rename, recheck_globalCx, rebuildGraph_globalCx]

theorem sources_renameOne (acc : State Mod Content Sig Err × List (Mod × List Err))
    (p : Mod × Mod) : (renameOne ck acc p).1.sources = applyRename acc.1.sources p := by
  unfold renameOne applyRename
  simp only
  cases lookup acc.1.sources p.1 <;> rfl

theorem sources_step (s : State Mod Content Sig Err) (op : Op Mod Content) :
    (step ck s op).sources = applyOp ck.root s.sources op := by
  cases op with
  | update ups =>
    show (recheck ck _ _ _).sources = _
    rw [recheck_sources, rebuildGraph_sources]
    exact (List.foldl_hom State.sources fun _ _ => rfl).symm
  | rename rens =>
    rw [step, rename_sources]
    exact (List.foldl_hom (fun acc : State Mod Content Sig Err × List (Mod × List Err) =>
      acc.1.sources) fun acc p => (sources_renameOne ck acc p).symm).symm
  | remove ms =>
    show (recheck ck _ _ _).sources = _
    rw [recheck_sources, rebuildGraph_sources]
    exact (List.foldl_hom State.sources fun _ _ => rfl).symm

theorem sources_run (ops : List (Op Mod Content)) (s : State Mod Content Sig Err) :
    (run ck ops s).sources = applyOps ck.root ops s.sources := by
  induction ops generalizing s with
  | nil => rfl
  | cons op ops ih =>
    simp only [run, applyOps, List.foldl_cons] at ih ⊢
    rw [ih, sources_step]

/-- keys(`checked_modules`) = keys(`parsed_modules`) = keys(`string_sources`). -/
def CheckedOk (s : State Mod Content Sig Err) : Prop :=
  ∀ m, m ∈ s.checked ↔ (lookup s.sources m).isSome = true

/-- Invariant of the loop of an operation over a batch with names `D`: every entry of
`checked_modules` has a source, and outside of `D` every source has an entry. -/
def CheckedPrep (D : List Mod) (s : State Mod Content Sig Err) : Prop :=
  (∀ m, m ∈ s.checked → (lookup s.sources m).isSome = true) ∧
    ∀ m, m ∉ D → (lookup s.sources m).isSome = true → m ∈ s.checked

theorem checkedPrep_updateOne {s : State Mod Content Sig Err} {D : List Mod}
    (h : CheckedPrep D s) (p : Mod × Content) (hp : p.1 ∈ D) :
    CheckedPrep D (updateOne ck s p) := by
  refine ⟨fun m hm => ?_, fun m hm => ?_⟩
  · show (lookup (insert s.sources p.1 p.2) m).isSome = true
    rw [lookup_insert]; split
    · rfl
    · exact h.1 m hm
  · show (lookup (insert s.sources p.1 p.2) m).isSome = true → _
    rw [lookup_insert, if_neg fun e : p.1 = m => hm (e ▸ hp)]; exact h.2 m hm

/-- `checked_modules.remove(k)`, with or without the source of `k` going as well. -/
theorem checkedPrep_drop {s s' : State Mod Content Sig Err} {D : List Mod}
    (h : CheckedPrep D s) (k : Mod) (hk : k ∈ D)
    (hc : s'.checked = s.checked.filter fun m => m ≠ k)
    (hs : ∀ m, m ≠ k → lookup s'.sources m = lookup s.sources m) : CheckedPrep D s' := by
  have hf : ∀ m, m ∈ s'.checked ↔ m ∈ s.checked ∧ m ≠ k := fun m => by
    rw [hc, List.mem_filter, decide_eq_true_eq]
  refine ⟨fun m hm => ?_, fun m hm => ?_⟩
  · obtain ⟨h1, h2⟩ := (hf m).mp hm
    rw [hs m h2]; exact h.1 m h1
  · have hne : m ≠ k := fun e => hm (e ▸ hk)
    rw [hf, hs m hne, and_iff_left hne]; exact h.2 m hm

theorem checkedPrep_of_ok {s : State Mod Content Sig Err} (h : CheckedOk s) (D : List Mod) :
    CheckedPrep D s :=
  ⟨fun m => (h m).mp, fun m _ => (h m).mpr⟩

theorem recheck_checked (s : State Mod Content Sig Err) (pending : List (Mod × Err))
    (D R : List Mod) (h : CheckedPrep D s) (hDR : ∀ x ∈ D, x ∈ R) :
    CheckedOk (recheck ck s pending R) := by
  intro m
  show m ∈ R.filter (fun m => (lookup s.sources m).isSome) ++ s.checked ↔
    (lookup s.sources m).isSome = true
  rw [List.mem_append, List.mem_filter]
  constructor
  · rintro (⟨_, hm⟩ | hm)
    · exact hm
    · exact h.1 m hm
  · intro hs
    by_cases hm : m ∈ R
    · exact .inl ⟨hm, hs⟩
    · exact .inr (h.2 m (fun hd => hm (hDR m hd)) hs)

theorem update_checked (s : State Mod Content Sig Err) (ups : List (Mod × Content))
    (h : CheckedOk s) : CheckedOk (update ck s ups) :=
  recheck_checked ck _ _ _ _
    (List.foldlRecOn (motive := CheckedPrep (keys (writeBatch ck.root ups))) _ (updateOne ck)
      (checkedPrep_of_ok h _)
      fun _ hs' p hp => checkedPrep_updateOne ck hs' p (List.mem_map_of_mem hp))
    (self_mem_affectedSet ck _ _)

theorem remove_checked (s : State Mod Content Sig Err) (ms : List Mod)
    (h : CheckedOk s) : CheckedOk (remove ck s ms) :=
  recheck_checked ck _ _ _ _
    (List.foldlRecOn (motive := CheckedPrep (ms.filter fun m => m ≠ ck.root)) _ removeOne
      (checkedPrep_of_ok h _)
      fun s' hs' k hk => checkedPrep_drop hs' k hk rfl fun m hm =>
        (lookup_erase s'.sources k m).trans (if_neg (Ne.symm hm)))
    (self_mem_affectedSet ck _ _)

theorem rename_checked (s : State Mod Content Sig Err) (rens : List (Mod × Mod))
    (h : CheckedOk s) : CheckedOk (rename ck s rens) := by
  unfold rename
  generalize renamePairs ck.root rens = rs
  have hf := List.foldlRecOn
    (motive := fun acc : State Mod Content Sig Err × List (Mod × List Err) =>
      CheckedPrep (rs.flatMap fun p => [p.1, p.2]) acc.1)
    rs (renameOne ck) (b := (s, [])) (checkedPrep_of_ok h _)
    fun acc hacc p hp => by
      obtain ⟨h1, h2⟩ := mem_renameNames _ p hp
      cases hl : lookup acc.1.sources p.1 with
      | none =>
        rw [renameOne_none ck acc p hl]
        exact checkedPrep_drop hacc p.1 h1 rfl fun _ _ => rfl
      | some c =>
        rw [renameOne_some ck acc p c hl]
        exact checkedPrep_updateOne ck (checkedPrep_drop hacc p.1 h1 rfl fun m hm =>
          (lookup_erase acc.1.sources p.1 m).trans (if_neg (Ne.symm hm))) (p.2, c) h2
  exact recheck_checked ck _ _ _ _ hf (self_mem_affectedSet ck _ _)

theorem fresh_checked (S : Sources Mod Content) : CheckedOk (fresh ck S) := by
  intro m
  show m ∈ keys S ↔ (lookup S m).isSome = true
  rw [Option.isSome_iff_ne_none, Ne, lookup_eq_none_iff, Decidable.not_not]

theorem step_checked (s : State Mod Content Sig Err) (op : Op Mod Content)
    (h : CheckedOk s) : CheckedOk (step ck s op) := by
  cases op with
  | update ups => exact update_checked ck s ups h
  | rename rens => exact rename_checked ck s rens h
  | remove ms => exact remove_checked ck s ms h

theorem delete_glue (root : Mod) (files : List (Option Mod))
    (h : ∀ m, some m ∈ files → m ≠ root) :
    (files.map (fun o => o.getD root)).filter (fun m => m ≠ root) = files.filterMap id := by
  induction files with
  | nil => rfl
  | cons o t ih =>
    have ih' := ih fun m hm => h m (List.mem_cons_of_mem _ hm)
    cases o with
    | none => simpa using ih'
    | some m => simpa [h m List.mem_cons_self] using ih'

theorem rename_glue (root : Mod) (pairs : List (Option Mod × Option Mod))
    (h : ∀ p ∈ pairs, p.1 ≠ some root ∧ p.2 ≠ some root) :
    renamePairs root (insidePairs pairs) = insidePairs pairs := by
  refine List.filter_eq_self.mpr fun q hq => ?_
  obtain ⟨p, hp, hpq⟩ := List.mem_filterMap.mp hq
  split at hpq
  · rename_i a b ha hb
    cases hpq
    exact decide_eq_true ⟨fun e => (h p hp).1 (e ▸ ha), fun e => (h p hp).2 (e ▸ hb)⟩
  · cases hpq

theorem glue_file_view (root : Mod) (S : Sources Mod Content) (ev : Event Mod Content)
    (h : EventNoRoot root ev) : applyOp root S (glue root ev) = applyEvent root S ev := by
  -- the cases of `glue`: change inside / outside of the source directory, create, rename, delete
  fun_cases glue root ev with
  | case1 m t =>
    have hm : m ≠ root := fun e => h (by rw [e])
    simp [applyOp, applyEvent, writeBatch, hm, insert, erase]
  | case2 t => rfl
  | case3 files => rfl
  | case4 pairs => exact congrArg (List.foldl applyRename S) (rename_glue root pairs h)
  | case5 files => exact congrArg (List.foldl erase S) (delete_glue root files h)

omit [DecidableEq Mod] in
theorem at_eq_of_stable (e : EChecker Mod Content Sig Err) (h : NamesStable e) (t t' : Nat) :
    e.at t = e.at t' := by
  have : e.sigAt t = e.sigAt t' := funext fun m => funext fun c => h t t' m c
  simp only [EChecker.at, this]

theorem runE_eq_run (e : EChecker Mod Content Sig Err) (h : NamesStable e) (t : Nat)
    (ops : List (Op Mod Content)) (s : State Mod Content Sig Err) :
    runE e t ops s = run (e.at 0) ops s := by
  induction ops generalizing t s with
  | nil => rfl
  | cons op ops ih =>
    simp only [runE, run, List.foldl_cons]
    rw [ih, at_eq_of_stable e h t 0]
    rfl

end Server

end SamVerif.Incremental
