import SamVerif.Model.TailStmt
import SamVerif.Lemmas.TailRec
/-! C01 / K3b: the tail-recursion rewrite over statement lists, one activation against one iteration. -/
namespace SamVerif.TailStmt
open SamVerif.TailRec (Name Expr Env upd bindParams seqAssign readsOther)
open SamVerif.Opt (Op)

variable (ev : Op → Int → Int → Option Int) (callee : List Int → Option Int)

theorem exec_append (a b : Blk) (env : Env) :
    execBlk ev callee env (a.append b) =
      match execBlk ev callee env a with
      | none => none
      | some (.broke v) => some (.broke v)
      | some (.next e) => execBlk ev callee e b := by
  fun_induction execBlk ev callee env a <;> simp_all [Blk.append, execBlk]

theorem foldl_upd_notin (val : Final → Int) : ∀ (fs : List Final) (e0 : Env) (x : Name),
    x ∉ fs.map (·.1) → (fs.foldl (fun e f => upd e f.1 (val f)) e0) x = e0 x := by
  intro fs
  induction fs with
  | nil => intro e0 x _; rfl
  | cons g rest ih =>
    intro e0 x h
    simp only [List.map_cons, List.mem_cons, not_or] at h
    simp only [List.foldl_cons]
    rw [ih _ x h.2]
    simp [upd, h.1]

theorem foldl_upd_mem (val : Final → Int) : ∀ (fs : List Final) (e0 : Env) (f : Final),
    (fs.map (·.1)).Nodup → f ∈ fs → (fs.foldl (fun e g => upd e g.1 (val g)) e0) f.1 = val f := by
  intro fs
  induction fs with
  | nil => intro e0 f _ h; cases h
  | cons g rest ih =>
    intro e0 f hnd hm
    simp only [List.map_cons, List.nodup_cons] at hnd
    simp only [List.foldl_cons]
    rcases List.mem_cons.mp hm with h | h
    · subst h
      rw [foldl_upd_notin val rest _ _ hnd.1]
      simp [upd]
    · exact ih _ f hnd.2 h

theorem applyFinals_mem (env : Env) (b : Bool) (fs : List Final) (f : Final)
    (hnd : (fs.map (·.1)).Nodup) (hm : f ∈ fs) :
    applyFinals env b fs f.1 = (if b then f.2.1 else f.2.2).eval env :=
  foldl_upd_mem (fun g => (if b then g.2.1 else g.2.2).eval env) fs env f hnd hm

theorem plain_no_broke (b : Blk) : ∀ (env : Env) (v : Int), plain b = true →
    execBlk ev callee env b ≠ some (.broke v) := by
  induction b with
  | done => intro env v _; simp [execBlk]
  | brk e => intro env v h; simp [plain] at h
  | sif c inv body k _ _ => intro env v h; simp [plain] at h
  | bin x op e1 e2 k ih =>
    intro env v h
    simp only [execBlk]
    split
    · simp
    · exact ih _ v (by simpa [plain] using h)
  | cast x e k ih => intro env v h; simp only [execBlk]; exact ih _ v (by simpa [plain] using h)
  | call args rc k ih =>
    intro env v h
    simp only [execBlk]
    split
    · simp
    · exact ih _ v (by simpa [plain] using h)
  | ifElse c s1 s2 fs k ih1 ih2 ihk =>
    intro env v h
    simp only [plain, Bool.and_eq_true] at h
    simp only [execBlk]
    split
    · split
      · simp
      · rename_i hq; exact absurd hq (ih1 _ _ h.1.1)
      · exact ihk _ v h.2
    · split
      · simp
      · rename_i hq; exact absurd hq (ih2 _ _ h.1.2)
      · exact ihk _ v h.2

/-- One statement, as a function of the list that follows it. -/
inductive Stmt : (Blk → Blk) → Prop
  | bin (x : Name) (op : Op) (e1 e2 : Expr) : Stmt (.bin x op e1 e2)
  | cast (x : Name) (e : Expr) : Stmt (.cast x e)
  | call (args : List Expr) (rc : Option Name) : Stmt (.call args rc)
  | ifElse (c : Expr) (s1 s2 : Blk) (fs : List Final) : Stmt (.ifElse c s1 s2 fs)
  | sif (c : Expr) (inv : Bool) (body : Blk) : Stmt (.sif c inv body)

/-- `relevant_final_assignment` (l.53-54). -/
def relOf (erc : Option Name) (fs : List Final) : Option Final := fs.find? fun f => erc == some f.1

/-- The collectors expected of the two branches of a final `IfElse` (l.55-67). -/
def branchErc (erc : Option Name) (fs : List Final) : Option (Option Name × Option Name) :=
  match erc with
  | some _ =>
    match relOf erc fs with
    | some f => some (asVar f.2.1, asVar f.2.2)
    | none => none
  | none => some (none, none)

/-- The value a branch left alone breaks with. -/
def brkVal (erc : Option Name) (fs : List Final) (b : Bool) : Expr :=
  match relOf erc fs with
  | some f => if b then f.2.1 else f.2.2
  | none => .lit 0

/-- What an accepted list and its rewritten form look like, one constructor for each way the source
returns `Ok`: `call`, a final self call into the expected collector (l.32-51); for a final `IfElse`,
`errOk` = `(Err, Ok)` (l.88-103: only the second branch is rewritten, the first breaks), `okErr` =
`(Ok, Err)` (l.104-119), `okOk` = `(Ok, Ok)` (l.120-145, loop values through fresh temporaries);
`front`, a statement that is not the last one, kept in front of the rewritten rest. Every successful
run of `tryRw` is of one of these forms (`Rw.of_tryRw`); proofs about accepted lists are inductions
over this relation. -/
inductive Rw (np : Nat) : Blk → Option Name → Nat → RwRes → Prop
  | call (args : List Expr) (erc : Option Name) (n : Nat) :
      Rw np (.call args erc .done) erc n
        ((match erc with
          | some r => .bin r .add (.lit 0) (.lit 0) .done
          | none => .done), args, n)
  | front {w : Blk → Blk} {k : Blk} {erc : Option Name} {n : Nat} {st : Blk} {a : List Expr} {m : Nat} :
      Stmt w → k.isDone = false → Rw np k erc n (st, a, m) → Rw np (w k) erc n (w st, a, m)
  | errOk {c : Expr} {s1 s2 : Blk} {fs : List Final} {erc c1 c2 : Option Name} {n : Nat}
      {st2 : Blk} {a2 : List Expr} {n2 : Nat} :
      branchErc erc fs = some (c1, c2) → Rw np s2 c2 n (st2, a2, n2) →
      Rw np (.ifElse c s1 s2 fs .done) erc n
        (.sif c false (s1.append (.brk (brkVal erc fs true))) st2, a2, n2)
  | okErr {c : Expr} {s1 s2 : Blk} {fs : List Final} {erc c1 c2 : Option Name} {n : Nat}
      {st1 : Blk} {a1 : List Expr} {n1 : Nat} :
      branchErc erc fs = some (c1, c2) → Rw np s1 c1 n (st1, a1, n1) →
      Rw np (.ifElse c s1 s2 fs .done) erc n
        (.sif c true (s2.append (.brk (brkVal erc fs false))) st1, a1, n1)
  | okOk {c : Expr} {s1 s2 : Blk} {fs : List Final} {erc c1 c2 : Option Name} {n : Nat}
      {st1 st2 : Blk} {a1 a2 : List Expr} {n1 n2 : Nat} :
      branchErc erc fs = some (c1, c2) → Rw np s1 c1 n (st1, a1, n1) → Rw np s2 c2 n1 (st2, a2, n2) →
      Rw np (.ifElse c s1 s2 fs .done) erc n
        (.ifElse c st1 st2 (fs.filter (fun f => !(erc == some f.1)) ++
            ((mkTemps n2 (min (min a1.length a2.length) np)).zip (a1.zip a2)).map
              fun t => (t.1, t.2.1, t.2.2)) .done,
          (mkTemps n2 (min (min a1.length a2.length) np)).map .var,
          n2 + min (min a1.length a2.length) np)

theorem isDone_eq (k : Blk) (h : k.isDone = true) : k = .done := by
  cases k <;> simp [Blk.isDone] at h ⊢

/-- The cases are those of `tryRw`, in its order; `hk` says whether the statement is the last one. -/
theorem Rw.of_tryRw (np : Nat) (b : Blk) (erc : Option Name) (n : Nat) : ∀ (res : RwRes),
    tryRw np b erc n = some res → Rw np b erc n res := by
  have front : ∀ {w : Blk → Blk} {k : Blk} {erc n res}, Stmt w → ¬k.isDone = true →
      (∀ res, tryRw np k erc n = some res → Rw np k erc n res) →
      (tryRw np k erc n).map (fun r => (w r.1, r.2)) = some res → Rw np (w k) erc n res := by
    intro w k erc n res hw hk ih h
    obtain ⟨⟨st, a, m⟩, hr, rfl⟩ := Option.map_eq_some_iff.mp h
    exact Rw.front hw (by simpa using hk) (ih _ hr)
  fun_induction tryRw np b erc n <;> intro res h
  case case1 | case2 | case3 => cases h                      -- empty list, `Break`, last `Binary`: `Err`
  case case4 hk ih => exact front (.bin ..) hk ih h           -- `Binary` in front
  case case5 => cases h                                       -- last `Cast`: `Err`
  case case6 hk ih => exact front (.cast ..) hk ih h          -- `Cast` in front
  case case7 => cases h                                       -- last `SingleIf`: `Err`
  case case8 hk ih => exact front (.sif ..) hk ih h           -- `SingleIf` in front
  case case9 hk => cases isDone_eq _ hk; cases h; exact Rw.call ..   -- last self call into `erc`
  case case10 => cases h                                      -- last self call, other collector: `Err`
  case case11 hk ih => exact front (.call ..) hk ih h         -- self call in front
  case case12 | case13 => cases h                             -- last `IfElse`: `erc` is no final assignment, `(Err, Err)`
  case case14 hk rel newErc c1 c2 hnew h1 st2 a2 n2 h2 ih1 ih2 =>   -- `(Err, Ok)`
    cases isDone_eq _ hk; cases h; exact Rw.errOk hnew (ih2 _ h2)
  case case15 hk rel newErc c1 c2 hnew st1 a1 n1 h1 h2 ih1 ih2 =>   -- `(Ok, Err)`
    cases isDone_eq _ hk; cases h; exact Rw.okErr hnew (ih1 _ h1)
  case case16 hk rel newErc c1 c2 hnew st1 a1 n1 h1 st2 a2 n2 h2 cnt temps kept added ih1 ih2 =>   -- `(Ok, Ok)`
    cases isDone_eq _ hk; cases h; exact Rw.okOk hnew (ih1 _ h1) (ih2 _ h2)
  case case17 hk ih => exact front (.ifElse ..) hk ih h       -- `IfElse` in front

section
variable {w : Blk → Blk} (hw : Stmt w) {k : Blk} (hk : k.isDone = false)
include hw

theorem front_eq_append (k : Blk) : w k = (w .done).append k := by
  cases hw <;> rfl

theorem plain_front (h : plain (w k) = true) : plain (w .done) = true ∧ plain k = true := by
  cases hw <;> simp_all [plain]

include hk

theorem good_front (np : Nat) (erc : Option Name) : good np (w k) erc = good np k erc := by
  cases hw <;> simp only [good, hk, Bool.false_eq_true, if_false]

theorem noBareTail_front : noBareTail (w k) = noBareTail k := by
  cases hw <;> simp only [noBareTail, hk, Bool.false_eq_true, if_false, Bool.false_or]

end

theorem Rw.bareTail {np : Nat} {b : Blk} {erc : Option Name} {n : Nat} {res : RwRes}
    (h : Rw np b erc n res) : erc = none → noBareTail b = false := by
  induction h with
  | call args erc n => intro he; subst he; rfl
  | front hw hk _ ih => intro he; rw [noBareTail_front hw hk]; exact ih he
  -- a final `IfElse`: its branches are rewritten without a collector too, and one of them is
  | errOk hnew _ ih | okErr hnew _ ih | okOk hnew _ _ ih _ =>
    intro he; subst he; cases hnew
    simp [noBareTail, Blk.isDone, ih rfl]

theorem mkTemps_nodup (n cnt : Nat) : (mkTemps n cnt).Nodup := by
  have : mkTemps n cnt = List.range' (tempBase + n) cnt := by
    unfold mkTemps
    rw [List.range'_eq_map_range]
  rw [this]
  exact List.nodup_range'

theorem mkTemps_length (n cnt : Nat) : (mkTemps n cnt).length = cnt := by simp [mkTemps]

/-- After the final assignments of the `(Ok, Ok)` case, the fresh temporaries hold the loop values
of the taken branch, read at the end of that branch. -/
theorem temps_values (e2 : Env) (b : Bool) : ∀ (ts : List Name) (kept : List Final) (a1 a2 : List Expr),
    ts.Nodup → a1.length = ts.length → a2.length = ts.length →
    (ts.map Expr.var).map (Expr.eval
        (applyFinals e2 b (kept ++ (ts.zip (a1.zip a2)).map fun t => (t.1, t.2.1, t.2.2)))) =
      (if b then a1 else a2).map (Expr.eval e2) := by
  intro ts
  induction ts with
  | nil =>
    intro kept a1 a2 _ h1 h2
    cases List.eq_nil_of_length_eq_zero h1
    cases List.eq_nil_of_length_eq_zero h2
    cases b <;> rfl
  | cons t ts ih =>
    intro kept a1 a2 hnd h1 h2
    match a1, a2, h1, h2 with
    | x :: a1, y :: a2, h1, h2 =>
    obtain ⟨htn, hnd'⟩ := List.nodup_cons.mp hnd
    -- the assignment to `t` is not overwritten: the later ones assign names of `ts`
    have hlater : t ∉ ((ts.zip (a1.zip a2)).map fun u => ((u.1, u.2.1, u.2.2) : Final)).map (·.1) := by
      simp only [List.map_map, List.mem_map, not_exists, not_and]
      rintro u hu rfl
      exact htn (List.of_mem_zip hu).1
    have hhead : applyFinals e2 b (kept ++ (t, x, y) :: (ts.zip (a1.zip a2)).map fun u => (u.1, u.2.1, u.2.2)) t =
        (if b then x else y).eval e2 := by
      unfold applyFinals
      rw [List.foldl_append, List.foldl_cons, foldl_upd_notin _ _ _ _ hlater]
      simp [upd]
    have htail := ih (kept ++ [(t, x, y)]) a1 a2 hnd' (by simpa using h1) (by simpa using h2)
    rw [List.append_assoc, List.singleton_append] at htail
    simp only [List.zip_cons_cons, List.map_cons, Expr.eval, hhead, htail]
    cases b <;> rfl

/-- What one iteration of the loop body prescribes for the activation of the recursive function:
a trap (`none`), the value broken out with, or what the callee returns on the loop values `args`
read at the end of the iteration (`none` again if the callee traps). -/
def outcome (args : List Expr) : Option Flow → Option Int
  | none => none
  | some (.broke v) => some v
  | some (.next e2) => callee (args.map (Expr.eval e2))

/-- One activation of the recursive function (`r`) against one iteration of the loop body (`l`):
the activation traps when a trap is prescribed, and otherwise ends with the prescribed value in the
expected collector. -/
def RelL (erc : Option Name) (args : List Expr) (r l : Option Flow) : Prop :=
  match outcome callee args l with
  | none => r = none
  | some v => ∃ env', r = some (.next env') ∧ ∀ x, erc = some x → env' x = v

/-- Running a final `IfElse` branch and then its final assignments. -/
def thenFinals (b : Bool) (fs : List Final) : Option Flow → Option Flow
  | none => none
  | some (.broke v) => some (.broke v)
  | some (.next e1) => some (.next (applyFinals e1 b fs))

/-- Value transfer through the final assignments. -/
def VT (erc ci : Option Name) (b : Bool) (fs : List Final) : Prop :=
  ∀ (e' : Env) (v : Int), (∀ y, ci = some y → e' y = v) → ∀ x, erc = some x → applyFinals e' b fs x = v

/-- Final assignments on the activation's side: from the collector `ci` of a branch to the collector
`erc` of the `IfElse`, provided they hand the value on (`VT`). -/
theorem RelL.thenFinals_left (erc ci : Option Name) (args : List Expr) (b : Bool) (fs : List Final)
    (ri li : Option Flow) (h : RelL callee ci args ri li) (vt : VT erc ci b fs) :
    RelL callee erc args (thenFinals b fs ri) li := by
  unfold RelL at h ⊢
  cases ho : outcome callee args li with
  | none =>
    rw [ho] at h
    subst h
    exact rfl
  | some v =>
    rw [ho] at h
    obtain ⟨e', rfl, hc⟩ := h
    exact ⟨_, rfl, vt e' v hc⟩

/-- Final assignments on the loop's side: the loop values `args'` read after them are the values
`args` read before them (the fresh temporaries of `(Ok, Ok)`). -/
theorem RelL.thenFinals_right {erc : Option Name} {args args' : List Expr} {r l : Option Flow}
    (b : Bool) (fs : List Final) (h : RelL callee erc args r l)
    (hv : ∀ e2, args'.map (Expr.eval (applyFinals e2 b fs)) = args.map (Expr.eval e2)) :
    RelL callee erc args' r (thenFinals b fs l) := by
  cases l with
  | none => exact h
  | some fl =>
    cases fl with
    | broke v => exact h
    | next e2 =>
      simp only [RelL, outcome, thenFinals, hv]
      exact h

theorem vt_none (ci : Option Name) (b : Bool) (fs : List Final) : VT none ci b fs := by
  intro e' v _ x hx; cases hx

/-- Value transfer into the expected collector `x` through its final assignment `f`, for the
branch `s` that contributes the expression `e` to `f`: a variable hands the value on;
with a literal, `good` says that `s` has no bare tail call, so the rewrite of `s` fails. -/
theorem vt_branch (np : Nat) (x : Name) (b : Bool) (fs : List Final) (f : Final) (s : Blk)
    (hnd : (fs.map (·.1)).Nodup) (hm : f ∈ fs) (hx : f.1 = x) {e : Expr}
    (he : (if b then f.2.1 else f.2.2) = e) (hg : (asVar e).isSome = true ∨ noBareTail s = true)
    (n : Nat) (r : RwRes) (hs : Rw np s (asVar e) n r) : VT (some x) (asVar e) b fs := by
  cases e with
  | var y =>
    intro e' v hc x' hx'
    cases hx'
    rw [← hx, applyFinals_mem e' b fs f hnd hm, he]
    exact hc y rfl
  | lit m =>
    have hnb : noBareTail s = true := hg.resolve_left (by simp [asVar])
    rw [hs.bareTail rfl] at hnb
    cases hnb

theorem exec_ifElse_done (c : Expr) (s1 s2 : Blk) (fs : List Final) (env : Env) :
    execBlk ev callee env (.ifElse c s1 s2 fs .done) =
      if c.eval env ≠ 0 then thenFinals true fs (execBlk ev callee env s1)
      else thenFinals false fs (execBlk ev callee env s2) := by
  simp only [execBlk]
  by_cases hb : c.eval env ≠ 0
  · rw [if_pos hb, if_pos hb]
    cases execBlk ev callee env s1 with
    | none => rfl
    | some fl => cases fl <;> rfl
  · rw [if_neg hb, if_neg hb]
    cases execBlk ev callee env s2 with
    | none => rfl
    | some fl => cases fl <;> rfl

/-- A plain statement list `p` in front of both sides: it runs the same on both, and never breaks. -/
theorem RelL.front {erc : Option Name} {args : List Expr} (p : Blk) (hp : plain p = true) (k k' : Blk)
    (env : Env) (h : ∀ e, RelL callee erc args (execBlk ev callee e k) (execBlk ev callee e k')) :
    RelL callee erc args (execBlk ev callee env (p.append k)) (execBlk ev callee env (p.append k')) := by
  rw [exec_append, exec_append]
  cases hs : execBlk ev callee env p with
  | none => exact rfl
  | some fl =>
    cases fl with
    | broke v => exact absurd hs (plain_no_broke ev callee p _ _ hp)
    | next e => exact h e

/-- A branch the rewrite leaves alone becomes the body of a `SingleIf` that breaks with the value
the relevant final assignment gives the collector. The right-hand side is the taken arm of `execBlk`
at that `SingleIf`, as `core` meets it; its `next` arm, the only place where the rest `k` of the
loop body occurs, is dead because the body ends in `Break`. -/
theorem RelL.brk (erc : Option Name) (args : List Expr) (b : Bool) (fs : List Final) (s k : Blk)
    (v : Expr) (hs : plain s = true) (env : Env)
    (hv : ∀ e1 x, erc = some x → applyFinals e1 b fs x = v.eval e1) :
    RelL callee erc args (thenFinals b fs (execBlk ev callee env s))
      (match execBlk ev callee env (s.append (.brk v)) with
        | none => none
        | some (.broke w) => some (.broke w)
        | some (.next e1) => execBlk ev callee e1 k) := by
  rw [exec_append]
  cases hq : execBlk ev callee env s with
  | none => exact rfl
  | some fl =>
    cases fl with
    | broke w => exact absurd hq (plain_no_broke ev callee s _ _ hs)
    | next e1 => exact ⟨_, rfl, hv e1⟩

/-- What `good` says of a final `IfElse` whose branches expect the collectors `c1`, `c2`: the branches
are `good`, the final assignments hand a branch's value on to `erc`, and a branch left alone breaks
with `brkVal`. The value transfer is claimed for a rewritten branch only: where the final assignment
takes a literal for a branch nothing is handed on, and `good` makes such a branch one that is not
rewritten (`vt_branch`). -/
theorem good_ifElse {np : Nat} {c : Expr} {s1 s2 : Blk} {fs : List Final} {erc c1 c2 : Option Name}
    (hg : good np (.ifElse c s1 s2 fs .done) erc = true) (hnew : branchErc erc fs = some (c1, c2)) :
    good np s1 c1 = true ∧ good np s2 c2 = true ∧
      (∀ n1 r1, Rw np s1 c1 n1 r1 → VT erc c1 true fs) ∧
      (∀ n2 r2, Rw np s2 c2 n2 r2 → VT erc c2 false fs) ∧
      (∀ (b : Bool) e1 x, erc = some x → applyFinals e1 b fs x = (brkVal erc fs b).eval e1) := by
  simp only [good, Blk.isDone, if_true, Bool.and_eq_true, decide_eq_true_eq] at hg
  unfold branchErc relOf at hnew
  unfold brkVal relOf
  cases erc with
  | none =>
    simp at hnew
    obtain ⟨rfl, rfl⟩ := hnew
    have := hg.2
    simp only [Bool.and_eq_true] at this
    exact ⟨this.1, this.2, fun _ _ _ => vt_none _ _ _, fun _ _ _ => vt_none _ _ _,
      fun _ _ x hx => by cases hx⟩
  | some x =>
    simp only at hnew
    split at hnew
    · rename_i f hf
      simp only [Option.some.injEq, Prod.mk.injEq] at hnew
      obtain ⟨rfl, rfl⟩ := hnew
      have hmem : f ∈ fs := List.mem_of_find?_eq_some hf
      have hfx : f.1 = x := by
        have := List.find?_some hf
        simp only [beq_iff_eq, Option.some.injEq] at this
        exact this.symm
      have hg2 := hg.2
      simp only [hf, Bool.and_eq_true, Bool.or_eq_true] at hg2
      refine ⟨hg2.1.1.1, hg2.1.1.2, ?_, ?_, ?_⟩
      · exact fun n1 r1 => vt_branch np x true fs f s1 hg.1 hmem hfx rfl hg2.1.2 n1 r1
      · exact fun n2 r2 => vt_branch np x false fs f s2 hg.1 hmem hfx rfl hg2.2 n2 r2
      · intro b e1 x' hx'
        cases hx'
        rw [← hfx]
        exact applyFinals_mem e1 b fs f hg.1 hmem
    · cases hnew

theorem Rw.args_length {np : Nat} {b : Blk} {erc : Option Name} {n : Nat} {res : RwRes}
    (h : Rw np b erc n res) : good np b erc = true → res.2.1.length = np := by
  induction h with
  | call args erc n =>
    intro hg
    simp only [good, Blk.isDone, if_true, Bool.and_eq_true, beq_iff_eq] at hg
    exact hg.1
  | front hw hk _ ih => intro hg; exact ih (good_front hw hk np _ ▸ hg)
  | errOk hnew _ ih => intro hg; exact ih (good_ifElse hg hnew).2.1
  | okErr hnew _ ih => intro hg; exact ih (good_ifElse hg hnew).1
  | okOk hnew _ _ ih1 ih2 =>
    intro hg
    have hgd := good_ifElse hg hnew
    simp [mkTemps, ih1 hgd.1, ih2 hgd.2.1]

theorem tryRw_args_length (np : Nat) (b : Blk) : ∀ (erc : Option Name) (n : Nat) (res : RwRes),
    tryRw np b erc n = some res → good np b erc = true → res.2.1.length = np :=
  fun erc n res h => (Rw.of_tryRw np b erc n res h).args_length

/-- **Core**: a list accepted by the rewrite, executed once, against its rewritten form. `hadd`:
for a final self call with collector `r` the rewrite emits `r = 0 + 0` (`tryRw`, source l.38-46),
which must not trap where the call did not. -/
theorem core (np : Nat) (hadd : (ev .add 0 0).isSome = true) {b : Blk} {erc : Option Name} {n : Nat}
    {res : RwRes} (h : Rw np b erc n res) : plain b = true → good np b erc = true → ∀ (env : Env),
      RelL callee erc res.2.1 (execBlk ev callee env b) (execBlk ev callee env res.1) := by
  induction h with
  | call args rc n =>
    intro _ hg env
    simp only [good, Blk.isDone, if_true, Bool.and_eq_true, beq_iff_eq] at hg
    cases rc with
    | none =>
      simp only [execBlk]
      cases hcal : callee (args.map (Expr.eval env)) with
      | none => simp [RelL, outcome, hcal]
      | some rv => simp [RelL, outcome, hcal]
    | some r =>
      obtain ⟨z, hz⟩ := Option.isSome_iff_exists.mp hadd
      have hfresh : ∀ a ∈ args, a ≠ .var r := by
        intro a ha hav
        have := hg.2
        simp only [Bool.not_eq_true', List.contains_eq_mem, decide_eq_false_iff_not,
          List.mem_flatMap, not_exists, not_and] at this
        exact this a ha (by subst hav; simp [exprVar])
      have hargs : args.map (Expr.eval (upd env r z)) = args.map (Expr.eval env) :=
        List.map_congr_left (fun a ha => TailRec.eval_upd_of_ne env r z a (hfresh a ha))
      simp only [execBlk, Expr.eval, hz]
      cases hcal : callee (args.map (Expr.eval env)) with
      | none => simp [RelL, outcome, hargs, hcal]
      | some rv =>
        simp only [RelL, outcome, hargs, hcal]
        exact ⟨_, rfl, fun x hx => by cases hx; simp [upd]⟩
  | @front w k erc n st a m hw hk _ ih =>
    intro hp hg env
    obtain ⟨hpw, hpk⟩ := plain_front hw hp
    rw [front_eq_append hw k, front_eq_append hw st]
    exact RelL.front ev callee _ hpw k st env (ih hpk (good_front hw hk np _ ▸ hg))
  | @errOk c s1 s2 fs erc c1 c2 n st2 a2 n2 hnew h2 ih =>
    intro hp hg env
    simp only [plain, Bool.and_eq_true] at hp
    obtain ⟨hg1, hg2, hvt1, hvt2, hbrk⟩ := good_ifElse hg hnew
    rw [exec_ifElse_done]
    simp only [execBlk]
    by_cases hb : c.eval env ≠ 0
    · rw [if_pos hb, if_pos (by simpa using hb)]
      exact RelL.brk ev callee erc a2 true fs s1 st2 _ hp.1.1 env (hbrk true)
    · rw [if_neg hb, if_neg (by simpa using hb)]
      exact RelL.thenFinals_left callee erc c2 a2 false fs _ _ (ih hp.1.2 hg2 env) (hvt2 n _ h2)
  | @okErr c s1 s2 fs erc c1 c2 n st1 a1 n1 hnew h1 ih =>
    intro hp hg env
    simp only [plain, Bool.and_eq_true] at hp
    obtain ⟨hg1, hg2, hvt1, hvt2, hbrk⟩ := good_ifElse hg hnew
    rw [exec_ifElse_done]
    simp only [execBlk]
    by_cases hb : c.eval env ≠ 0
    · rw [if_pos hb, if_neg (by simpa using hb)]
      exact RelL.thenFinals_left callee erc c1 a1 true fs _ _ (ih hp.1.1 hg1 env) (hvt1 n _ h1)
    · rw [if_neg hb, if_pos (by simpa using hb)]
      exact RelL.brk ev callee erc a1 false fs s2 st1 _ hp.1.2 env (hbrk false)
  | @okOk c s1 s2 fs erc c1 c2 n st1 st2 a1 a2 n1 n2 hnew h1 h2 ih1 ih2 =>
    intro hp hg env
    simp only [plain, Bool.and_eq_true] at hp
    obtain ⟨hg1, hg2, hvt1, hvt2, hbrk⟩ := good_ifElse hg hnew
    have l1 : a1.length = np := h1.args_length hg1
    have l2 : a2.length = np := h2.args_length hg2
    have hcnt : min (min a1.length a2.length) np = np := by omega
    rw [exec_ifElse_done, exec_ifElse_done]
    simp only [hcnt]
    have hnt := mkTemps_nodup n2 np
    have hlt := mkTemps_length n2 np
    by_cases hb : c.eval env ≠ 0
    · rw [if_pos hb, if_pos hb]
      exact RelL.thenFinals_right callee true _
        (RelL.thenFinals_left callee erc c1 a1 true fs _ _ (ih1 hp.1.1 hg1 env) (hvt1 n _ h1))
        fun e2 => temps_values e2 true _ _ a1 a2 hnt (by omega) (by omega)
    · rw [if_neg hb, if_neg hb]
      exact RelL.thenFinals_right callee false _
        (RelL.thenFinals_left callee erc c2 a2 false fs _ _ (ih2 hp.1.2 hg2 env) (hvt2 _ _ h2))
        fun e2 => temps_values e2 false _ _ a1 a2 hnt (by omega) (by omega)

end SamVerif.TailStmt
