import SamVerif.Model.Useful
/-! Lemmas for `Props/C07.lean` about the model of `pattern_matching.rs`, in this order: vectors of
patterns, values and types, and what typing says of a constructor; facts about one head pattern
(`Pat.ind`) and about the root constructors; how specialisation and the default matrix act on
matching and typing (Maranget's lemmas: `spec_matrix`, `default_unmatched`, `default_unmatched_conv`);
that a typed vector without `nothing()` denotes a value (`okPats`, `exists_matches`); what the two
answers of `signature_incomplete_names` mean on a typed column (`complete_sig`, `missing_ctor`); from
these the notion `Useful` with one lemma per shape of the tested vector's head.  After that, what the
statements of `Props/C07.lean` need besides: the one-column matrix of a `match` (`useful_oneCol`,
`rowToPat`), the parts of the two searches (`anyO`, `firstO`, `sortByKey`, `minCtor`, the head the
counterexample search builds: `cex_head_sound`), and the rank certificate for `Inhabited'`.  `okPats`
(no `nothing()` in a vector) and `SigNodup` (variant names pairwise different), hypotheses of those
statements, are defined here. -/
namespace SamVerif.Useful

theorem pmatchAll_length : ∀ (ps : List Pat) (vs : List Val), pmatchAll ps vs = true → ps.length = vs.length := by
  intro ps vs h
  induction ps generalizing vs with
  | nil => cases vs with
    | nil => rfl
    | cons => rw [pmatchAll] at h; cases h
  | cons p ps ih => cases vs with
    | nil => rw [pmatchAll] at h; cases h
    | cons v vs =>
      rw [pmatchAll, Bool.and_eq_true] at h
      exact congrArg Nat.succ (ih vs h.2)

theorem pmatchAll_append {ps : List Pat} {vs : List Val} {qs : List Pat} {ws : List Val}
    (h : ps.length = vs.length) : pmatchAll (ps ++ qs) (vs ++ ws) = (pmatchAll ps vs && pmatchAll qs ws) := by
  induction ps generalizing vs with
  | nil => cases vs with
    | nil => rw [pmatchAll, Bool.true_and]; rfl
    | cons => cases h
  | cons p ps ih => cases vs with
    | nil => cases h
    | cons v vs =>
      rw [List.cons_append, List.cons_append, pmatchAll, pmatchAll, ih (Nat.succ.inj h), Bool.and_assoc]

theorem wilds_succ (n : Nat) : wilds (n + 1) = .wild :: wilds n := rfl

theorem pmatchAll_wilds (n : Nat) (vs : List Val) (h : vs.length = n) : pmatchAll (wilds n) vs = true := by
  induction n generalizing vs with
  | zero => cases vs with
    | nil => rfl
    | cons => cases h
  | succ n ih => cases vs with
    | nil => cases h
    | cons v vs => rw [wilds_succ, pmatchAll, pmatch, ih vs (Nat.succ.inj h)]; rfl

theorem wilds_length (n : Nat) : (wilds n).length = n := by simp [wilds]

theorem wilds_add (a b : Nat) : wilds (a + b) = wilds a ++ wilds b :=
  List.replicate_append_replicate.symm

theorem pmatchAll_wilds_append (n : Nat) (vs ws : List Val) (rest : List Pat) (h : vs.length = n) :
    pmatchAll (wilds n ++ rest) (vs ++ ws) = pmatchAll rest ws := by
  rw [pmatchAll_append (by simp [wilds_length, h]), pmatchAll_wilds n vs h]; simp

theorem pmatchAny_eq (ps : List Pat) (v : Val) : pmatchAny ps v = ps.any (pmatch · v) := by
  induction ps with
  | nil => rfl
  | cons p ps ih => rw [pmatchAny, ih, List.any_cons]

theorem pmatchAny_iff (ps : List Pat) (v : Val) : pmatchAny ps v = true ↔ ∃ p ∈ ps, pmatch p v = true := by
  rw [pmatchAny_eq, List.any_eq_true]

theorem pmatch_struct {c : Option Ctor} {rs : List Pat} {v : Val} :
    pmatch (.struct c rs) v = true ↔ ∃ ws, v = .con c ws ∧ pmatchAll rs ws = true := by
  cases v with
  | prim k => simp [pmatch]
  | con c' ws =>
    rw [pmatch, Bool.and_eq_true, decide_eq_true_eq]
    constructor
    · rintro ⟨rfl, h⟩; exact ⟨ws, rfl, h⟩
    · rintro ⟨ws', e, h⟩; cases e; exact ⟨rfl, h⟩

theorem patTys_length {sig : Sig} {ps : List Pat} {ts : List Nat} (h : patTys sig ps ts = true) :
    ps.length = ts.length := by
  induction ps generalizing ts with
  | nil => cases ts with
    | nil => rfl
    | cons => rw [patTys] at h; cases h
  | cons p ps ih => cases ts with
    | nil => rw [patTys] at h; cases h
    | cons t ts =>
      rw [patTys, Bool.and_eq_true] at h
      exact congrArg Nat.succ (ih h.2)

theorem hasTys_length {sig : Sig} {vs : List Val} {ts : List Nat} (h : hasTys sig vs ts = true) :
    vs.length = ts.length := by
  induction vs generalizing ts with
  | nil => cases ts with
    | nil => rfl
    | cons => rw [hasTys] at h; cases h
  | cons v vs ih => cases ts with
    | nil => rw [hasTys] at h; cases h
    | cons t ts =>
      rw [hasTys, Bool.and_eq_true] at h
      exact congrArg Nat.succ (ih h.2)

theorem patTys_append {sig : Sig} {ps : List Pat} {ts : List Nat} {qs : List Pat} {us : List Nat}
    (h1 : patTys sig ps ts = true) (h2 : patTys sig qs us = true) : patTys sig (ps ++ qs) (ts ++ us) = true := by
  induction ps generalizing ts with
  | nil => cases ts with
    | nil => exact h2
    | cons => rw [patTys] at h1; cases h1
  | cons p ps ih => cases ts with
    | nil => rw [patTys] at h1; cases h1
    | cons t ts =>
      rw [patTys, Bool.and_eq_true] at h1
      rw [List.cons_append, List.cons_append, patTys, h1.1, ih h1.2]; rfl

theorem patTys_wilds (sig : Sig) : ∀ (ts : List Nat), patTys sig (wilds ts.length) ts = true
  | [] => by simp [wilds, patTys]
  | t :: ts => by
    rw [List.length_cons, wilds_succ]; simp [patTys, patTy, patTys_wilds sig ts]

theorem hasTys_append {sig : Sig} {vs : List Val} {ts : List Nat} {ws : List Val} {us : List Nat}
    (h1 : hasTys sig vs ts = true) (h2 : hasTys sig ws us = true) : hasTys sig (vs ++ ws) (ts ++ us) = true := by
  induction vs generalizing ts with
  | nil => cases ts with
    | nil => exact h2
    | cons => rw [hasTys] at h1; cases h1
  | cons v vs ih => cases ts with
    | nil => rw [hasTys] at h1; cases h1
    | cons t ts =>
      rw [hasTys, Bool.and_eq_true] at h1
      rw [List.cons_append, List.cons_append, hasTys, h1.1, ih h1.2]; rfl

theorem hasTys_append_inv (sig : Sig) (ts : List Nat) (xs : List Val) (us : List Nat)
    (h : hasTys sig xs (ts ++ us) = true) :
    ∃ vs ws, xs = vs ++ ws ∧ hasTys sig vs ts = true ∧ hasTys sig ws us = true := by
  induction ts generalizing xs with
  | nil => exact ⟨[], xs, rfl, by rw [hasTys], h⟩
  | cons t ts ih => cases xs with
    | nil => rw [List.cons_append, hasTys] at h; cases h
    | cons x xs =>
      rw [List.cons_append, hasTys, Bool.and_eq_true] at h
      obtain ⟨vs, ws, rfl, h1, h2⟩ := ih xs h.2
      exact ⟨x :: vs, ws, rfl, by rw [hasTys, h.1, h1]; rfl, h2⟩

theorem hasTys_cons_inv {sig : Sig} {xs : List Val} {t : Nat} {ts : List Nat}
    (h : hasTys sig xs (t :: ts) = true) :
    ∃ v vs, xs = v :: vs ∧ hasTy sig v t = true ∧ hasTys sig vs ts = true := by
  cases xs with
  | nil => simp [hasTys] at h
  | cons v vs => exact ⟨v, vs, rfl, by simpa [hasTys] using h⟩

theorem patTys_cons_inv {sig : Sig} {p : Pat} {ps : List Pat} {ts : List Nat}
    (h : patTys sig (p :: ps) ts = true) :
    ∃ t ts', ts = t :: ts' ∧ patTy sig p t = true ∧ patTys sig ps ts' = true := by
  cases ts with
  | nil => simp [patTys] at h
  | cons t ts' => exact ⟨t, ts', rfl, by simpa [patTys] using h⟩

theorem patTyAll_iff : ∀ (sig : Sig) (ps : List Pat) (t : Nat), patTyAll sig ps t = true ↔ ∀ p ∈ ps, patTy sig p t = true
  | _, [], _ => by simp [patTyAll]
  | sig, p :: ps, t => by
    simp only [patTyAll, Bool.and_eq_true, patTyAll_iff sig ps t, List.forall_mem_cons]

theorem hasTy_con {sig : Sig} {c : Option Ctor} {ws : List Val} {t : Nat} :
    hasTy sig (.con c ws) t = true ↔ ∃ tys, ctorFields sig t c = some tys ∧ hasTys sig ws tys = true := by
  rw [hasTy]
  cases ctorFields sig t c <;> simp

theorem ctorFields_some {sig : Sig} {t : Nat} {k : Ctor} {tys : List Nat}
    (h : ctorFields sig t (some k) = some tys) :
    ∃ vs, sig t = .enum k.cls vs ∧ findVariant vs k.name = some tys := by
  unfold ctorFields at h
  cases hs : sig t with
  | prim => simp [hs] at h
  | struct fs => simp [hs] at h
  | enum cls vs =>
    simp only [hs] at h
    by_cases e : k.cls = cls
    · simp only [e, if_true] at h
      exact ⟨vs, by rw [e], h⟩
    · simp [e] at h

theorem ctorFields_none {sig : Sig} {t : Nat} {tys : List Nat}
    (h : ctorFields sig t none = some tys) : ∃ fs, sig t = .struct fs ∧ tys = fs.map (·.2) := by
  unfold ctorFields at h
  cases hs : sig t with
  | prim => simp [hs] at h
  | struct fs => exact ⟨fs, rfl, by simpa [hs] using h.symm⟩
  | enum cls vs => simp [hs] at h

theorem hasTy_struct {sig : Sig} {v : Val} {t : Nat} {fs : List (Nat × Nat)}
    (hv : hasTy sig v t = true) (hs : sig t = .struct fs) :
    ∃ ws, v = .con none ws ∧ hasTys sig ws (fs.map (·.2)) = true := by
  cases v with
  | prim k => simp [hasTy, hs] at hv
  | con c ws =>
    cases c with
    | some k => simp [hasTy, ctorFields, hs] at hv
    | none => exact ⟨ws, rfl, by simpa [hasTy, ctorFields, hs] using hv⟩

theorem hasTy_enum {sig : Sig} {v : Val} {t cls : Nat} {vs : List (Nat × List Nat)}
    (hv : hasTy sig v t = true) (hs : sig t = .enum cls vs) :
    ∃ c ws tys, v = .con (some c) ws ∧ c.cls = cls ∧ findVariant vs c.name = some tys ∧
      hasTys sig ws tys = true := by
  cases v with
  | prim k => simp [hasTy, hs] at hv
  | con c ws =>
    obtain ⟨tys, hc, hws⟩ := hasTy_con.mp hv
    cases c with
    | none =>
      obtain ⟨fs, hs', _⟩ := ctorFields_none hc
      rw [hs] at hs'; cases hs'
    | some k =>
      obtain ⟨vs', hs', hf⟩ := ctorFields_some hc
      rw [hs] at hs'; cases hs'
      exact ⟨k, ws, tys, rfl, rfl, hf, hws⟩

theorem ctorFields_ne {sig : Sig} {t : Nat} {a b : Option Ctor} {x y : List Nat}
    (ha : ctorFields sig t a = some x) (hb : ctorFields sig t b = some y) (hne : a ≠ b) :
    ∃ a' b', a = some a' ∧ b = some b' := by
  -- a struct type has the one constructor `none`, an enum type only constructors `some _`
  have key : ∀ {k : Ctor} {x y : List Nat}, ctorFields sig t (some k) = some x →
      ctorFields sig t none = some y → False := fun h1 h2 => by
    obtain ⟨vs, hs, _⟩ := ctorFields_some h1
    obtain ⟨fs, hs', _⟩ := ctorFields_none h2
    rw [hs] at hs'; cases hs'
  cases a with
  | some a' =>
    cases b with
    | some b' => exact ⟨a', b', rfl, rfl⟩
    | none => exact (key ha hb).elim
  | none =>
    cases b with
    | some b' => exact (key hb ha).elim
    | none => exact absurd rfl hne

theorem patTy_struct {sig : Sig} {c : Option Ctor} {rs : List Pat} {t : Nat} :
    patTy sig (.struct c rs) t = true ↔ ∃ tys, ctorFields sig t c = some tys ∧ patTys sig rs tys = true := by
  rw [patTy]
  cases ctorFields sig t c <;> simp

/-- A row with a constructor head is kept or dropped by specialisation; it is dropped only when both
constructors are named and differ. -/
theorem specHead_struct (c c' : Option Ctor) (n : Nat) (rest rs : Row) :
    specHead c n rest (.struct c' rs) = [rs ++ rest] ∨ specHead c n rest (.struct c' rs) = [] := by
  cases c' with
  | none => exact Or.inl rfl
  | some a =>
    cases c with
    | none => exact Or.inl rfl
    | some b =>
      rw [specHead]
      split
      · exact Or.inl rfl
      · exact Or.inr rfl

theorem specHead_struct_of_ty {sig : Sig} {t : Nat} {c c' : Option Ctor} {tys tys' : List Nat}
    (hc : ctorFields sig t c = some tys) (hc' : ctorFields sig t c' = some tys') (n : Nat) (rest rs : Row) :
    specHead c n rest (.struct c' rs) = if c' = c then [rs ++ rest] else [] := by
  by_cases e : c' = c
  · subst e
    rw [if_pos rfl]
    cases c' <;> simp [specHead]
  · obtain ⟨a', b', rfl, rfl⟩ := ctorFields_ne hc' hc e
    rw [if_neg e, specHead, if_neg (fun h => e (congrArg some h))]

/-- Induction over a pattern with a single motive: sub-patterns are reached through list membership.
The model's functions on a head pattern come in pairs (`specHead`/`specHeads`, `pmatch`/`pmatchAny`,
`patTy`/`patTyAll`, …) only to expand or-patterns.  The list member of a pair is the list operation
over the other (`specHeads_eq`, `pmatchAny_eq`, `patTyAll_iff`, …), which the or-case of each
induction below uses; the element member at `.or ps` unfolds to the list member at `ps`, so a statement
about a list of alternatives (`specHeads_match`, `defaultHeads_mem`, …) is the element statement at `.or ps`. -/
theorem Pat.ind {motive : Pat → Prop} (wild : motive .wild)
    (struct : ∀ c rs, (∀ p ∈ rs, motive p) → motive (.struct c rs))
    (or : ∀ ps, (∀ p ∈ ps, motive p) → motive (.or ps)) (p : Pat) : motive p :=
  Pat.rec (motive_2 := fun ps => ∀ p ∈ ps, motive p) struct wild or (fun _ h => nomatch h)
    (fun _ _ hp hps _ hq => (List.mem_cons.mp hq).elim (· ▸ hp) (hps _)) p

theorem specHeads_eq (c : Option Ctor) (n : Nat) (rest : Row) (ps : List Pat) :
    specHeads c n rest ps = ps.flatMap (specHead c n rest) := by
  induction ps with
  | nil => rfl
  | cons p ps ih => rw [specHeads, ih, List.flatMap_cons]

theorem defaultHeads_eq (rest : Row) (ps : List Pat) :
    defaultHeads rest ps = ps.flatMap (defaultHead rest) := by
  induction ps with
  | nil => rfl
  | cons p ps ih => rw [defaultHeads, ih, List.flatMap_cons]

theorem headCtorsL_eq (ps : List Pat) : headCtorsL ps = ps.flatMap headCtors := by
  induction ps with
  | nil => rfl
  | cons p ps ih => rw [headCtorsL, ih, List.flatMap_cons]

theorem any_and_right {α : Type} {f g : α → Bool} {b : Bool} {l : List α}
    (h : ∀ x ∈ l, f x = (g x && b)) : l.any f = (l.any g && b) := by
  induction l with
  | nil => rfl
  | cons x l ih =>
    rw [List.any_cons, List.any_cons, h x List.mem_cons_self,
      ih fun y hy => h y (List.mem_cons_of_mem _ hy), Bool.and_or_distrib_right]

theorem specHead_match (sig : Sig) (t : Nat) (c : Option Ctor) (tys : List Nat) (ws vs : List Val) (rest : Row)
    (hc : ctorFields sig t c = some tys) (hw : hasTys sig ws tys = true) (p : Pat) :
    patTy sig p t = true →
      (specHead c tys.length rest p).any (fun r => pmatchAll r (ws ++ vs)) =
        (pmatch p (.con c ws) && pmatchAll rest vs) := by
  induction p using Pat.ind with
  | wild => intro _; simp [specHead, pmatch, pmatchAll_wilds_append _ _ _ _ (hasTys_length hw)]
  | struct c' rs _ =>
    intro h
    obtain ⟨tys', hc', hrs⟩ := patTy_struct.mp h
    rw [specHead_struct_of_ty hc hc', pmatch]
    by_cases e : c' = c
    · subst e
      cases hc'.symm.trans hc
      have hl : rs.length = ws.length := by
        rw [patTys_length hrs, hasTys_length hw]
      simp [pmatchAll_append hl]
    · simp [e]
  | or ps ih =>
    intro h
    rw [specHead, specHeads_eq, List.any_flatMap, pmatch, pmatchAny_eq]
    exact any_and_right fun p hp => ih p hp ((patTyAll_iff sig ps t).mp h p hp)

theorem specHeads_match (sig : Sig) (t : Nat) (c : Option Ctor) (tys : List Nat) (ws vs : List Val) (rest : Row)
    (hc : ctorFields sig t c = some tys) (hw : hasTys sig ws tys = true) :
    ∀ (ps : List Pat), patTyAll sig ps t = true →
      (specHeads c tys.length rest ps).any (fun r => pmatchAll r (ws ++ vs)) =
        (pmatchAny ps (.con c ws) && pmatchAll rest vs) :=
  fun ps => specHead_match sig t c tys ws vs rest hc hw (.or ps)

theorem specHead_ty (sig : Sig) (t : Nat) (c : Option Ctor) (tys ts : List Nat) (rest : Row)
    (hc : ctorFields sig t c = some tys) (hr : patTys sig rest ts = true) (p : Pat) :
    patTy sig p t = true → ∀ r ∈ specHead c tys.length rest p, patTys sig r (tys ++ ts) = true := by
  induction p using Pat.ind with
  | wild =>
    intro _ r hr'
    cases List.mem_singleton.mp hr'
    exact patTys_append (patTys_wilds sig tys) hr
  | struct c' rs _ =>
    intro h r hr'
    obtain ⟨tys', hc', hrs⟩ := patTy_struct.mp h
    rw [specHead_struct_of_ty hc hc'] at hr'
    split at hr'
    · rename_i e
      subst e
      cases hc'.symm.trans hc
      cases List.mem_singleton.mp hr'
      exact patTys_append hrs hr
    · cases hr'
  | or ps ih =>
    intro h r hr'
    rw [specHead, specHeads_eq] at hr'
    obtain ⟨p, hp, hr'⟩ := List.mem_flatMap.mp hr'
    exact ih p hp ((patTyAll_iff sig ps t).mp h p hp) r hr'

theorem defaultHead_mem (rest : Row) (p : Pat) : ∀ (r : Row), r ∈ defaultHead rest p →
    r = rest ∧ ∀ v, pmatch p v = true := by
  induction p using Pat.ind with
  | wild => intro r h; exact ⟨List.mem_singleton.mp h, fun _ => rfl⟩
  | struct c rs _ => intro r h; cases h
  | or ps ih =>
    intro r h
    rw [defaultHead, defaultHeads_eq] at h
    obtain ⟨p, hp, hr⟩ := List.mem_flatMap.mp h
    refine ⟨(ih p hp r hr).1, fun v => ?_⟩
    rw [pmatch, pmatchAny_eq]
    exact List.any_eq_true.mpr ⟨p, hp, (ih p hp r hr).2 v⟩

theorem defaultHeads_mem (rest : Row) : ∀ (ps : List Pat) (r : Row), r ∈ defaultHeads rest ps →
    r = rest ∧ ∀ v, pmatchAny ps v = true :=
  fun ps => defaultHead_mem rest (.or ps)

/-- no entry of `l` has the head constructor of `v` (an opaque value has none) -/
def headFree (v : Val) (l : List (Option Ctor × Nat)) : Prop :=
  match v with
  | .con c _ => ∀ n, (c, n) ∉ l
  | .prim _ => True

theorem headFree_mono {v : Val} {l l' : List (Option Ctor × Nat)} (hs : ∀ x ∈ l', x ∈ l)
    (h : headFree v l) : headFree v l' := by
  cases v with
  | prim k => simp [headFree]
  | con c ws => exact fun n hm => h n (hs _ hm)

theorem defaultHead_complete (rest : Row) (v : Val) (p : Pat) : headFree v (headCtors p) →
    pmatch p v = true → rest ∈ defaultHead rest p := by
  induction p using Pat.ind with
  | wild => intro _ _; exact List.mem_singleton.mpr rfl
  | struct c rs _ =>
    intro hf hm
    obtain ⟨ws, rfl, _⟩ := pmatch_struct.mp hm
    exact absurd (List.mem_singleton.mpr rfl) (hf rs.length)
  | or ps ih =>
    intro hf hm
    rw [pmatch, pmatchAny_eq] at hm
    obtain ⟨p, hp, hm⟩ := List.any_eq_true.mp hm
    rw [headCtors, headCtorsL_eq] at hf
    rw [defaultHead, defaultHeads_eq]
    exact List.mem_flatMap.mpr ⟨p, hp,
      ih p hp (headFree_mono (fun x hx => List.mem_flatMap.mpr ⟨p, hp, hx⟩) hf) hm⟩

theorem defaultHeads_complete (rest : Row) (v : Val) : ∀ (ps : List Pat), headFree v (headCtorsL ps) →
    pmatchAny ps v = true → rest ∈ defaultHeads rest ps :=
  fun ps => defaultHead_complete rest v (.or ps)

theorem headCtors_ty (sig : Sig) (t : Nat) (p : Pat) : patTy sig p t = true →
    ∀ c n, (c, n) ∈ headCtors p → ∃ tys, ctorFields sig t c = some tys ∧ tys.length = n := by
  induction p using Pat.ind with
  | wild => intro _ c n h; cases h
  | struct c' rs _ =>
    intro hp c n h
    obtain ⟨tys, hc', hrs⟩ := patTy_struct.mp hp
    cases List.mem_singleton.mp h
    exact ⟨tys, hc', (patTys_length hrs).symm⟩
  | or ps ih =>
    intro hp c n h
    rw [headCtors, headCtorsL_eq] at h
    obtain ⟨p, hmem, h⟩ := List.mem_flatMap.mp h
    exact ih p hmem ((patTyAll_iff sig ps t).mp hp p hmem) c n h

theorem headCtorsL_ty (sig : Sig) (t : Nat) : ∀ (ps : List Pat), patTyAll sig ps t = true →
    ∀ c n, (c, n) ∈ headCtorsL ps → ∃ tys, ctorFields sig t c = some tys ∧ tys.length = n :=
  fun ps => headCtors_ty sig t (.or ps)

theorem mem_foldl_insertRoot : ∀ (l acc : List (Option Ctor × Nat)) (x : Option Ctor × Nat),
    x ∈ l.foldl insertRoot acc → x ∈ acc ∨ x ∈ l
  | [], acc, x, h => Or.inl h
  | y :: l, acc, x, h => by
    simp only [List.foldl_cons] at h
    rcases mem_foldl_insertRoot l _ x h with h | h
    · simp only [insertRoot, List.mem_cons, List.mem_filter] at h
      rcases h with h | h
      · exact Or.inr (by simp [h])
      · exact Or.inl h.1
    · exact Or.inr (by simp [h])

theorem key_foldl_insertRoot : ∀ (l acc : List (Option Ctor × Nat)) (x : Option Ctor × Nat),
    (x ∈ acc ∨ x ∈ l) → ∃ m, (x.1, m) ∈ l.foldl insertRoot acc
  | [], acc, x, h => by
    rcases h with h | h
    · exact ⟨x.2, h⟩
    · simp at h
  | y :: l, acc, x, h => by
    simp only [List.foldl_cons]
    by_cases e : x.1 = y.1
    · obtain ⟨m, hm⟩ := key_foldl_insertRoot l (insertRoot acc y) y (Or.inl (by simp [insertRoot]))
      exact ⟨m, by rw [e]; exact hm⟩
    · apply key_foldl_insertRoot l (insertRoot acc y) x
      rcases h with h | h
      · exact Or.inl (by simp [insertRoot, h, e])
      · simp only [List.mem_cons] at h
        rcases h with h | h
        · exact absurd (by rw [h]) e
        · exact Or.inr h

theorem rootCtors_sub {P : Matrix} {x : Option Ctor × Nat} (h : x ∈ rootCtors P) : x ∈ rawRoots P := by
  rcases mem_foldl_insertRoot (rawRoots P) [] x h with h | h
  · simp at h
  · exact h

theorem rootCtors_key {P : Matrix} {x : Option Ctor × Nat} (h : x ∈ rawRoots P) :
    ∃ m, (x.1, m) ∈ rootCtors P :=
  key_foldl_insertRoot (rawRoots P) [] x (Or.inr h)

theorem row_nonempty {sig : Sig} {t : Nat} {ts : List Nat} {P : Matrix}
    (hP : matrixTy sig P (t :: ts) = true) {r : Row} (hr : r ∈ P) :
    ∃ p rest, r = p :: rest ∧ patTy sig p t = true ∧ patTys sig rest ts = true := by
  simp only [matrixTy, List.all_eq_true] at hP
  have := hP r hr
  cases r with
  | nil => simp [patTys] at this
  | cons p rest =>
    simp only [patTys, Bool.and_eq_true] at this
    exact ⟨p, rest, rfl, this.1, this.2⟩

theorem rawRoots_ty {sig : Sig} {t : Nat} {ts : List Nat} {P : Matrix}
    (hP : matrixTy sig P (t :: ts) = true) {c : Option Ctor} {n : Nat} (h : (c, n) ∈ rawRoots P) :
    ∃ tys, ctorFields sig t c = some tys ∧ tys.length = n := by
  obtain ⟨r, hr, hc⟩ := List.mem_flatMap.mp h
  obtain ⟨p, rest, rfl, hp, _⟩ := row_nonempty hP hr
  exact headCtors_ty sig t p hp c n hc

theorem rootCtors_ty {sig : Sig} {t : Nat} {ts : List Nat} {P : Matrix}
    (hP : matrixTy sig P (t :: ts) = true) {c : Option Ctor} {n : Nat} (h : (c, n) ∈ rootCtors P) :
    ∃ tys, ctorFields sig t c = some tys ∧ tys.length = n :=
  rawRoots_ty hP (rootCtors_sub h)

theorem spec_matrix_any {sig : Sig} {t : Nat} {ts : List Nat} {P : Matrix}
    (hP : matrixTy sig P (t :: ts) = true) {c : Option Ctor} {tys : List Nat} {ws : List Val}
    (hc : ctorFields sig t c = some tys) (hw : hasTys sig ws tys = true) (vs : List Val) :
    (specialize P c tys.length).any (fun r => pmatchAll r (ws ++ vs)) =
      P.any (fun r => pmatchAll r (.con c ws :: vs)) := by
  induction P with
  | nil => rfl
  | cons r P ih =>
    rw [matrixTy, List.all_cons, Bool.and_eq_true] at hP
    rw [specialize, List.flatMap_cons, List.any_append, List.any_cons, ← specialize, ih hP.2]
    cases r with
    | nil => simp [patTys] at hP
    | cons p rest =>
      rw [patTys, Bool.and_eq_true] at hP
      rw [specRow, specHead_match sig t c tys ws vs rest hc hw p hP.1.1, pmatchAll]

theorem spec_matrix {sig : Sig} {t : Nat} {ts : List Nat} {P : Matrix}
    (hP : matrixTy sig P (t :: ts) = true) {c : Option Ctor} {tys : List Nat} {ws vs : List Val}
    (hc : ctorFields sig t c = some tys) (hw : hasTys sig ws tys = true) :
    (∀ r ∈ specialize P c tys.length, pmatchAll r (ws ++ vs) = false) ↔
      (∀ r ∈ P, pmatchAll r (.con c ws :: vs) = false) := by
  simp only [← Bool.not_eq_true, ← List.any_eq_false, spec_matrix_any hP hc hw vs]

theorem spec_matrix_ty {sig : Sig} {t : Nat} {ts : List Nat} {P : Matrix}
    (hP : matrixTy sig P (t :: ts) = true) {c : Option Ctor} {tys : List Nat}
    (hc : ctorFields sig t c = some tys) :
    matrixTy sig (specialize P c tys.length) (tys ++ ts) = true := by
  simp only [matrixTy, List.all_eq_true]
  intro r' hr'
  simp only [specialize, List.mem_flatMap] at hr'
  obtain ⟨r, hr, hr'⟩ := hr'
  obtain ⟨p, rest, e, hp, hrest⟩ := row_nonempty hP hr
  subst e
  exact specHead_ty sig t c tys ts rest hc hrest p hp r' hr'

theorem default_matrix_ty {sig : Sig} {t : Nat} {ts : List Nat} {P : Matrix}
    (hP : matrixTy sig P (t :: ts) = true) : matrixTy sig (defaultMatrix P) ts = true := by
  simp only [matrixTy, List.all_eq_true]
  intro r' hr'
  simp only [defaultMatrix, List.mem_flatMap] at hr'
  obtain ⟨r, hr, hr'⟩ := hr'
  obtain ⟨p, rest, e, hp, hrest⟩ := row_nonempty hP hr
  subst e
  rw [(defaultHead_mem rest p r' hr').1]
  exact hrest

theorem default_unmatched {P : Matrix} {v : Val} {vs : List Val}
    (h : ∀ r ∈ P, pmatchAll r (v :: vs) = false) : ∀ r' ∈ defaultMatrix P, pmatchAll r' vs = false := by
  intro r' hr'
  simp only [defaultMatrix, List.mem_flatMap] at hr'
  obtain ⟨r, hr, hr'⟩ := hr'
  cases r with
  | nil => simp [defaultRow] at hr'
  | cons p rest =>
    obtain ⟨e, hall⟩ := defaultHead_mem rest p r' hr'
    have := h _ hr
    simp only [pmatchAll, hall v, Bool.true_and] at this
    rw [e]; exact this

theorem default_unmatched_conv {P : Matrix} {v : Val} {vs : List Val} (hf : headFree v (rawRoots P))
    (h : ∀ r' ∈ defaultMatrix P, pmatchAll r' vs = false) : ∀ r ∈ P, pmatchAll r (v :: vs) = false := by
  intro r hr
  cases r with
  | nil => simp [pmatchAll]
  | cons p rest =>
    cases hm : pmatchAll (p :: rest) (v :: vs) with
    | false => rfl
    | true =>
      simp only [pmatchAll, Bool.and_eq_true] at hm
      have hf' : headFree v (headCtors p) := headFree_mono (by
        intro x hx
        simp only [rawRoots, List.mem_flatMap]
        exact ⟨p :: rest, hr, hx⟩) hf
      have hmem := defaultHead_complete rest v p hf' hm.1
      have := h rest (by
        simp only [defaultMatrix, List.mem_flatMap]
        exact ⟨p :: rest, hr, hmem⟩)
      rw [hm.2] at this
      exact absurd this (by simp)

theorem inhabitants_of (sig : Sig) : ∀ (tys : List Nat), (∀ ty ∈ tys, ∃ v, hasTy sig v ty = true) →
    ∃ vs, hasTys sig vs tys = true
  | [], _ => ⟨[], by simp [hasTys]⟩
  | t :: ts, h => by
    obtain ⟨v, hv⟩ := h t (by simp)
    obtain ⟨vs, hvs⟩ := inhabitants_of sig ts (fun ty hty => h ty (by simp [hty]))
    exact ⟨v :: vs, by simp [hasTys, hv, hvs]⟩

theorem inhabitants (sig : Sig) (hinh : Inhabited' sig) : ∀ (ts : List Nat), ∃ vs, hasTys sig vs ts = true :=
  fun ts => inhabitants_of sig ts (fun t _ => hinh t)

-- no empty or-pattern (`nothing()`) anywhere in the pattern
mutual
def okPat : Pat → Bool
  | .wild => true
  | .struct _ ps => okPats ps
  | .or ps => !ps.isEmpty && okPats ps
def okPats : List Pat → Bool
  | [] => true
  | p :: ps => okPat p && okPats ps
end

theorem okPats_eq (ps : List Pat) : okPats ps = ps.all okPat := by
  induction ps with
  | nil => rfl
  | cons p ps ih => rw [okPats, ih, List.all_cons]

theorem okPats_append (ps qs : List Pat) : okPats (ps ++ qs) = (okPats ps && okPats qs) := by
  simp only [okPats_eq, List.all_append]

theorem okPats_wilds (n : Nat) : okPats (wilds n) = true := by
  rw [okPats_eq, List.all_eq_true]
  intro p hp
  cases List.eq_of_mem_replicate hp
  rfl

theorem okPats_mem (ps : List Pat) (p : Pat) (h : okPats ps = true) (hp : p ∈ ps) : okPat p = true :=
  List.all_eq_true.mp (okPats_eq ps ▸ h) p hp

mutual
theorem exists_match (sig : Sig) (hinh : Inhabited' sig) : ∀ (p : Pat) (t : Nat), patTy sig p t = true →
    okPat p = true → ∃ v, hasTy sig v t = true ∧ pmatch p v = true
  | .wild, t, _, _ => by
    obtain ⟨v, hv⟩ := hinh t
    exact ⟨v, hv, by simp [pmatch]⟩
  | .struct c ps, t, hp, hok => by
    obtain ⟨tys, hc, hps⟩ := patTy_struct.mp hp
    rw [okPat] at hok
    obtain ⟨vs, hvs, hm⟩ := exists_matches sig hinh ps tys hps hok
    exact ⟨.con c vs, hasTy_con.mpr ⟨tys, hc, hvs⟩, by simp [pmatch, hm]⟩
  | .or ps, t, hp, hok => by
    simp only [patTy] at hp
    simp only [okPat, Bool.and_eq_true] at hok
    cases ps with
    | nil => simp at hok
    | cons p ps =>
      simp only [patTyAll, Bool.and_eq_true] at hp
      simp only [okPats, Bool.and_eq_true] at hok
      obtain ⟨v, hv, hm⟩ := exists_match sig hinh p t hp.1 hok.2.1
      exact ⟨v, hv, by simp [pmatch, pmatchAny, hm]⟩
theorem exists_matches (sig : Sig) (hinh : Inhabited' sig) : ∀ (ps : List Pat) (ts : List Nat), patTys sig ps ts = true →
    okPats ps = true → ∃ vs, hasTys sig vs ts = true ∧ pmatchAll ps vs = true
  | [], [], _, _ => ⟨[], by simp [hasTys], by simp [pmatchAll]⟩
  | p :: ps, t :: ts, hp, hok => by
    simp only [patTys, Bool.and_eq_true] at hp
    simp only [okPats, Bool.and_eq_true] at hok
    obtain ⟨v, hv, hm⟩ := exists_match sig hinh p t hp.1 hok.1
    obtain ⟨vs, hvs, hms⟩ := exists_matches sig hinh ps ts hp.2 hok.2
    exact ⟨v :: vs, by simp [hasTys, hv, hvs], by simp [pmatchAll, hm, hms]⟩
  | [], _ :: _, hp, _ => by simp [patTys] at hp
  | _ :: _, [], hp, _ => by simp [patTys] at hp
end

theorem findVariant_mem {vs : List (Nat × List Nat)} {name : Nat} {tys : List Nat}
    (h : findVariant vs name = some tys) : (name, tys) ∈ vs := by
  fun_induction findVariant vs name with
  | case1 => cases h
  | case2 tys' rest => cases h; exact List.mem_cons_self
  | case3 n tys' rest e ih => exact List.mem_cons_of_mem _ (ih h)

theorem findVariant_of_mem {vs : List (Nat × List Nat)} {name : Nat} {tys : List Nat}
    (h : (name, tys) ∈ vs) : ∃ tys', findVariant vs name = some tys' := by
  fun_induction findVariant vs name with
  | case1 => cases h
  | case2 tys' rest => exact ⟨_, rfl⟩
  | case3 n tys' rest e ih =>
    rcases List.mem_cons.mp h with h | h
    · exact absurd (congrArg Prod.fst h).symm e
    · exact ih h

/-- The answer `none` ("complete"): some root is a struct / tuple constructor, or there is an enum root
and every variant name of its class is the name of some root. -/
theorem sigIncomplete_eq_none {cx : Cx} {roots : List (Option Ctor × Nat)}
    (h : sigIncomplete cx roots = none) :
    (∃ n, (none, n) ∈ roots) ∨
    ∃ c0 n0, (some c0, n0) ∈ roots ∧ ∀ nv ∈ cx c0.cls, ∃ k m, (some k, m) ∈ roots ∧ k.name = nv.1 := by
  -- the branches of `sigIncomplete`, in its order: a root without a constructor name; then by the first
  -- root: no roots / `none` (excluded by the first test) / `some c0`, there whether `result` is empty
  unfold sigIncomplete at h
  split at h
  · rename_i hany
    obtain ⟨⟨c, n⟩, hr, hn⟩ := List.any_eq_true.mp hany
    cases c with
    | some k => cases hn
    | none => exact Or.inl ⟨n, hr⟩
  · split at h
    · cases h
    · exact Or.inl ⟨_, List.mem_cons_self⟩
    · rename_i c0 n0 rest _
      simp only at h
      split at h
      · rename_i hemp
        refine Or.inr ⟨c0, n0, List.mem_cons_self, fun nv hnv => ?_⟩
        have := List.filter_eq_nil_iff.mp (List.map_eq_nil_iff.mp (List.isEmpty_iff.mp hemp)) nv hnv
        simp only [Bool.not_eq_true, Bool.not_eq_false', List.contains_iff_mem, List.mem_filterMap] at this
        obtain ⟨⟨c, m⟩, hr, hc⟩ := this
        cases c with
        | none => cases hc
        | some k => exact ⟨k, m, hr, Option.some.inj hc⟩
      · cases h

/-- The answer `some inc` ("incomplete"): there are no roots (then `inc = []`), or there is an enum root
and `inc` is the non-empty list of the variants of its class whose name is the name of no root. -/
theorem sigIncomplete_eq_some {cx : Cx} {roots : List (Option Ctor × Nat)} {inc : List (Ctor × Nat)}
    (h : sigIncomplete cx roots = some inc) :
    (roots = [] ∧ inc = []) ∨
    ∃ c0 n0, (some c0, n0) ∈ roots ∧ inc ≠ [] ∧
      ∀ x ∈ inc, x.1.cls = c0.cls ∧ (x.1.name, x.2) ∈ cx c0.cls ∧
        ∀ k m, (some k, m) ∈ roots → k.name ≠ x.1.name := by
  -- same branches as in `sigIncomplete_eq_none`
  unfold sigIncomplete at h
  split at h
  · cases h
  · split at h
    · exact Or.inl ⟨rfl, (Option.some.inj h).symm⟩
    · cases h
    · rename_i c0 n0 rest _
      simp only at h
      split at h
      · cases h
      · rename_i hemp
        cases Option.some.inj h
        refine Or.inr ⟨c0, n0, List.mem_cons_self, fun he => hemp (by rw [he]; rfl), fun x hx => ?_⟩
        obtain ⟨nv, hnv, rfl⟩ := List.mem_map.mp hx
        simp only [List.mem_filter, Bool.not_eq_true', List.contains_eq_mem, decide_eq_false_iff_not,
          List.mem_filterMap, not_exists, not_and] at hnv
        exact ⟨rfl, hnv.1, fun k m hkm hname => hnv.2 (some k, m) hkm (congrArg some hname)⟩

/-- **Complete signature**: every value of the column type is built by a root constructor.  For an enum
value `c(ws)`: `CxOk` puts the name of `c` among the variant names of the class, `sigIncomplete_eq_none`
gives a root `k` of that name, and a root is a constructor of the column type (`rootCtors_ty`), so `k`
has the class of `c` as well: `k = c`. -/
theorem complete_sig {sig : Sig} {cx : Cx} (hcx : CxOk sig cx) {t : Nat} {ts : List Nat} {P : Matrix}
    (hP : matrixTy sig P (t :: ts) = true) (h : sigIncomplete cx (rootCtors P) = none)
    {v : Val} (hv : hasTy sig v t = true) :
    ∃ c ws tys, v = .con c ws ∧ (c, tys.length) ∈ rootCtors P ∧ ctorFields sig t c = some tys ∧
      hasTys sig ws tys = true := by
  rcases sigIncomplete_eq_none h with ⟨n, hr⟩ | ⟨c0, n0, hr, hall⟩
  · obtain ⟨tys, hc, rfl⟩ := rootCtors_ty hP hr
    obtain ⟨fs, hs, rfl⟩ := ctorFields_none hc
    obtain ⟨ws, rfl, hws⟩ := hasTy_struct hv hs
    exact ⟨none, ws, _, rfl, hr, hc, hws⟩
  · obtain ⟨tys0, hc0, _⟩ := rootCtors_ty hP hr
    obtain ⟨vs, hs, _⟩ := ctorFields_some hc0
    obtain ⟨c, ws, tys, rfl, hcls, hf, hws⟩ := hasTy_enum hv hs
    have hmem : (c.name, tys.length) ∈ cx c0.cls := by
      rw [hcx t c0.cls vs hs]
      exact List.mem_map.mpr ⟨_, findVariant_mem hf, rfl⟩
    obtain ⟨k, m, hk, hname⟩ := hall _ hmem
    obtain ⟨tysk, hck, rfl⟩ := rootCtors_ty hP hk
    obtain ⟨vs', hs', hfk⟩ := ctorFields_some hck
    rw [hs] at hs'
    obtain ⟨hcls', rfl⟩ := Def.enum.inj hs'
    have hkc : k = c := by
      cases k; cases c
      exact congr (congrArg Ctor.mk (hcls'.symm.trans hcls.symm)) hname
    subst hkc
    cases hfk.symm.trans hf
    exact ⟨some k, ws, tys, rfl, hk, hck, hws⟩

theorem headFree_of_rootCtors_nil {P : Matrix} (h : rootCtors P = []) (v : Val) : headFree v (rawRoots P) := by
  cases v with
  | prim k => trivial
  | con c ws =>
    intro n hm
    obtain ⟨m, hm'⟩ := rootCtors_key hm
    rw [h] at hm'; cases hm'

/-- a constructor `signature_incomplete_names` reports is a variant of the column type and heads no row -/
theorem missing_ctor {sig : Sig} {cx : Cx} (hcx : CxOk sig cx) {t : Nat} {ts : List Nat} {P : Matrix}
    (hP : matrixTy sig P (t :: ts) = true) {c0 : Ctor} {n0 : Nat} (hr : (some c0, n0) ∈ rootCtors P)
    {x : Ctor × Nat} (hcls : x.1.cls = c0.cls) (hmem : (x.1.name, x.2) ∈ cx c0.cls)
    (hfresh : ∀ k m, (some k, m) ∈ rootCtors P → k.name ≠ x.1.name) :
    (∃ vs tys, sig t = .enum x.1.cls vs ∧ (x.1.name, tys) ∈ vs ∧ tys.length = x.2) ∧
    ∀ ws, headFree (.con (some x.1) ws) (rawRoots P) := by
  obtain ⟨tys0, hc0, _⟩ := rootCtors_ty hP hr
  obtain ⟨vs, hs, _⟩ := ctorFields_some hc0
  rw [hcx t c0.cls vs hs] at hmem
  obtain ⟨⟨name, tys⟩, hv, e⟩ := List.mem_map.mp hmem
  obtain ⟨rfl, e⟩ := Prod.mk.inj e
  refine ⟨⟨vs, tys, by rw [hcls]; exact hs, hv, e⟩, fun ws n hm => ?_⟩
  obtain ⟨m, hm'⟩ := rootCtors_key hm
  exact hfresh _ m hm' rfl

theorem sigIncomplete_some {sig : Sig} {cx : Cx} (hcx : CxOk sig cx) (hinh : Inhabited' sig)
    {t : Nat} {ts : List Nat} {P : Matrix}
    (hP : matrixTy sig P (t :: ts) = true) {inc : List (Ctor × Nat)}
    (h : sigIncomplete cx (rootCtors P) = some inc) :
    ∃ v, hasTy sig v t = true ∧ headFree v (rawRoots P) := by
  rcases sigIncomplete_eq_some h with ⟨hroots, _⟩ | ⟨c0, n0, hr, hne, hall⟩
  · obtain ⟨v, hv⟩ := hinh t
    exact ⟨v, hv, headFree_of_rootCtors_nil hroots v⟩
  · obtain ⟨x, hx⟩ := List.exists_mem_of_ne_nil inc hne
    obtain ⟨hcls, hmem, hfresh⟩ := hall x hx
    obtain ⟨⟨vs, tys, hs, hv, _⟩, hfree⟩ := missing_ctor hcx hP hr hcls hmem hfresh
    obtain ⟨tys', hf⟩ := findVariant_of_mem hv
    obtain ⟨ws, hws⟩ := inhabitants sig hinh tys'
    exact ⟨.con (some x.1) ws, hasTy_con.mpr ⟨tys', by simp [ctorFields, hs, hf], hws⟩, hfree ws⟩

/-- `q` is useful with respect to `P` at column types `ts`: some well-typed vector of values is
matched by `q` and by no row of `P` (Maranget, Definition 1). -/
def Useful (sig : Sig) (P : Matrix) (q : Row) (ts : List Nat) : Prop :=
  ∃ vs, hasTys sig vs ts = true ∧ pmatchAll q vs = true ∧ ∀ r ∈ P, pmatchAll r vs = false

theorem useful_nil_matrix {sig : Sig} (hinh : Inhabited' sig) {q : Row} {ts : List Nat}
    (hq : patTys sig q ts = true) (hok : okPats q = true) : Useful sig [] q ts := by
  obtain ⟨vs, hvs, hm⟩ := exists_matches sig hinh q ts hq hok
  exact ⟨vs, hvs, hm, fun r hr => nomatch hr⟩

theorem not_useful_nil_row {sig : Sig} {P : Matrix} (hP : matrixTy sig P [] = true) (hne : P ≠ []) :
    ¬ Useful sig P [] [] := by
  rintro ⟨vs, hvs, _, hun⟩
  cases P with
  | nil => exact hne rfl
  | cons r P =>
    have hr := hun r (by simp)
    simp only [matrixTy, List.all_cons, Bool.and_eq_true] at hP
    cases r with
    | cons p r => simp [patTys] at hP
    | nil =>
      cases vs with
      | nil => simp [pmatchAll] at hr
      | cons v vs => simp [hasTys] at hvs

theorem useful_struct {sig : Sig} {t : Nat} {ts : List Nat} {P : Matrix}
    (hP : matrixTy sig P (t :: ts) = true) {c : Option Ctor} {tys : List Nat}
    (hc : ctorFields sig t c = some tys) {rs : List Pat} (hl : rs.length = tys.length) (rest : Row) :
    Useful sig P (.struct c rs :: rest) (t :: ts) ↔
      Useful sig (specialize P c tys.length) (rs ++ rest) (tys ++ ts) := by
  constructor
  · rintro ⟨xs, hxs, hm, hun⟩
    obtain ⟨v, vs, rfl, hv, hvs⟩ := hasTys_cons_inv hxs
    rw [pmatchAll, Bool.and_eq_true] at hm
    obtain ⟨ws, rfl, hmw⟩ := pmatch_struct.mp hm.1
    obtain ⟨tys', hc', hws⟩ := hasTy_con.mp hv
    rw [hc] at hc'; cases hc'
    refine ⟨ws ++ vs, hasTys_append hws hvs, ?_,
      (spec_matrix hP hc hws).mpr hun⟩
    rw [pmatchAll_append (pmatchAll_length _ _ hmw), hmw, hm.2]; rfl
  · rintro ⟨xs, hxs, hm, hun⟩
    obtain ⟨ws, vs, rfl, hws, hvs⟩ := hasTys_append_inv sig tys xs ts hxs
    rw [pmatchAll_append (hl.trans (hasTys_length hws).symm), Bool.and_eq_true] at hm
    refine ⟨.con c ws :: vs, ?_, ?_, (spec_matrix hP hc hws).mp hun⟩
    · simp only [hasTys, Bool.and_eq_true]; exact ⟨hasTy_con.mpr ⟨tys, hc, hws⟩, hvs⟩
    · simp only [pmatchAll, pmatch, decide_true, Bool.true_and, Bool.and_eq_true]; exact hm

theorem useful_wild_complete {sig : Sig} {cx : Cx} (hcx : CxOk sig cx) {t : Nat} {ts : List Nat} {P : Matrix}
    (hP : matrixTy sig P (t :: ts) = true) (hsig : sigIncomplete cx (rootCtors P) = none) (rest : Row) :
    Useful sig P (.wild :: rest) (t :: ts) ↔
      ∃ cn ∈ rootCtors P, ∃ tys, ctorFields sig t cn.1 = some tys ∧ tys.length = cn.2 ∧
        Useful sig (specialize P cn.1 cn.2) (wilds cn.2 ++ rest) (tys ++ ts) := by
  constructor
  · rintro ⟨xs, hxs, hm, hun⟩
    obtain ⟨v, vs, rfl, hv, hvs⟩ := hasTys_cons_inv hxs
    obtain ⟨c, ws, tys, rfl, hmem, hc, hws⟩ := complete_sig hcx hP hsig hv
    refine ⟨_, hmem, tys, hc, rfl, (useful_struct hP hc (wilds_length _) rest).mp ⟨_, hxs, ?_, hun⟩⟩
    simp only [pmatchAll, pmatch, Bool.true_and] at hm
    simp only [pmatchAll, pmatch, decide_true, Bool.true_and, Bool.and_eq_true]
    exact ⟨pmatchAll_wilds _ _ (hasTys_length hws), hm⟩
  · rintro ⟨⟨c, n⟩, _, tys, hc, rfl, hu⟩
    obtain ⟨xs, hxs, hm, hun⟩ := (useful_struct hP hc (wilds_length _) rest).mpr hu
    obtain ⟨v, vs, rfl, _, _⟩ := hasTys_cons_inv hxs
    simp only [pmatchAll, Bool.and_eq_true] at hm
    exact ⟨_, hxs, by simp only [pmatchAll, pmatch, Bool.true_and]; exact hm.2, hun⟩

theorem useful_default_of_wild {sig : Sig} {P : Matrix} {rest : Row} {t : Nat} {ts : List Nat}
    (h : Useful sig P (.wild :: rest) (t :: ts)) : Useful sig (defaultMatrix P) rest ts := by
  obtain ⟨xs, hxs, hm, hun⟩ := h
  obtain ⟨v, vs, rfl, _, hvs⟩ := hasTys_cons_inv hxs
  simp only [pmatchAll, pmatch, Bool.true_and] at hm
  exact ⟨vs, hvs, hm, default_unmatched hun⟩

theorem useful_wild_incomplete {sig : Sig} {cx : Cx} (hcx : CxOk sig cx) (hinh : Inhabited' sig)
    {t : Nat} {ts : List Nat} {P : Matrix} (hP : matrixTy sig P (t :: ts) = true)
    {inc : List (Ctor × Nat)} (hsig : sigIncomplete cx (rootCtors P) = some inc) (rest : Row) :
    Useful sig P (.wild :: rest) (t :: ts) ↔ Useful sig (defaultMatrix P) rest ts := by
  refine ⟨useful_default_of_wild, ?_⟩
  rintro ⟨vs, hvs, hm, hun⟩
  obtain ⟨v, hv, hf⟩ := sigIncomplete_some hcx hinh hP hsig
  exact ⟨v :: vs, by simp [hasTys, hv, hvs], by simp [pmatchAll, pmatch, hm],
    default_unmatched_conv hf hun⟩

theorem useful_or {sig : Sig} {P : Matrix} {ps : List Pat} {rest : Row} {ts : List Nat} :
    Useful sig P (.or ps :: rest) ts ↔ ∃ r ∈ ps, Useful sig P (r :: rest) ts := by
  constructor
  · rintro ⟨xs, hxs, hm, hun⟩
    cases xs with
    | nil => simp [pmatchAll] at hm
    | cons v vs =>
      simp only [pmatchAll, pmatch, Bool.and_eq_true] at hm
      obtain ⟨r, hmem, hmr⟩ := (pmatchAny_iff ps v).mp hm.1
      exact ⟨r, hmem, v :: vs, hxs, by simp [pmatchAll, hmr, hm.2], hun⟩
  · rintro ⟨r, hmem, xs, hxs, hm, hun⟩
    cases xs with
    | nil => simp [pmatchAll] at hm
    | cons v vs =>
      simp only [pmatchAll, Bool.and_eq_true] at hm
      refine ⟨v :: vs, hxs, ?_, hun⟩
      simp only [pmatchAll, pmatch, Bool.and_eq_true]
      exact ⟨(pmatchAny_iff ps v).mpr ⟨r, hmem, hm.1⟩, hm.2⟩

theorem matrixTy_oneCol {sig : Sig} {arms : List Pat} {t : Nat} (ha : ∀ a ∈ arms, patTy sig a t = true) :
    matrixTy sig (arms.map fun e => [e]) [t] = true := by
  simp only [matrixTy, List.all_eq_true, List.mem_map]
  rintro r ⟨e, hmem, rfl⟩
  simp [patTys, ha e hmem]

theorem hasTys_one {sig : Sig} {vs : List Val} {t : Nat} :
    hasTys sig vs [t] = true ↔ ∃ v, vs = [v] ∧ hasTy sig v t = true := by
  constructor
  · intro h
    obtain ⟨v, vs, rfl, hv, hvs⟩ := hasTys_cons_inv h
    cases vs with
    | nil => exact ⟨v, rfl, hv⟩
    | cons _ _ => simp [hasTys] at hvs
  · rintro ⟨v, rfl, hv⟩; simp [hasTys, hv]

theorem oneCol_unmatched {arms : List Pat} {v : Val} :
    (∀ r ∈ arms.map (fun e => [e]), pmatchAll r [v] = false) ↔ ∀ a ∈ arms, pmatch a v = false := by
  simp only [List.forall_mem_map, pmatchAll, Bool.and_true]

theorem oneCol_matched {arms : List Pat} {v : Val} :
    (∃ r ∈ arms.map (fun e => [e]), pmatchAll r [v] = true) ↔ ∃ a ∈ arms, pmatch a v = true := by
  constructor
  · rintro ⟨r, hr, hm⟩
    obtain ⟨a, ha, rfl⟩ := List.mem_map.mp hr
    exact ⟨a, ha, by simpa [pmatchAll] using hm⟩
  · rintro ⟨a, ha, hm⟩
    exact ⟨[a], List.mem_map.mpr ⟨a, ha, rfl⟩, by simp [pmatchAll, hm]⟩

theorem useful_oneCol {sig : Sig} {arms : List Pat} {p : Pat} {t : Nat} :
    Useful sig (arms.map fun e => [e]) [p] [t] ↔
      ∃ v, hasTy sig v t = true ∧ pmatch p v = true ∧ ∀ e ∈ arms, pmatch e v = false := by
  constructor
  · rintro ⟨vs, hvs, hm, hun⟩
    obtain ⟨v, rfl, hv⟩ := hasTys_one.mp hvs
    exact ⟨v, hv, by simpa [pmatchAll] using hm, oneCol_unmatched.mp hun⟩
  · rintro ⟨v, hv, hm, hun⟩
    exact ⟨[v], hasTys_one.mpr ⟨v, rfl, hv⟩, by simp [pmatchAll, hm], oneCol_unmatched.mpr hun⟩

/-- the payload of the diagnostic: the single pattern of a one-element vector -/
def rowToPat : Row → Pat
  | [p] => p
  | ps => .struct none ps

theorem incompleteCounterexampleF_eq (cx : Cx) (fuel : Nat) (arms : List Pat) :
    incompleteCounterexampleF cx fuel arms =
      (cexF cx fuel (arms.map fun e => [e]) 1).map (Option.map rowToPat) := by
  unfold incompleteCounterexampleF
  cases cexF cx fuel (arms.map fun e => [e]) 1 with
  | none => rfl
  | some r =>
    cases r with
    | none => rfl
    | some d =>
      match d with
      | [] => rfl
      | [_] => rfl
      | _ :: _ :: _ => rfl

theorem anyO_some {α : Type} (f : α → Option Bool) (l : List α) (b : Bool) (h : anyO f l = some b) :
    (b = true → ∃ x ∈ l, f x = some true) ∧ (b = false → ∀ x ∈ l, f x = some false) := by
  fun_induction anyO f l with
  | case1 => cases h; exact ⟨fun h => (nomatch h), fun _ x hx => nomatch hx⟩
  | case2 y l hy => cases h
  | case3 y l hy => cases h; exact ⟨fun _ => ⟨y, List.mem_cons_self, hy⟩, fun h => (nomatch h)⟩
  | case4 y l hy ih =>
    refine ⟨fun hb => ?_, fun hb x hx => ?_⟩
    · obtain ⟨x, hx, hfx⟩ := (ih h).1 hb
      exact ⟨x, List.mem_cons_of_mem _ hx, hfx⟩
    · rcases List.mem_cons.mp hx with rfl | hx
      · exact hy
      · exact (ih h).2 hb x hx

theorem anyO_iff {α : Type} {f : α → Option Bool} {p : α → Prop} {l : List α} {b : Bool}
    (hp : ∀ x ∈ l, ∀ b, f x = some b → (b = true ↔ p x)) (h : anyO f l = some b) :
    b = true ↔ ∃ x ∈ l, p x := by
  have := anyO_some f l b h
  constructor
  · intro hb
    obtain ⟨x, hx, hfx⟩ := this.1 hb
    exact ⟨x, hx, (hp x hx true hfx).mp rfl⟩
  · rintro ⟨x, hx, hpx⟩
    cases b with
    | true => rfl
    | false => exact absurd ((hp x hx false (this.2 rfl x hx)).mpr hpx) (by simp)

theorem firstO_eq_some {α β : Type} {f : α → Option (Option β)} {l : List α} {r : Option β}
    (h : firstO f l = some r) :
    (∀ d, r = some d → ∃ x ∈ l, f x = some (some d)) ∧ (r = none → ∀ x ∈ l, f x = some none) := by
  fun_induction firstO f l with
  | case1 => cases h; exact ⟨fun _ h => (nomatch h), fun _ x hx => nomatch hx⟩
  | case2 y l hy => cases h
  | case3 y l d' hy =>
    cases h
    exact ⟨fun d hd => ⟨y, List.mem_cons_self, by cases hd; exact hy⟩, fun h => nomatch h⟩
  | case4 y l hy ih =>
    refine ⟨fun d hd => ?_, fun hr x hx => ?_⟩
    · obtain ⟨x, hx, hfx⟩ := (ih h).1 d hd
      exact ⟨x, List.mem_cons_of_mem _ hx, hfx⟩
    · rcases List.mem_cons.mp hx with rfl | hx
      · exact hy
      · exact (ih h).2 hr x hx

theorem mem_insertByKey (kv x : Option Ctor × Nat) (l : List (Option Ctor × Nat)) :
    x ∈ insertByKey kv l ↔ x = kv ∨ x ∈ l := by
  fun_induction insertByKey kv l with
  | case1 => simp
  | case2 y l h => simp
  | case3 y l h ih => simp only [List.mem_cons, ih]; exact or_left_comm

theorem mem_sortByKey (x : Option Ctor × Nat) : ∀ (l : List (Option Ctor × Nat)), x ∈ sortByKey l ↔ x ∈ l
  | [] => by simp [sortByKey]
  | y :: l => by
    have := mem_sortByKey x l
    simp only [sortByKey, List.foldr_cons] at this ⊢
    rw [mem_insertByKey, this]
    simp

theorem minCtor_mem (l : List (Ctor × Nat)) (x : Ctor × Nat) : minCtor l = some x → x ∈ l := by
  fun_induction minCtor l with
  | case1 => intro h; cases h
  | case2 y l hm => intro h; cases h; exact List.mem_cons_self
  | case3 y l z hm hc ih => intro h; cases h; exact List.mem_cons_self
  | case4 y l z hm hc ih => intro h; cases h; exact List.mem_cons_of_mem _ (ih hm)

theorem minCtor_none (l : List (Ctor × Nat)) : minCtor l = none → l = [] := by
  fun_cases minCtor l with
  | case1 => intro _; rfl
  | case2 => intro h; cases h
  | case3 => intro h; cases h
  | case4 => intro h; cases h

theorem patTys_take_drop (sig : Sig) (tys ts : List Nat) (v : List Pat) (h : patTys sig v (tys ++ ts) = true) :
    patTys sig (v.take tys.length) tys = true ∧ patTys sig (v.drop tys.length) ts = true := by
  induction tys generalizing v with
  | nil => exact ⟨by rw [List.length_nil, List.take_zero, patTys], h⟩
  | cons t tys ih => cases v with
    | nil => rw [List.cons_append, patTys] at h; cases h
    | cons p v =>
      rw [List.cons_append, patTys, Bool.and_eq_true] at h
      rw [List.length_cons, List.take_succ_cons, List.drop_succ_cons, patTys, h.1, (ih v h.2).1]
      exact ⟨rfl, (ih v h.2).2⟩

theorem okPats_take_drop (n : Nat) (v : List Pat) (h : okPats v = true) :
    okPats (v.take n) = true ∧ okPats (v.drop n) = true := by
  have := okPats_append (v.take n) (v.drop n)
  rw [List.take_append_drop, h] at this
  simpa using this.symm

/-- variant names of an enum are pairwise different -/
def SigNodup (sig : Sig) : Prop := ∀ t cls vs, sig t = .enum cls vs → (vs.map (·.1)).Nodup

theorem findVariant_nodup {vs : List (Nat × List Nat)} {name : Nat} {tys : List Nat}
    (hnd : (vs.map (·.1)).Nodup) (h : (name, tys) ∈ vs) : findVariant vs name = some tys := by
  induction vs with
  | nil => cases h
  | cons x rest ih =>
    rw [List.map_cons, List.nodup_cons] at hnd
    rw [findVariant]
    rcases List.mem_cons.mp h with h | h
    · cases h; rw [if_pos rfl]
    · rw [if_neg (fun e => hnd.1 (List.mem_map.mpr ⟨_, h, e.symm⟩)), ih hnd.2 h]

/-- the head `incomplete_counterexample_internal` puts before a counterexample of the default
matrix: the least missing variant over wildcards, or `_` when no row has a constructor head -/
theorem cex_head_sound {sig : Sig} {cx : Cx} (hcx : CxOk sig cx) (hnd : SigNodup sig) {t : Nat}
    {ts : List Nat} {P : Matrix} (hP : matrixTy sig P (t :: ts) = true) {inc : List (Ctor × Nat)}
    (hsig : sigIncomplete cx (rootCtors P) = some inc) {head : Pat}
    (hhead : head = match minCtor inc with
      | some (variant, size) => Pat.struct (some variant) (wilds size)
      | none => Pat.wild) :
    patTy sig head t = true ∧ okPat head = true ∧
      ∀ v, pmatch head v = true → headFree v (rawRoots P) := by
  subst hhead
  rcases sigIncomplete_eq_some hsig with ⟨hroots, rfl⟩ | ⟨c0, n0, hr, hne, hall⟩
  · exact ⟨rfl, rfl, fun v _ => headFree_of_rootCtors_nil hroots v⟩
  · cases hmin : minCtor inc with
    | none => exact absurd (minCtor_none inc hmin) hne
    | some x =>
      obtain ⟨variant, size⟩ := x
      obtain ⟨hcls, hmem, hfresh⟩ := hall _ (minCtor_mem inc _ hmin)
      obtain ⟨⟨vs, tys, hs, hv, hl⟩, hfree⟩ := missing_ctor hcx hP hr hcls hmem hfresh
      have hl : tys.length = size := hl  -- `hl` speaks of `(variant, size).2`: restated for `subst`
      subst hl
      have hf := findVariant_nodup (hnd t _ vs hs) hv
      refine ⟨?_, okPats_wilds _, fun v hm => ?_⟩
      · simp only [patTy, ctorFields, hs, if_true, hf]
        exact patTys_wilds sig tys
      · obtain ⟨ws, rfl, _⟩ := pmatch_struct.mp hm
        exact hfree ws

theorem inhabited_of_rank (sig : Sig) (rank : Nat → Nat) (h : ∀ t, rankOkAt sig rank t = true) :
    Inhabited' sig := by
  have key : ∀ k t, rank t < k → ∃ v, hasTy sig v t = true := by
    intro k
    induction k with
    | zero => intro t ht; omega
    | succ k ih =>
      intro t ht
      have hr := h t
      unfold rankOkAt at hr
      cases hs : sig t with
      | prim => exact ⟨.prim 0, by simp [hasTy, hs]⟩
      | struct fs =>
        simp only [hs, List.all_eq_true, decide_eq_true_eq] at hr
        obtain ⟨vs, hvs⟩ := inhabitants_of sig (fs.map (·.2)) (by
          intro ty hty
          obtain ⟨f, hf, rfl⟩ := List.mem_map.mp hty
          exact ih _ (by have := hr f hf; omega))
        exact ⟨.con none vs, by simp [hasTy, ctorFields, hs, hvs]⟩
      | enum cls vs =>
        simp only [hs, List.any_eq_true] at hr
        obtain ⟨v, _, hv⟩ := hr
        cases hf : findVariant vs v.1 with
        | none => simp [hf] at hv
        | some tys =>
          simp only [hf, List.all_eq_true, decide_eq_true_eq] at hv
          obtain ⟨ws, hws⟩ := inhabitants_of sig tys (fun ty hty => ih _ (by have := hv ty hty; omega))
          exact ⟨.con (some ⟨cls, v.1⟩) ws, by simp [hasTy, ctorFields, hs, hf, hws]⟩
  exact fun t => key (rank t + 1) t (Nat.lt_succ_self _)

theorem sigOfTable_ge (defs : List Def) (t : Nat) (h : ¬ t < defs.length) : sigOfTable defs t = .prim := by
  simp [sigOfTable, List.getD, List.getElem?_eq_none (Nat.le_of_not_lt h)]

theorem inhabited_of_rankCheck (defs : List Def) (rank : List Nat) (h : rankCheck defs rank = true) :
    Inhabited' (sigOfTable defs) := by
  apply inhabited_of_rank _ (fun t => rank.getD t 0)
  intro t
  by_cases ht : t < defs.length
  · simp only [rankCheck, List.all_eq_true, List.mem_range] at h
    exact h t ht
  · simp [rankOkAt, sigOfTable_ge defs t ht]

end SamVerif.Useful
