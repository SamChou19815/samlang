import SamVerif.Lemmas.UsefulSem
/-! Every source pattern outside the domain `swf` of the semantics theorem (`normalize_sem`) makes
`check_matching_pattern` report a diagnostic: so for every source pattern either the abstract node
provably matches what the source pattern matches, or the program is rejected. -/
namespace SamVerif.Useful

theorem normObject_err_of_dup (sig : Sig) (w : Bool) (fs : List (Nat × Nat)) (es : List SPat)
    (names : List Nat) (acc : List Pat) (hl : names.length = es.length) (h : nodupNat names = false) :
    (normObject sig w fs es names acc).err = true := by
  induction es generalizing names acc with
  | nil =>
    cases names with
    | nil => rw [nodupNat] at h; cases h
    | cons => cases hl
  | cons p es ih =>
    cases names with
    | nil => cases hl
    | cons name names =>
      rw [nodupNat, Bool.and_eq_false_iff, Bool.not_eq_false'] at h
      rw [normObject]
      split
      · dsimp only
        rcases h with h | h
        · rw [h, Bool.or_true, Bool.true_or]
        · rw [ih names _ (Nat.succ.inj hl) h, Bool.or_true, Bool.true_or, Bool.true_or]
      · rfl

/- `swf` is a conjunction, and `normalize` raises `err` by a disjunction with one disjunct per
conjunct (wrong kind of type, arity, unknown field or variant, duplicate field, inconsistent
or-alternatives, a sub-pattern's own `err`). Each arm below takes the conjunct that is false and
shows its disjunct true; for a sub-pattern that is the induction hypothesis. -/
mutual
theorem not_swf_err (sig : Sig) (w : Bool) : ∀ (p : SPat) (t : Nat), shape p = true →
    swf sig w p t = false → (normalize sig w p (some t)).err = true
  | .id _, _, _, h => by simp [swf] at h
  | .wild, _, _, h => by simp [swf] at h
  | .or ps, t, hs, h => by
    simp only [shape] at hs
    simp only [swf, Bool.and_eq_false_iff] at h
    simp only [normalize]
    rcases h with h | h
    · simp [not_swfAll_err sig w ps t hs h]
    · rw [Bool.not_eq_false'] at h
      simp only [h, Bool.or_true]
  | .tuple ps, t, hs, h => by
    simp only [shape] at hs
    simp only [swf] at h
    simp only [normalize, sigAt]
    cases hsig : sig t with
    | prim => simp
    | enum c vs => simp
    | struct fs =>
      simp only [hsig, Bool.and_eq_false_iff, decide_eq_false_iff_not] at h
      simp only
      rcases h with h | h
      · have : ps.length ≠ fs.length := by omega
        simp [this]
      · simp [not_swfTuple_err sig w ps _ hs h]
  | .variant tag ps, t, hs, h => by
    simp only [shape] at hs
    simp only [swf] at h
    simp only [normalize, sigAt]
    cases hsig : sig t with
    | prim => simp
    | struct fs => simp
    | enum c vs =>
      simp only [hsig] at h
      simp only
      cases hf : findVariant vs tag with
      | none => simp
      | some tys =>
        simp only [hf, Bool.and_eq_false_iff, decide_eq_false_iff_not] at h
        simp only
        rcases h with h | h
        · have : ps.length ≠ tys.length := by omega
          simp [this]
        · simp [not_swfTuple_err sig w ps tys hs h]
  | .object names ps, t, hs, h => by
    simp only [shape, Bool.and_eq_true, decide_eq_true_eq] at hs
    simp only [swf] at h
    simp only [normalize, sigAt]
    cases hsig : sig t with
    | prim => simp
    | enum c vs => simp
    | struct fs =>
      simp only [hsig, Bool.and_eq_false_iff, decide_eq_false_iff_not] at h
      simp only
      rcases h with (h | h) | h
      · simp [normObject_err_of_dup sig w fs ps names _ hs.1 h]
      · exact absurd hs.1 h
      · simp [not_swfObject_err sig w fs ps names _ hs.2 hs.1 h]
theorem not_swfAll_err (sig : Sig) (w : Bool) : ∀ (ps : List SPat) (t : Nat), shapeL ps = true →
    swfAll sig w ps t = false → (normAll sig w ps (some t)).err = true
  | [], _, _, h => by simp [swfAll] at h
  | p :: ps, t, hs, h => by
    simp only [shapeL, Bool.and_eq_true] at hs
    simp only [swfAll, Bool.and_eq_false_iff] at h
    simp only [normAll]
    rcases h with h | h
    · simp [not_swf_err sig w p t hs.1 h]
    · simp [not_swfAll_err sig w ps t hs.2 h]
theorem not_swfTuple_err (sig : Sig) (w : Bool) : ∀ (ps : List SPat) (tys : List Nat), shapeL ps = true →
    swfTuple sig w ps tys = false → (normTuple sig w ps tys).err = true
  | [], _, _, h => by simp [swfTuple] at h
  | p :: ps, [], _, _ => by simp [normTuple]
  | p :: ps, t :: ts, hs, h => by
    simp only [shapeL, Bool.and_eq_true] at hs
    simp only [swfTuple, Bool.and_eq_false_iff] at h
    simp only [normTuple]
    rcases h with h | h
    · simp [not_swf_err sig w p t hs.1 h]
    · simp [not_swfTuple_err sig w ps ts hs.2 h]
theorem not_swfObject_err (sig : Sig) (w : Bool) (fs : List (Nat × Nat)) :
    ∀ (es : List SPat) (names : List Nat) (acc : List Pat), shapeL es = true → names.length = es.length →
      swfObject sig w fs es names = false → (normObject sig w fs es names acc).err = true
  | [], _, _, _, _, h => by simp [swfObject] at h
  | _ :: _, [], _, _, hl, _ => by simp at hl
  | p :: es, name :: names, acc, hs, hl, h => by
    simp only [shapeL, Bool.and_eq_true] at hs
    simp only [swfObject, Bool.and_eq_false_iff] at h
    simp only [normObject]
    cases hf : fieldIndex fs name with
    | none => simp
    | some it =>
      obtain ⟨i, t⟩ := it
      simp only [hf] at h
      simp only
      rcases h with h | h
      · simp [not_swf_err sig w p t hs.1 h]
      · simp [not_swfObject_err sig w fs es names _ hs.2 (by simpa using hl) h]
end

end SamVerif.Useful
