import SamVerif.Props.C04
/-!
The only place where C03 depends on the *names* of C04's string-constant lemmas
(`Props/C04.lean`): what C03 needs is re-exported here under C03's own names, so that a rename or a
restructuring upstream shows up in this file alone.
-/
namespace SamVerif.C03Str
open SamVerif.Backends

/-- the content of a literal the lexer accepts is well-escaped (every backslash starts one of the
eight escape sequences or `\\`) -/
theorem accepted_content_wellEsc (raw : Text) (h : lexAccepts raw = true) : WellEsc (content raw) :=
  (content_wellEsc raw (lexAccepts_wellEscQ raw h)).1

/-- well-escaped content, as printed by `template_literal_text` between back quotes, is one
substitution-free template literal; JS cooks it to the UTF-16 form of the characters the escapes denote -/
theorem wellEsc_closed (s : Text) (hw : WellEsc s) :
    tsDecode s = some ((wasmUnescape s).flatMap utf16) := by
  unfold tsDecode
  exact cook_wellEsc s hw

end SamVerif.C03Str
