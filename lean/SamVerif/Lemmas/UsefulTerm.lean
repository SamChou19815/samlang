import SamVerif.Lemmas.Useful
/-! Termination of `usefulF` / `cexF`: more fuel never changes an answer (`usefulF_mono`, `cexF_mono`),
and fuel above the potential yields one (`usefulF_some`, `cexF_some`).

A row weighs the *product* of `1 + patW p` over its patterns, a constructor pattern the product over
its arguments, an or-pattern the *sum* over its alternatives and a wildcard nothing.  Specialisation
and the default matrix never increase `matW` (or-expansion duplicates the rest of a row, which the
product accounts for), specialisation by a root constructor strictly decreases it.  `A` bounds the
arity of every constructor pattern in `P` and `q` (specialisation and the default matrix only copy
sub-patterns and add wildcards, so the bound is invariant); a call may lengthen `q` by at most `A`
when the weight falls, so `(matW P + rowW q) * (A + 1) + |q|` strictly decreases at every call. -/
namespace SamVerif.Useful

theorem rowW_pos : ∀ (ps : List Pat), 0 < rowW ps
  | [] => Nat.one_pos
  | _ :: ps => Nat.mul_pos (Nat.lt_add_right _ Nat.one_pos) (rowW_pos ps)

theorem rowW_append : ∀ (a b : List Pat), rowW (a ++ b) = rowW a * rowW b
  | [], b => by simp [rowW]
  | p :: a, b => by simp [rowW, rowW_append a b, Nat.mul_assoc]

theorem rowW_wilds : ∀ (n : Nat), rowW (wilds n) = 1
  | 0 => rfl
  | n + 1 => by rw [wilds_succ]; simp [rowW, patW, rowW_wilds n]

theorem rowW_wild_cons (rest : List Pat) : rowW (.wild :: rest) = rowW rest := by
  simp only [rowW, patW, Nat.add_zero, Nat.one_mul]

theorem rowW_struct_cons (c : Option Ctor) (rs rest : List Pat) :
    rowW (.struct c rs :: rest) = rowW (rs ++ rest) + rowW rest := by
  simp only [rowW, patW, rowW_append, Nat.add_mul, Nat.one_mul, Nat.add_comm]

theorem sumW_mem : ∀ (ps : List Pat) (r : Pat), r ∈ ps → 1 + patW r ≤ sumW ps
  | p :: ps, r, h => by
    rcases List.mem_cons.mp h with rfl | h
    · exact Nat.le_add_right _ _
    · exact Nat.le_trans (sumW_mem ps r h) (Nat.le_add_left _ _)

theorem rowW_or_mem {ps : List Pat} {r : Pat} (h : r ∈ ps) (rest : List Pat) :
    rowW (r :: rest) < rowW (.or ps :: rest) := by
  have h1 := Nat.mul_le_mul_right (rowW rest) (sumW_mem ps r h)
  have h2 := rowW_pos rest
  simp only [rowW, patW, Nat.add_mul 1, Nat.one_mul] at h1 ⊢
  omega

theorem matW_append : ∀ (A B : Matrix), matW (A ++ B) = matW A + matW B
  | [], B => by simp [matW]
  | r :: A, B => by simp [matW, matW_append A B, Nat.add_assoc]

theorem matW_flatMap_le {f : Row → List Row} (h : ∀ r, matW (f r) ≤ rowW r) :
    ∀ (P : Matrix), matW (P.flatMap f) ≤ matW P
  | [] => Nat.le_refl _
  | r :: P => by
    rw [List.flatMap_cons, matW_append]
    exact Nat.add_le_add (h r) (matW_flatMap_le h P)

theorem matW_flatMap_lt {f : Row → List Row} (hle : ∀ r, matW (f r) ≤ rowW r) :
    ∀ {P : Matrix} {r : Row}, r ∈ P → matW (f r) < rowW r → matW (P.flatMap f) < matW P
  | r' :: P, r, hr, hlt => by
    rw [List.flatMap_cons, matW_append, matW]
    rcases List.mem_cons.mp hr with rfl | hr
    · exact Nat.add_lt_add_of_lt_of_le hlt (matW_flatMap_le hle P)
    · exact Nat.add_lt_add_of_le_of_lt (hle r') (matW_flatMap_lt hle hr hlt)

/-- bound factor of the rows that come out of one head pattern -/
def specBound : Pat → Nat
  | .wild => 1
  | p => patW p

theorem specBound_le (p : Pat) : specBound p ≤ 1 + patW p := by
  cases p <;> simp [specBound, patW]

theorem specBound_lt (p : Pat) (h : headCtors p ≠ []) : specBound p < 1 + patW p := by
  cases p with
  | wild => exact absurd rfl h
  | struct c args => simp [specBound]
  | or ps => simp [specBound]

theorem matW_flatMap_sumW {f : Pat → List Row} {k : Nat} : ∀ {ps : List Pat},
    (∀ p ∈ ps, matW (f p) ≤ (1 + patW p) * k) → matW (ps.flatMap f) ≤ sumW ps * k
  | [], _ => Nat.zero_le _
  | p :: ps, h => by
    rw [List.flatMap_cons, matW_append, sumW, Nat.add_mul]
    exact Nat.add_le_add (h p List.mem_cons_self)
      (matW_flatMap_sumW fun q hq => h q (List.mem_cons_of_mem _ hq))

theorem specHead_w (c : Option Ctor) (n : Nat) (rest : Row) (p : Pat) :
    matW (specHead c n rest p) ≤ specBound p * rowW rest := by
  induction p using Pat.ind with
  | wild => simp [specHead, matW, specBound, rowW_append, rowW_wilds]
  | struct c' rs _ =>
    rcases specHead_struct c c' n rest rs with h | h <;> rw [h]
    · simp [matW, specBound, patW, rowW_append]
    · exact Nat.zero_le _
  | or ps ih =>
    rw [specHead, specHeads_eq]
    exact matW_flatMap_sumW fun p hp => Nat.le_trans (ih p hp) (Nat.mul_le_mul_right _ (specBound_le p))

theorem specHeads_w (c : Option Ctor) (n : Nat) (rest : Row) : ∀ (ps : List Pat),
    matW (specHeads c n rest ps) ≤ sumW ps * rowW rest :=
  fun ps => specHead_w c n rest (.or ps)

theorem defaultHead_w (rest : Row) (p : Pat) : matW (defaultHead rest p) ≤ specBound p * rowW rest := by
  induction p using Pat.ind with
  | wild => simp [defaultHead, matW, specBound]
  | struct _ _ _ => exact Nat.zero_le _
  | or ps ih =>
    rw [defaultHead, defaultHeads_eq]
    exact matW_flatMap_sumW fun p hp => Nat.le_trans (ih p hp) (Nat.mul_le_mul_right _ (specBound_le p))

theorem defaultHeads_w (rest : Row) : ∀ (ps : List Pat), matW (defaultHeads rest ps) ≤ sumW ps * rowW rest :=
  fun ps => defaultHead_w rest (.or ps)

theorem specRow_w (c : Option Ctor) (n : Nat) : ∀ (r : Row), matW (specRow c n r) ≤ rowW r
  | [] => Nat.zero_le _
  | p :: rest => Nat.le_trans (specHead_w c n rest p) (Nat.mul_le_mul_right _ (specBound_le p))

theorem specRow_w_lt (c : Option Ctor) (n : Nat) : ∀ (r : Row), rowHeadCtors r ≠ [] →
    matW (specRow c n r) < rowW r
  | [], h => absurd rfl h
  | p :: rest, h => Nat.lt_of_le_of_lt (specHead_w c n rest p)
      (Nat.mul_lt_mul_of_pos_right (specBound_lt p h) (rowW_pos rest))

theorem matW_specialize_le (c : Option Ctor) (n : Nat) (P : Matrix) : matW (specialize P c n) ≤ matW P :=
  matW_flatMap_le (specRow_w c n) P

theorem matW_default_le (P : Matrix) : matW (defaultMatrix P) ≤ matW P :=
  matW_flatMap_le (fun
    | [] => Nat.zero_le _
    | p :: rest => Nat.le_trans (defaultHead_w rest p) (Nat.mul_le_mul_right _ (specBound_le p))) P

theorem matW_specialize_lt (c : Option Ctor) (n : Nat) (P : Matrix) {x : Option Ctor × Nat}
    (h : x ∈ rawRoots P) : matW (specialize P c n) < matW P := by
  obtain ⟨r, hr, hx⟩ := List.mem_flatMap.mp h
  exact matW_flatMap_lt (specRow_w c n) hr (specRow_w_lt c n r (List.ne_nil_of_mem hx))

theorem arL_append : ∀ (a b : List Pat), arL (a ++ b) = max (arL a) (arL b)
  | [], b => by simp [arL]
  | p :: a, b => by rw [List.cons_append, arL, arL, arL_append a b, Nat.max_assoc]

theorem arL_wilds : ∀ (n : Nat), arL (wilds n) = 0
  | 0 => rfl
  | n + 1 => by rw [wilds_succ]; simp [arL, arP, arL_wilds n]

theorem arM_append : ∀ (A B : Matrix), arM (A ++ B) = max (arM A) (arM B)
  | [], B => by simp [arM]
  | r :: A, B => by rw [List.cons_append, arM, arM, arM_append A B, Nat.max_assoc]

theorem arL_mem : ∀ (ps : List Pat) (p : Pat), p ∈ ps → arP p ≤ arL ps
  | q :: ps, p, h => by
    rcases List.mem_cons.mp h with rfl | h
    · exact Nat.le_max_left _ _
    · exact Nat.le_trans (arL_mem ps p h) (Nat.le_max_right _ _)

theorem arM_flatMap_le {f : Row → List Row} (h : ∀ r, arM (f r) ≤ arL r) :
    ∀ (P : Matrix), arM (P.flatMap f) ≤ arM P
  | [] => Nat.le_refl _
  | r :: P => by
    rw [List.flatMap_cons, arM_append]
    exact Nat.max_le.mpr ⟨Nat.le_trans (h r) (Nat.le_max_left _ _),
      Nat.le_trans (arM_flatMap_le h P) (Nat.le_max_right _ _)⟩

theorem arM_flatMap_of {α : Type} {f : α → List Row} {b : Nat} : ∀ {l : List α},
    (∀ x ∈ l, arM (f x) ≤ b) → arM (l.flatMap f) ≤ b
  | [], _ => Nat.zero_le _
  | x :: l, h => by
    rw [List.flatMap_cons, arM_append]
    exact Nat.max_le.mpr ⟨h x List.mem_cons_self, arM_flatMap_of fun y hy => h y (List.mem_cons_of_mem _ hy)⟩

theorem specHead_ar (c : Option Ctor) (n : Nat) (rest : Row) (p : Pat) :
    arM (specHead c n rest p) ≤ max (arP p) (arL rest) := by
  induction p using Pat.ind with
  | wild => simp [specHead, arM, arL_append, arL_wilds, arP]
  | struct c' rs _ =>
    rcases specHead_struct c c' n rest rs with h | h <;> rw [h]
    · rw [arM, arM, Nat.max_zero, arL_append, arP]
      exact Nat.max_le.mpr ⟨Nat.le_trans (Nat.le_max_right _ _) (Nat.le_max_left _ _), Nat.le_max_right _ _⟩
    · exact Nat.zero_le _
  | or ps ih =>
    rw [specHead, specHeads_eq]
    exact arM_flatMap_of fun p hp => Nat.le_trans (ih p hp) (Nat.max_le.mpr
      ⟨Nat.le_trans (arL_mem ps p hp) (Nat.le_max_left _ _), Nat.le_max_right _ _⟩)

theorem specHeads_ar (c : Option Ctor) (n : Nat) (rest : Row) : ∀ (ps : List Pat),
    arM (specHeads c n rest ps) ≤ max (arL ps) (arL rest) :=
  fun ps => specHead_ar c n rest (.or ps)

theorem defaultHead_ar (rest : Row) (p : Pat) : arM (defaultHead rest p) ≤ arL rest := by
  induction p using Pat.ind with
  | wild => simp [defaultHead, arM]
  | struct _ _ _ => exact Nat.zero_le _
  | or ps ih =>
    rw [defaultHead, defaultHeads_eq]
    exact arM_flatMap_of ih

theorem defaultHeads_ar (rest : Row) : ∀ (ps : List Pat), arM (defaultHeads rest ps) ≤ arL rest :=
  fun ps => defaultHead_ar rest (.or ps)

theorem arM_specialize_le (c : Option Ctor) (n : Nat) (P : Matrix) : arM (specialize P c n) ≤ arM P :=
  arM_flatMap_le (fun | [] => Nat.zero_le _ | p :: rest => specHead_ar c n rest p) P

theorem arM_default_le (P : Matrix) : arM (defaultMatrix P) ≤ arM P :=
  arM_flatMap_le (fun
    | [] => Nat.zero_le _
    | p :: rest => Nat.le_trans (defaultHead_ar rest p) (Nat.le_max_right _ _)) P

theorem headCtors_ar (p : Pat) : ∀ (c : Option Ctor) (n : Nat), (c, n) ∈ headCtors p → n ≤ arP p := by
  induction p using Pat.ind with
  | wild => intro _ _ h; cases h
  | struct c' rs _ =>
    intro c n h
    cases List.mem_singleton.mp h
    exact Nat.le_max_left _ _
  | or ps ih =>
    intro c n h
    rw [headCtors, headCtorsL_eq] at h
    obtain ⟨p, hp, h⟩ := List.mem_flatMap.mp h
    exact Nat.le_trans (ih p hp c n h) (arL_mem ps p hp)

theorem rawRoots_ar : ∀ (P : Matrix) (c : Option Ctor) (n : Nat), (c, n) ∈ rawRoots P → n ≤ arM P
  | r :: P, c, n, h => by
    rw [rawRoots, List.flatMap_cons] at h
    rcases List.mem_append.mp h with h | h
    · cases r with
      | nil => simp [rowHeadCtors] at h
      | cons p rest =>
        exact Nat.le_trans (headCtors_ar p c n h)
          (Nat.le_trans (Nat.le_max_left _ (arL rest)) (Nat.le_max_left _ _))
    · exact Nat.le_trans (rawRoots_ar P c n h) (Nat.le_max_right _ _)

theorem pot_lt_of_lt {w' w l' l A n : Nat} (hw : w' < w) (hl : l' ≤ A + l)
    (h : w * (A + 1) + l < n + 1) : w' * (A + 1) + l' < n := by
  have := Nat.mul_le_mul_right (A + 1) (Nat.succ_le_of_lt hw)
  rw [Nat.succ_mul] at this
  omega

theorem pot_lt_of_le {w' w l' l A n : Nat} (hw : w' ≤ w) (hl : l' < l)
    (h : w * (A + 1) + l < n + 1) : w' * (A + 1) + l' < n := by
  have := Nat.mul_le_mul_right (A + 1) hw
  omega

theorem anyO_mono {α : Type} {f g : α → Option Bool} {l : List α} {b : Bool}
    (hfg : ∀ x ∈ l, ∀ b, f x = some b → g x = some b) (h : anyO f l = some b) : anyO g l = some b := by
  fun_induction anyO f l with
  | case1 => exact h
  | case2 x xs hx => cases h
  | case3 x xs hx => rw [anyO, hfg x List.mem_cons_self _ hx]; exact h
  | case4 x xs hx ih =>
    rw [anyO, hfg x List.mem_cons_self _ hx]
    exact ih (fun y hy => hfg y (List.mem_cons_of_mem _ hy)) h

theorem anyO_isSome {α : Type} {f : α → Option Bool} {l : List α}
    (h : ∀ x ∈ l, ∃ b, f x = some b) : ∃ b, anyO f l = some b := by
  induction l with
  | nil => exact ⟨false, rfl⟩
  | cons x xs ih =>
    obtain ⟨b, hb⟩ := h x List.mem_cons_self
    rw [anyO, hb]
    cases b with
    | true => exact ⟨true, rfl⟩
    | false => exact ih (fun y hy => h y (List.mem_cons_of_mem _ hy))

theorem firstO_mono {α β : Type} {f g : α → Option (Option β)} {l : List α} {r : Option β}
    (hfg : ∀ x ∈ l, ∀ r, f x = some r → g x = some r) (h : firstO f l = some r) : firstO g l = some r := by
  fun_induction firstO f l with
  | case1 => exact h
  | case2 x xs hx => cases h
  | case3 x xs d hx => rw [firstO, hfg x List.mem_cons_self _ hx]; exact h
  | case4 x xs hx ih =>
    rw [firstO, hfg x List.mem_cons_self _ hx]
    exact ih (fun y hy => hfg y (List.mem_cons_of_mem _ hy)) h

theorem firstO_isSome {α β : Type} {f : α → Option (Option β)} {l : List α}
    (h : ∀ x ∈ l, ∃ r, f x = some r) : ∃ r, firstO f l = some r := by
  induction l with
  | nil => exact ⟨none, rfl⟩
  | cons x xs ih =>
    obtain ⟨r, hr⟩ := h x List.mem_cons_self
    rw [firstO, hr]
    cases r with
    | some d => exact ⟨some d, rfl⟩
    | none => exact ih (fun y hy => h y (List.mem_cons_of_mem _ hy))

theorem usefulF_succ (cx : Cx) : ∀ (n : Nat) (P : Matrix) (q : Row) (b : Bool),
    usefulF cx n P q = some b → usefulF cx (n + 1) P q = some b := by
  intro n P q
  -- arms, in the order of `usefulF`: 1 no fuel, 2 empty matrix, 3 no columns, 4 constructor head,
  -- 5 `_` head over a complete signature, 6 `_` head otherwise (default matrix), 7 or-pattern head
  fun_induction usefulF cx n P q with
  | case1 => intro b h; cases h
  | case2 fuel P q hP => intro b h; unfold usefulF; rw [if_pos hP]; exact h
  | case3 fuel P hP => intro b h; rw [usefulF, if_neg hP]; exact h
  | case4 fuel P hP c rs rest ih => intro b h; rw [usefulF, if_neg hP]; exact ih b h
  | case5 fuel P hP rest roots hs ih =>
    intro b h
    rw [usefulF, if_neg hP]
    -- `hs` speaks of the local definition `roots`, the goal of `rootCtors P`
    simp only [show sigIncomplete cx (rootCtors P) = none from hs]
    exact anyO_mono (fun cn _ => ih cn) h
  | case6 fuel P hP rest roots inc hs ih =>
    intro b h
    rw [usefulF, if_neg hP]
    simp only [show sigIncomplete cx (rootCtors P) = some inc from hs]
    exact ih b h
  | case7 fuel P hP ps rest ih =>
    intro b h
    rw [usefulF, if_neg hP]
    exact anyO_mono (fun r _ => ih r) h

theorem usefulF_mono {cx : Cx} {n : Nat} {P : Matrix} {q : Row} {b : Bool}
    (h : usefulF cx n P q = some b) : ∀ {m : Nat}, n ≤ m → usefulF cx m P q = some b := by
  intro m hm
  induction hm with
  | refl => exact h
  | step _ ih => exact usefulF_succ cx _ P q b ih

theorem usefulF_some (cx : Cx) (A : Nat) : ∀ (n : Nat) (P : Matrix) (q : Row),
    arM P ≤ A → arL q ≤ A → (matW P + rowW q) * (A + 1) + q.length < n →
    ∃ b, usefulF cx n P q = some b := by
  intro n P q
  -- arms, in the order of `usefulF`: 1 no fuel, 2 empty matrix, 3 no columns, 4 constructor head,
  -- 5 `_` head over a complete signature, 6 `_` head otherwise (default matrix), 7 or-pattern head
  fun_induction usefulF cx n P q with
  | case1 => intro _ _ h; exact absurd h (Nat.not_lt_zero _)
  | case2 => intros; exact ⟨true, rfl⟩
  | case3 => intros; exact ⟨false, rfl⟩
  | case4 fuel P hPe c rs rest ih =>
    intro hP hq h
    simp only [arL, arP, Nat.max_le] at hq
    refine ih (Nat.le_trans (arM_specialize_le c rs.length P) hP)
      (by rw [arL_append]; exact Nat.max_le.mpr ⟨hq.1.2, hq.2⟩) ?_
    have hw : matW (specialize P c rs.length) + rowW (rs ++ rest) < matW P + rowW (.struct c rs :: rest) := by
      rw [rowW_struct_cons]
      exact Nat.add_lt_add_of_le_of_lt (matW_specialize_le c rs.length P)
        (Nat.lt_add_of_pos_right (rowW_pos rest))
    refine pot_lt_of_lt hw ?_ h
    rw [List.length_append]
    exact Nat.add_le_add hq.1.1 (Nat.le_succ _)
  | case5 fuel P hPe rest roots hs ih =>
    intro hP hq h
    simp only [arL, arP, Nat.max_le] at hq
    refine anyO_isSome fun cn hmem => ?_
    have hcn : cn.2 ≤ A := Nat.le_trans (rawRoots_ar P cn.1 cn.2 (rootCtors_sub hmem)) hP
    refine ih cn (Nat.le_trans (arM_specialize_le cn.1 cn.2 P) hP)
      (by rw [arL_append, arL_wilds]; exact Nat.max_le.mpr ⟨Nat.zero_le _, hq.2⟩) ?_
    have hw : matW (specialize P cn.1 cn.2) + rowW (wilds cn.2 ++ rest) < matW P + rowW (.wild :: rest) := by
      rw [rowW_append, rowW_wilds, Nat.one_mul, rowW_wild_cons]
      exact Nat.add_lt_add_right (matW_specialize_lt cn.1 cn.2 P (rootCtors_sub hmem)) _
    refine pot_lt_of_lt hw ?_ h
    rw [List.length_append, wilds_length]
    exact Nat.add_le_add hcn (Nat.le_succ _)
  | case6 fuel P hPe rest roots inc hs ih =>
    intro hP hq h
    simp only [arL, arP, Nat.max_le] at hq
    refine ih (Nat.le_trans (arM_default_le P) hP) hq.2 ?_
    have hw : matW (defaultMatrix P) + rowW rest ≤ matW P + rowW (.wild :: rest) := by
      rw [rowW_wild_cons]; exact Nat.add_le_add_right (matW_default_le P) _
    exact pot_lt_of_le hw (Nat.lt_succ_self _) h
  | case7 fuel P hPe ps rest ih =>
    intro hP hq h
    simp only [arL, arP, Nat.max_le] at hq
    refine anyO_isSome fun r hmem => ?_
    refine ih r hP (Nat.max_le.mpr ⟨Nat.le_trans (arL_mem ps r hmem) hq.1, hq.2⟩) ?_
    exact pot_lt_of_lt (Nat.add_lt_add_left (rowW_or_mem hmem rest) (matW P)) (Nat.le_add_left _ _) h

theorem cexF_succ (cx : Cx) : ∀ (k : Nat) (P : Matrix) (n : Nat) (r : Option Row),
    cexF cx k P n = some r → cexF cx (k + 1) P n = some r := by
  intro k P n
  -- arms, in the order of `cexF`: 1 no fuel, 2 / 3 no columns (empty / non-empty matrix), 4–6 incomplete
  -- signature (the search in the default matrix ran out of fuel / found nothing / found `v`),
  -- 7 complete signature (first root constructor whose specialised matrix has a counterexample)
  fun_induction cexF cx k P n with
  | case1 => intro r h; cases h
  | case2 fuel P hP => intro r h; rw [cexF, if_pos rfl, if_pos hP]; exact h
  | case3 fuel P hP => intro r h; rw [cexF, if_pos rfl, if_neg hP]; exact h
  | case4 fuel P n hn roots inc hs hrec ih => intro r h; cases h
  | case5 fuel P n hn roots inc hs hrec ih =>
    intro r h
    rw [cexF, if_neg hn]
    simp only [show sigIncomplete cx (rootCtors P) = some inc from hs, ih _ hrec]
    exact h
  | case6 fuel P n hn roots inc hs v hrec head ih =>
    intro r h
    rw [cexF, if_neg hn]
    simp only [show sigIncomplete cx (rootCtors P) = some inc from hs, ih _ hrec]
    exact h
  | case7 fuel P n hn roots hs ih =>
    intro r h
    rw [cexF, if_neg hn]
    simp only [show sigIncomplete cx (rootCtors P) = none from hs]
    refine firstO_mono (fun cn _ r hr => ?_) h
    cases hc : cexF cx fuel (specialize P cn.1 cn.2) (cn.2 + n - 1) with
    | none => rw [hc] at hr; cases hr
    | some r' => rw [ih cn r' hc]; rw [hc] at hr; exact hr

theorem cexF_mono {cx : Cx} {k : Nat} {P : Matrix} {n : Nat} {r : Option Row}
    (h : cexF cx k P n = some r) : ∀ {m : Nat}, k ≤ m → cexF cx m P n = some r := by
  intro m hm
  induction hm with
  | refl => exact h
  | step _ ih => exact cexF_succ cx _ P n r ih

theorem cexF_some (cx : Cx) (A : Nat) : ∀ (k : Nat) (P : Matrix) (n : Nat),
    arM P ≤ A → matW P * (A + 1) + n < k → ∃ r, cexF cx k P n = some r := by
  intro k P n
  -- arms, in the order of `cexF`: 1 no fuel, 2 / 3 no columns (empty / non-empty matrix), 4–6 incomplete
  -- signature (the search in the default matrix ran out of fuel / found nothing / found `v`),
  -- 7 complete signature (first root constructor whose specialised matrix has a counterexample)
  fun_induction cexF cx k P n with
  | case1 => intro _ h; exact absurd h (Nat.not_lt_zero _)
  | case2 => intros; exact ⟨_, rfl⟩
  | case3 => intros; exact ⟨_, rfl⟩
  | case4 fuel P n hn roots inc hs hrec ih =>
    intro hP h
    obtain ⟨r, hr⟩ := ih (Nat.le_trans (arM_default_le P) hP)
      (pot_lt_of_le (matW_default_le P) (Nat.sub_lt (Nat.pos_of_ne_zero hn) Nat.one_pos) h)
    rw [hrec] at hr; cases hr
  | case5 => intros; exact ⟨_, rfl⟩
  | case6 => intros; exact ⟨_, rfl⟩
  | case7 fuel P n hn roots hs ih =>
    intro hP h
    refine firstO_isSome fun cn hmem => ?_
    have hmem' := (mem_sortByKey _ _).mp hmem
    have hcn : cn.2 ≤ A := Nat.le_trans (rawRoots_ar P cn.1 cn.2 (rootCtors_sub hmem')) hP
    obtain ⟨r, hr⟩ := ih cn (Nat.le_trans (arM_specialize_le cn.1 cn.2 P) hP)
      (pot_lt_of_lt (matW_specialize_lt cn.1 cn.2 P (rootCtors_sub hmem'))
        (Nat.le_trans (Nat.sub_le _ _) (Nat.add_le_add_right hcn _)) h)
    rw [hr]
    cases r <;> exact ⟨_, rfl⟩

end SamVerif.Useful
