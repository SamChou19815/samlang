import SamVerif.Model.PStr
/-! UTF-8 facts about Lean's own encoder (the Rust `&str` invariant) and raw-layout lemmas. -/
namespace SamVerif.PStr

theorem ofNat_mod_add_lt (x : Nat) {k c : Nat} (hk : 0 < k) (h : k + c ≤ 248) :
    (UInt8.ofNat (x % k + c)).toNat < 248 := by
  have := Nat.mod_lt x hk
  rw [UInt8.toNat_ofNat']; omega

theorem utf8EncodeChar_lt (c : Char) : ∀ b ∈ String.utf8EncodeChar c, b.toNat < 248 := by
  -- by the length of the encoding: one byte below 128; else leading bytes `x % 32 + 192`,
  -- `x % 16 + 224`, `x % 8 + 240` and continuation bytes `x % 64 + 128`
  fun_cases String.utf8EncodeChar c <;> intro b hb <;>
    simp only [List.mem_cons, List.not_mem_nil, or_false] at hb
  · subst hb; rw [UInt8.toNat_ofNat']; omega
  · rcases hb with rfl | rfl <;> exact ofNat_mod_add_lt _ (by decide) (by decide)
  · rcases hb with rfl | rfl | rfl <;> exact ofNat_mod_add_lt _ (by decide) (by decide)
  · rcases hb with rfl | rfl | rfl | rfl <;> exact ofNat_mod_add_lt _ (by decide) (by decide)

/-- The bytes of a `String` (always valid UTF-8 in Lean, as `&str` is in Rust). -/
def bytesOf (s : String) : Bytes := s.toUTF8.data.toList

theorem bytesOf_eq (s : String) : bytesOf s = s.toList.flatMap String.utf8EncodeChar := by
  unfold bytesOf
  rw [String.toUTF8_eq_toByteArray, ← String.utf8Encode_toList, List.utf8Encode,
    List.toList_data_toByteArray]

/-- **No byte of a valid UTF-8 string is `0xF8..0xFF`.** -/
theorem bytesOf_lt (s : String) : ∀ b ∈ bytesOf s, b.toNat < 248 := by
  intro b hb
  rw [bytesOf_eq, List.mem_flatMap] at hb
  obtain ⟨c, _, hc⟩ := hb
  exact utf8EncodeChar_lt c b hc

theorem pad_length (s : Bytes) (h : s.length ≤ 15) : (pad s).length = 15 := by
  simp [pad]; omega

theorem pad_getD (s : Bytes) (i : Nat) : (pad s).getD i 0 = s.getD i 0 := by
  simp only [pad, List.getD_eq_getElem?_getD, List.getElem?_append]
  split
  · rfl
  · rename_i h
    have : s[i]? = none := List.getElem?_eq_none (Nat.not_lt.mp h)
    rw [this]
    by_cases hi : i - s.length < 15 - s.length <;> simp [hi]

theorem topByte_rawInlineA (s : Bytes) : topByte (rawInlineA s) = s.getD 14 0 := by
  simp only [topByte, rawInlineA]
  rw [List.getD_cons_succ, pad_getD]

theorem topByte_rawInlineB (s : Bytes) (h : s.length ≤ 15) :
    topByte (rawInlineB s) = UInt8.ofNat s.length := by
  simp only [topByte, rawInlineB, List.getD_eq_getElem?_getD]
  rw [List.getElem?_append_right (by rw [pad_length s h]; exact Nat.le_refl _)]
  simp [pad_length s h]

theorem topByte_rawId (id : Nat) : topByte (rawId id) = 255 := by
  simp [topByte, rawId]

theorem ofNat_inj_small (a b : Nat) (ha : a < 256) (hb : b < 256) (h : UInt8.ofNat a = UInt8.ofNat b) : a = b := by
  have := congrArg UInt8.toNat h
  rwa [UInt8.toNat_ofNat', UInt8.toNat_ofNat', Nat.mod_eq_of_lt (show a < 2 ^ 8 from ha),
    Nat.mod_eq_of_lt (show b < 2 ^ 8 from hb)] at this

theorem pad_take (s : Bytes) : (pad s).take s.length = s := by
  simp [pad]

/-- Both inline layouts store the length byte next to the padded bytes. -/
theorem pad_inj (s t : Bytes) (hs : s.length ≤ 15) (ht : t.length ≤ 15)
    (hlen : UInt8.ofNat s.length = UInt8.ofNat t.length) (h : pad s = pad t) : s = t := by
  have hl := ofNat_inj_small s.length t.length (by omega) (by omega) hlen
  have := congrArg (List.take s.length) h
  rwa [pad_take, hl, pad_take] at this

theorem rawInlineA_inj (s t : Bytes) (hs : s.length ≤ 15) (ht : t.length ≤ 15)
    (h : rawInlineA s = rawInlineA t) : s = t := by
  simp only [rawInlineA, List.cons.injEq] at h
  exact pad_inj s t hs ht h.1 h.2

theorem rawInlineB_inj (s t : Bytes) (hs : s.length ≤ 15) (ht : t.length ≤ 15)
    (h : rawInlineB s = rawInlineB t) : s = t := by
  simp only [rawInlineB] at h
  have h1 := List.append_inj h (by rw [pad_length s hs, pad_length t ht])
  exact pad_inj s t hs ht (List.singleton_inj.mp h1.2) h1.1

theorem rawId_inj (i j : Nat) (hi : i < 2 ^ 32) (hj : j < 2 ^ 32) (h : rawId i = rawId j) : i = j := by
  simp only [rawId, List.cons_append, List.cons.injEq] at h
  obtain ⟨h0, h1, h2, h3, _⟩ := h
  have e0 := congrArg UInt8.toNat h0
  have e1 := congrArg UInt8.toNat h1
  have e2 := congrArg UInt8.toNat h2
  have e3 := congrArg UInt8.toNat h3
  simp only [UInt8.toNat_ofNat'] at e0 e1 e2 e3
  -- the four bytes are the base-256 digits of an id below `256 ^ 4`: equal from the top down
  have d3 : i / 16777216 = j / 16777216 := by
    have bi : i / 16777216 < 2 ^ 8 := Nat.div_lt_of_lt_mul hi
    have bj : j / 16777216 < 2 ^ 8 := Nat.div_lt_of_lt_mul hj
    rwa [Nat.mod_eq_of_lt bi, Nat.mod_eq_of_lt bj] at e3
  have d2 : i / 65536 = j / 65536 :=
    Nat.ext_div_mod ((Nat.div_div_eq_div_mul i 65536 256).trans
      (d3.trans (Nat.div_div_eq_div_mul j 65536 256).symm)) e2
  have d1 : i / 256 = j / 256 :=
    Nat.ext_div_mod ((Nat.div_div_eq_div_mul i 256 256).trans
      (d2.trans (Nat.div_div_eq_div_mul j 256 256).symm)) e1
  exact Nat.ext_div_mod d1 e0

end SamVerif.PStr
