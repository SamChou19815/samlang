import SamVerif.Lemmas.ScopeNest
/-!
Block wrapping (C13): running a fragment with one additional, empty scope inserted `j` levels
below the top resolves every name to the same definition; only the scope *depth* of bindings below
the inserted scope shifts by one (which matters for capture recording only).
-/
namespace SamVerif.Scope

variable {α : Type} [DecidableEq α]

def insAt {β : Type} (j : Nat) (x : β) (l : List β) : List β := l.take j ++ x :: l.drop j

theorem insAt_zero {β : Type} (x : β) (l : List β) : insAt 0 x l = x :: l := by simp [insAt]
theorem insAt_succ_cons {β : Type} (j : Nat) (x a : β) (l : List β) :
    insAt (j + 1) x (a :: l) = a :: insAt j x l := by simp [insAt]
theorem insAt_length {β : Type} (j : Nat) (x : β) (l : List β) : (insAt j x l).length = l.length + 1 := by
  simp only [insAt, List.length_append, List.length_cons, List.length_take, List.length_drop]; omega

/-- The depth of a scope after one more scope has been inserted `j` levels below the top. -/
def shiftK (j k : Nat) : Nat := if k < j then k else k + 1

theorem shiftK_zero (k : Nat) : shiftK 0 k = k + 1 := by simp [shiftK]
theorem shiftK_succ_zero (j : Nat) : shiftK (j + 1) 0 = 0 := by simp [shiftK]
theorem shiftK_succ (j k : Nat) : shiftK (j + 1) (k + 1) = shiftK j k + 1 := by
  simp only [shiftK, Nat.add_lt_add_iff_right]
  split <;> rfl

theorem lookupCtx_insAt (n : α) (j : Nat) (L : List (Scope α)) (hj : j ≤ L.length) :
    lookupCtx n (insAt j [] L) = (lookupCtx n L).map fun r => (shiftK j r.1, r.2) := by
  induction j generalizing L with
  | zero =>
    simp only [insAt_zero, lookupCtx, lookupKV, shiftK_zero]
  | succ j ih =>
    cases L with
    | nil => simp at hj
    | cons a L =>
      simp only [insAt_succ_cons, lookupCtx]
      cases lookupKV n a with
      | some l => simp [shiftK_succ_zero]
      | none =>
        simp only [ih L (by simpa using hj), Option.map_map]
        congr 1
        funext r
        simp only [Function.comp, shiftK_succ]

theorem previousDef_insAt (n : α) (j : Nat) (L : List (Scope α)) :
    previousDef n (insAt j [] L) = previousDef n L := by
  induction j generalizing L with
  | zero => simp only [insAt_zero, previousDef, lookupKV]; cases previousDef n L <;> rfl
  | succ j ih =>
    cases L with
    | nil => simp [insAt, previousDef, lookupKV]
    | cons a L => simp only [insAt_succ_cons, previousDef, ih L]

theorem recordCapture_insAt (n : α) (l j k : Nat) (cx : Scope α) (C : List (Scope α)) (hj : j ≤ C.length) :
    recordCapture n l (shiftK j k) (insAt j cx C)
      = insAt j (if k < j then cx else insertKV n l cx) (recordCapture n l k C) := by
  induction j generalizing k C with
  | zero => simp [shiftK_zero, insAt_zero, recordCapture]
  | succ j ih =>
    cases C with
    | nil => simp at hj
    | cons c C =>
      cases k with
      | zero => simp [shiftK_succ_zero, recordCapture]
      | succ k =>
        simp only [shiftK_succ, insAt_succ_cons, recordCapture, ih k C (by simpa using hj),
          Nat.add_lt_add_iff_right]

/-- `st'` is `st` with an empty scope (and some capture table) inserted `j` levels below the top -/
structure WRel (j : Nat) (st st' : St α) : Prop where
  jle : j ≤ st.locals.length
  wf : WF st
  locals : st'.locals = insAt j [] st.locals
  captured : ∃ cx, st'.captured = insAt j cx st.captured
  unbound : st'.unbound = st.unbound
  invalid : st'.invalid = st.invalid
  useDef : st'.useDef = st.useDef
  defLocs : st'.defLocs = st.defLocs
  scopedDefs : st'.scopedDefs = st.scopedDefs
  lambdaCaps : st'.lambdaCaps = st.lambdaCaps
  errors : st'.errors = st.errors
  underflow : st'.underflow = st.underflow

theorem step_wrel (j : Nat) (st st' : St α) (ev : Ev α) (h : WRel j st st')
    (hc : closedAt j [ev] = true) : WRel (endDepth j [ev]) (step st ev) (step st' ev) := by
  obtain ⟨L, C, u, i, ud, d, sd, lc, e, uf⟩ := st
  obtain ⟨L', C', u', i', ud', d', sd', lc', e', uf'⟩ := st'
  obtain rfl : L' = insAt j [] L := h.locals
  obtain ⟨cx, rfl⟩ : ∃ cx, C' = insAt j cx C := h.captured
  obtain rfl : u' = u := h.unbound
  obtain rfl : i' = i := h.invalid
  obtain rfl : ud' = ud := h.useDef
  obtain rfl : d' = d := h.defLocs
  obtain rfl : sd' = sd := h.scopedDefs
  obtain rfl : lc' = lc := h.lambdaCaps
  obtain rfl : e' = e := h.errors
  obtain rfl : uf' = uf := h.underflow
  have hj : j ≤ L.length := h.jle
  have hw : C.length = L.length := h.wf
  -- below, `{ h with … }` names the fields an event changes; the others are those of `h`
  cases ev with
  | push =>
    exact { h with
      jle := Nat.succ_le_succ hj
      wf := congrArg (· + 1) hw
      locals := by simp [step, endDepth, insAt_succ_cons]
      captured := ⟨cx, by simp [step, endDepth, insAt_succ_cons]⟩ }
  | pop k loc =>
    simp only [closedAt, Bool.and_true, decide_eq_true_eq] at hc
    obtain ⟨j0, rfl⟩ : ∃ j0, j = j0 + 1 := ⟨j - 1, by omega⟩
    cases L with
    | nil => simp at hj
    | cons a L0 =>
      cases C with
      | nil => simp at hw
      | cons c C0 =>
        simp only [insAt_succ_cons, step, endDepth, Nat.add_sub_cancel]
        cases k <;>
          exact { h with
            jle := Nat.le_of_succ_le_succ hj, wf := Nat.succ.inj hw, locals := rfl, captured := ⟨cx, rfl⟩,
            scopedDefs := rfl, lambdaCaps := rfl }
  | define n l =>
    simp only [closedAt, Bool.and_true, decide_eq_true_eq] at hc
    obtain ⟨j0, rfl⟩ : ∃ j0, j = j0 + 1 := ⟨j - 1, by omega⟩
    cases L with
    | nil => simp at hj
    | cons a L0 =>
      simp only [step, defineId_eq, previousDef_insAt]
      exact { h with locals := rfl, invalid := rfl, defLocs := rfl, errors := rfl }
  | use n l ft =>
    have hjc : j ≤ C.length := hw ▸ hj
    simp only [step, useId, endDepth, lookupCtx_insAt n j L hj]
    cases lookupCtx n L with
    | none => exact { h with unbound := rfl, errors := rfl }
    | some r =>
      obtain ⟨k, l0⟩ := r
      simp only [Option.map_some]
      cases ft with
      | false =>
        exact { h with
          wf := (recordCapture_length ..).trans hw
          captured := ⟨_, recordCapture_insAt n l0 j k cx C hjc⟩
          useDef := rfl }
      | true => exact { h with useDef := rfl }

theorem run_wrel (evs : List (Ev α)) (j : Nat) (st st' : St α) (h : WRel j st st')
    (hc : closedAt j evs = true) : WRel (endDepth j evs) (run evs st) (run evs st') := by
  induction evs generalizing j st st' with
  | nil => exact h
  | cons ev t ih =>
    have hc' := Bool.and_eq_true_iff.mp ((closedAt_append j [ev] t).symm.trans hc)
    have := ih _ _ _ (step_wrel j st st' ev h hc'.1) hc'.2
    rwa [← endDepth_append j [ev] t] at this

theorem endDepth_visit : ∀ (n : Node α) (j : Nat), endDepth j (visit n) = j :=
  fun n j => endDepth_neutral (visit_depth n) j

/-- below the top level (depth ≥ 1) every fragment is closed -/
theorem closed_visit_pos : ∀ (n : Node α) (j : Nat), closedAt (j + 1) (visit n) = true :=
  fun n j => closedAt_neutral (visit_depth n) j

mutual
/-- expression-like trees: nothing is bound at the tree's own top level (blocks, lambdas and match
cases open their own scope; `if let` binds inside its own scope; patterns, declarations and
parameters are excluded) -/
def isExpr : Node α → Bool
  | .mk tag _ _ kids =>
    match tag, kids with
    | .block, _ => true
    | .lambda, _ => true
    | .case, [_, _] => true
    | .ifGuard, [_, g, _, e2] => isExpr g && isExpr e2
    | .decl, _ => false
    | .pId, _ => false
    | .param, _ => false
    | .pOr, _ => false
    | _, ks => allExpr ks
def allExpr : List (Node α) → Bool
  | [] => true
  | k :: ks => isExpr k && allExpr ks
end

omit [DecidableEq α] in
/-- The productions `isExpr` singles out either open a scope (`passes` is false) or are not expressions. -/
theorem allExpr_of_isExpr {tag : Tag} {name : Option α} {loc : Nat} {ks : List (Node α)}
    (h : passes tag name.isSome ks.length = true) (he : isExpr (.mk tag name loc ks) = true) :
    allExpr ks = true := by
  unfold isExpr at he
  -- the productions `isExpr` singles out contradict `h`, or `he` (`false = true`); the fall-through is `he`
  split at he <;> first | exact he | exact Bool.noConfusion he | simp [passes] at h

theorem closed_visit_expr : ∀ (n : Node α), isExpr n = true → closedAt 0 (visit n) = true := by
  intro n
  induction n using visit_induct (Q := fun ks => allExpr ks = true → closedAt 0 (visitList ks) = true) with
  | var => exact fun _ => rfl
  | lambda | block | arm =>
    -- the node opens its own scope: its inside runs at depth 1, where every fragment is closed
    -- (`closed_visit_pos`, `closedAt_neutral`) and to which it returns (`endDepth_visit`, `endDepth_neutral`)
    intro _
    simp [visit, closedAt_append, closedAt, endDepth_visit, closed_visit_pos, endDepth_neutral,
      closedAt_neutral, visitList_depth]
  | ifGuard loc name p g e1 e2 hg _ _ h2 =>
    intro he
    simp only [isExpr, Bool.and_eq_true] at he
    simp [visit, closedAt_append, closedAt, endDepth_visit, closed_visit_pos, hg he.1, h2 he.2]
  | decl | param | pId | pOr => intro he; simp [isExpr] at he
  | tyUse loc n ks ih => intro he; simp only [isExpr] at he; simpa [visit, closedAt] using ih he
  | pass loc tag name ks h ih => rw [visit_pass h]; exact fun he => ih (allExpr_of_isExpr h he)
  | nil => rfl
  | cons k ks hk hks =>
    rename_i he  -- the hypothesis of `Q`, introduced already in the list cases
    simp only [allExpr, Bool.and_eq_true] at he
    simp [visitList, closedAt_append, endDepth_visit, hk he.1, hks he.2]

theorem closed_visitList_expr : ∀ (ks : List (Node α)), allExpr ks = true → closedAt 0 (visitList ks) = true :=
  fun ks h => by
    simpa only [visit] using closed_visit_expr (.mk .seq none 0 ks) (by simpa only [isExpr] using h)

theorem wrap_sim (a : List (Ev α)) (hc : closedAt 0 a = true) (he : endDepth 0 a = 0) (loc : Nat)
    (st : St α) (hw : WF st) :
    let r := run a st
    let r' := run ([.push] ++ a ++ [.pop .scoped loc]) st
    r'.locals = r.locals ∧ r'.captured = r.captured ∧ r'.useDef = r.useDef ∧ r'.invalid = r.invalid ∧
    r'.defLocs = r.defLocs ∧ r'.errors = r.errors ∧ r'.unbound = r.unbound ∧
    r'.lambdaCaps = r.lambdaCaps ∧ r'.scopedDefs = insertKV loc [] r.scopedDefs := by
  intro r r'
  -- After the `push` the two states are related by `WRel 0`; `run_wrel` carries the relation through `a`;
  -- `a` ends at depth 0, so the additional scope is on top again and the `pop` removes it. What follows
  -- `run_wrel` only reads the fields off the relation.
  have h0 : WRel 0 st (run [.push] st) :=
    { jle := Nat.zero_le _, wf := hw
      locals := by simp [run, step, insAt_zero]
      captured := ⟨[], by simp [run, step, insAt_zero]⟩
      unbound := rfl, invalid := rfl, useDef := rfl, defLocs := rfl, scopedDefs := rfl, lambdaCaps := rfl,
      errors := rfl, underflow := rfl }
  have h1 := run_wrel a 0 st (run [.push] st) h0 hc
  rw [he] at h1
  simp only [r, r', run_append]
  generalize run a (run [.push] st) = st2 at *
  generalize run a st = st1 at *
  obtain ⟨L2, C2, u2, i2, ud2, d2, s2, lc2, e2, uf2⟩ := st2
  obtain rfl : L2 = [] :: st1.locals := (insAt_zero [] st1.locals) ▸ h1.locals
  obtain ⟨cx, rfl⟩ : ∃ cx, C2 = cx :: st1.captured := h1.captured.imp fun cx h => (insAt_zero cx st1.captured) ▸ h
  obtain rfl : u2 = st1.unbound := h1.unbound
  obtain rfl : i2 = st1.invalid := h1.invalid
  obtain rfl : ud2 = st1.useDef := h1.useDef
  obtain rfl : d2 = st1.defLocs := h1.defLocs
  obtain rfl : s2 = st1.scopedDefs := h1.scopedDefs
  obtain rfl : lc2 = st1.lambdaCaps := h1.lambdaCaps
  obtain rfl : e2 = st1.errors := h1.errors
  simp [run, step]

end SamVerif.Scope
