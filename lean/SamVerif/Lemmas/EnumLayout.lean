import SamVerif.Model.EnumLayout
import SamVerif.Lemmas.ListIndex
/-! C01, kernel K1 (the representation the generics specialisation chooses for the variants of an
enum, `Model/EnumLayout.lean`): the invariant of the layout loop. -/
namespace SamVerif.EnumLayout

/-- Invariant of the layout loop after the variants `done`; `P t` is what a positive answer of
`type_permit_enum_boxed_optimization` establishes for a payload type `t`. `unb` carries the idea the
layout theorems rest on: there is at most one unboxed slot, it is the pending one
(`already_unused_boxed_optimization`, an unboxing that a later variant may still revoke, see
`flushed`), and every other slot is an `int31`, so an unboxed payload (a heap object, by `P`) cannot
be mistaken for another variant. `perm`: while `permit_unboxed_optimization` holds, only constant
variants have been seen. -/
structure LInv (P : Nat → Prop) (done : List (List Ty)) (l : LState) : Prop where
  len : l.out.length = done.length
  i31 : ∀ (i : Nat), l.out[i]? = some .int31 → done[i]? = some []
  unb : ∀ (i : Nat) (t : Nat), l.out[i]? = some (.unboxed t) →
    done[i]? = some [.ref t] ∧ P t ∧ l.pending = some (i, .ref t) ∧
    ∀ (j : Nat), j ≠ i → j < done.length → l.out[j]? = some .int31
  box : ∀ (i : Nat) (ts : List Ty), l.out[i]? = some (.boxed ts) →
    ∃ fs, done[i]? = some fs ∧ fs ≠ [] ∧ ts = .int :: fs
  pend : ∀ (i : Nat) (t : Ty), l.pending = some (i, t) → ∃ n, t = .ref n ∧ l.out[i]? = some (.unboxed n)
  perm : l.permit = true → ∀ (j : Nat), j < done.length → l.out[j]? = some .int31

theorem linv_init (P : Nat → Prop) : LInv P [] {} := by
  constructor <;> simp

/-- `mir_variants` after l.588-591: a variant whose unboxing was pending is boxed after all. -/
def flushed (l : LState) : List VRepr :=
  match l.pending with
  | some (i, t) => l.out.set i (.boxed [.int, t])
  | none => l.out

theorem layoutStep_nil (l : LState) (tag : Nat) (ans : Bool) :
    layoutStep l tag [] ans = { l with out := l.out ++ [.int31] } := rfl

theorem layoutStep_cons (l : LState) (tag : Nat) (f : Ty) (fs : List Ty) (ans : Bool) :
    layoutStep l tag (f :: fs) ans =
      match f :: fs with
      | [.ref n] =>
        if l.permit && ans then
          { out := flushed l ++ [.unboxed n], permit := false, pending := some (tag, .ref n) }
        else { out := flushed l ++ [.boxed (.int :: f :: fs)], permit := false, pending := none }
      | _ => { out := flushed l ++ [.boxed (.int :: f :: fs)], permit := false, pending := none } :=
  rfl

section
variable {P : Nat → Prop} {done : List (List Ty)} {l : LState}

theorem LInv.flushed_of_permit (h : LInv P done l) (hp : l.permit = true) : flushed l = l.out := by
  unfold flushed
  cases hq : l.pending with
  | none => rfl
  | some it =>
    obtain ⟨n, _, ho⟩ := h.pend it.1 it.2 hq
    have hlt : it.1 < done.length := h.len ▸ (List.getElem?_eq_some_iff.mp ho).1
    rw [h.perm hp _ hlt] at ho
    cases ho

theorem LInv.flushed_eq_some (h : LInv P done l) {i : Nat} {r : VRepr} (hr : (flushed l)[i]? = some r) :
    (l.out[i]? = some r ∧ ∀ t, r ≠ .unboxed t) ∨
      ∃ n, r = .boxed [.int, .ref n] ∧ done[i]? = some [.ref n] := by
  unfold flushed at hr
  -- an unboxed slot is the pending one
  have old : l.out[i]? = some r → (∀ t, l.pending ≠ some (i, .ref t)) →
      l.out[i]? = some r ∧ ∀ t, r ≠ .unboxed t := by
    intro ho hne
    refine ⟨ho, fun t e => ?_⟩
    subst e
    exact hne t (h.unb i t ho).2.2.1
  cases hq : l.pending with
  | none => rw [hq] at hr; exact Or.inl (old hr (by rw [hq]; exact fun _ => nofun))
  | some it =>
    obtain ⟨n, ht, ho⟩ := h.pend it.1 it.2 hq
    rw [hq, List.getElem?_set] at hr
    split at hr
    · rename_i e
      subst e
      rw [if_pos (List.getElem?_eq_some_iff.mp ho).1, ht] at hr
      exact Or.inr ⟨n, (Option.some.inj hr).symm, (h.unb _ n ho).1⟩
    · rename_i e
      refine Or.inl (old hr fun t hp => e ?_)
      rw [hq] at hp
      cases hp
      rfl

theorem LInv.flush (h : LInv P done l) :
    LInv P done { out := flushed l, permit := false, pending := none } where
  len := by unfold flushed; split <;> simp [h.len]
  i31 i hi := (h.flushed_eq_some hi).elim (fun ho => h.i31 i ho.1) fun ⟨_, e, _⟩ => nomatch e
  unb i t hi := (h.flushed_eq_some hi).elim (fun ho => absurd rfl (ho.2 t)) fun ⟨_, e, _⟩ => nomatch e
  box i ts hi := (h.flushed_eq_some hi).elim (fun ho => h.box i ts ho.1) fun ⟨n, e, hd⟩ =>
    ⟨[.ref n], hd, nofun, by cases e; rfl⟩
  pend _ _ := nofun
  perm := nofun

theorem lt_snoc_length {α : Type} {l : List α} {a : α} {j : Nat} (hj : j < (l ++ [a]).length) :
    j < l.length ∨ j = l.length := by
  rw [List.length_append, List.length_singleton] at hj
  omega

/-! Appending a slot `r` for a variant `fs`. The old slots keep what the invariant says of them
(`getElem?_append_of_some`), so the fields `i31` and `box` ask only how `r` fits `fs`. -/

theorem LInv.snoc_i31 (h : LInv P done l) {r : VRepr} {fs : List Ty} {i : Nat}
    (hi : (l.out ++ [r])[i]? = some .int31) (hr : r = .int31 → fs = []) : (done ++ [fs])[i]? = some [] := by
  rcases getElem?_snoc_eq_some.mp hi with ho | ⟨rfl, e⟩
  · exact getElem?_append_of_some _ (h.i31 i ho)
  · exact getElem?_snoc_eq_some.mpr (Or.inr ⟨h.len, hr e⟩)

theorem LInv.snoc_box (h : LInv P done l) {r : VRepr} {fs : List Ty} {i : Nat} {ts : List Ty}
    (hi : (l.out ++ [r])[i]? = some (.boxed ts)) (hr : ∀ ts, r = .boxed ts → fs ≠ [] ∧ ts = .int :: fs) :
    ∃ gs, (done ++ [fs])[i]? = some gs ∧ gs ≠ [] ∧ ts = .int :: gs := by
  rcases getElem?_snoc_eq_some.mp hi with ho | ⟨rfl, e⟩
  · obtain ⟨gs, hd, hg⟩ := h.box i ts ho
    exact ⟨gs, getElem?_append_of_some _ hd, hg⟩
  · exact ⟨fs, getElem?_snoc_eq_some.mpr (Or.inr ⟨h.len, rfl⟩), hr ts e⟩

theorem LInv.snoc_int31_slot (h : LInv P done l) {fs : List Ty} {j : Nat} (hj : j < (done ++ [fs]).length)
    (hold : j < done.length → l.out[j]? = some .int31) : (l.out ++ [.int31])[j]? = some .int31 := by
  rcases lt_snoc_length hj with hlt | rfl
  · exact getElem?_append_of_some _ (hold hlt)
  · exact getElem?_snoc_eq_some.mpr (Or.inr ⟨h.len.symm, rfl⟩)

theorem LInv.snoc_int31 (h : LInv P done l) :
    LInv P (done ++ [[]]) { l with out := l.out ++ [.int31] } where
  len := by simp [h.len]
  i31 _ hi := h.snoc_i31 hi fun _ => rfl
  unb i t hi := by
    rcases getElem?_snoc_eq_some.mp hi with ho | ⟨_, e⟩
    · obtain ⟨hd, hp, hq, hoth⟩ := h.unb i t ho
      exact ⟨getElem?_append_of_some _ hd, hp, hq, fun j hji hj => h.snoc_int31_slot hj (hoth j hji)⟩
    · cases e
  box _ _ hi := h.snoc_box hi nofun
  pend i t hp := by
    obtain ⟨n, ht, ho⟩ := h.pend i t hp
    exact ⟨n, ht, getElem?_append_of_some _ ho⟩
  perm hp j hj := h.snoc_int31_slot hj (h.perm hp j)

theorem LInv.snoc_boxed {out : List VRepr} (h : LInv P done ⟨out, false, none⟩) (fs : List Ty)
    (hne : fs ≠ []) : LInv P (done ++ [fs]) ⟨out ++ [.boxed (.int :: fs)], false, none⟩ where
  len := by simp [show out.length = done.length from h.len]
  i31 _ hi := h.snoc_i31 hi nofun
  unb i t hi := by
    rcases getElem?_snoc_eq_some.mp hi with ho | ⟨_, e⟩
    · cases (h.unb i t ho).2.2.1
    · cases e
  box _ _ hi := h.snoc_box hi fun _ e => ⟨hne, (VRepr.boxed.inj e).symm⟩
  pend _ _ := nofun
  perm := nofun

theorem LInv.snoc_unboxed (h : LInv P done l) (hp : l.permit = true) {n : Nat} (hn : P n) :
    LInv P (done ++ [[.ref n]]) ⟨l.out ++ [.unboxed n], false, some (done.length, .ref n)⟩ where
  len := by simp [h.len]
  i31 _ hi := h.snoc_i31 hi nofun
  unb i t hi := by
    rcases getElem?_snoc_eq_some.mp hi with ho | ⟨rfl, e⟩
    · rw [h.perm hp i (h.len ▸ (List.getElem?_eq_some_iff.mp ho).1)] at ho
      cases ho
    · cases e
      refine ⟨getElem?_snoc_eq_some.mpr (Or.inr ⟨h.len, rfl⟩), hn, by rw [h.len], fun j hji hj => ?_⟩
      rcases lt_snoc_length hj with hlt | rfl
      · exact getElem?_append_of_some _ (h.perm hp j hlt)
      · exact absurd h.len.symm hji
  box _ _ hi := h.snoc_box hi nofun
  pend i t hq := by
    cases hq
    exact ⟨n, rfl, getElem?_snoc_eq_some.mpr (Or.inr ⟨h.len.symm, rfl⟩)⟩
  perm := nofun

end

/-- One loop iteration keeps the invariant, whatever answered the query, as long as a positive
answer for a single field `ref n` establishes `P n`. -/
theorem linv_step (P : Nat → Prop) (done : List (List Ty)) (l : LState) (fs : List Ty) (ans : Bool)
    (h : LInv P done l) (hans : ∀ n, fs = [.ref n] → ans = true → P n) :
    LInv P (done ++ [fs]) (layoutStep l done.length fs ans) := by
  cases fs with
  | nil => exact h.snoc_int31
  | cons f fs =>
    have boxed := h.flush.snoc_boxed (f :: fs) nofun
    rw [layoutStep_cons]
    split
    · rename_i n e
      split
      · rename_i hc
        have hp : l.permit = true ∧ ans = true := by simpa using hc
        rw [h.flushed_of_permit hp.1]
        cases e
        exact h.snoc_unboxed hp.1 (hans n rfl hp.2)
      · exact boxed
    · exact boxed

/-- The invariant for the whole loop under a fixed answer `p`: a statement about `layoutLoop` on its
own, not on the way to `layout_injective` (the specialiser threads its state through the loop and
applies `linv_step` inside its own fold, `foldVariants_inv`). -/
theorem layoutLoop_inv (p : Ty → Bool) (vs : List (List Ty)) :
    ∀ (done : List (List Ty)) (l : LState), LInv (fun t => p (.ref t) = true) done l →
      LInv (fun t => p (.ref t) = true) (done ++ vs) (layoutLoop p vs done.length l) := by
  induction vs with
  | nil => intro done l h; simpa [layoutLoop] using h
  | cons fs rest ih =>
    intro done l h
    have h1 := linv_step _ done l fs (ansOf p fs) h (by
      intro n hf ha; subst hf; simpa [ansOf] using ha)
    have h2 := ih (done ++ [fs]) _ h1
    simpa [layoutLoop, List.append_assoc] using h2

theorem layoutOf_inv (p : Ty → Bool) (variants : List (List Ty)) :
    LInv (fun t => p (.ref t) = true) variants (layoutLoop p variants 0 {}) := by
  have := layoutLoop_inv p variants [] {} (linv_init _)
  simpa using this

theorem LInv.mono {P Q : Nat → Prop} {done : List (List Ty)} {l : LState}
    (h : LInv P done l) (hpq : ∀ t, P t → Q t) : LInv Q done l := by
  obtain ⟨len, i31, unb, box, pend, perm⟩ := h
  exact ⟨len, i31, fun i t hi => by
    obtain ⟨a, b, c, d⟩ := unb i t hi
    exact ⟨a, hpq t b, c, d⟩, box, pend, perm⟩

end SamVerif.EnumLayout
