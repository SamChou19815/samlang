import SamVerif.Model.ErrorSet
/-! Strictly sorted lists as sets: `ofList lt l` is the only strictly sorted list with the members
of `l`.  The lexicographic order on error keys is a strict total order. -/
namespace SamVerif.ErrorSet

/-- What a `BTreeSet` needs of its order, as a Boolean `lt`; the derived `Ord` of
`CompileTimeError` is one (`errLt_strictTotal`). -/
structure StrictTotal {α : Type} (lt : α → α → Bool) : Prop where
  irrefl : ∀ (a : α), lt a a = false
  trans : ∀ (a b c : α), lt a b = true → lt b c = true → lt a c = true
  total : ∀ (a b : α), lt a b = false → lt b a = false → a = b

theorem StrictTotal.asymm {α : Type} {lt : α → α → Bool} (h : StrictTotal lt) {a b : α}
    (h1 : lt a b = true) (h2 : lt b a = true) : False :=
  Bool.false_ne_true ((h.irrefl a).symm.trans (h.trans a b a h1 h2))

theorem StrictTotal.comap {α β : Type} {lt : β → β → Bool} (h : StrictTotal lt) (key : α → β)
    (inj : ∀ a b, key a = key b → a = b) : StrictTotal fun a b => lt (key a) (key b) :=
  ⟨fun _ => h.irrefl _, fun _ _ _ => h.trans _ _ _, fun a b h1 h2 => inj a b (h.total _ _ h1 h2)⟩

section Generic
variable {α : Type} {lt : α → α → Bool}

abbrev Sorted (lt : α → α → Bool) (l : List α) : Prop := l.Pairwise (fun a b => lt a b = true)

theorem mem_ins (h : StrictTotal lt) (x y : α) (s : List α) :
    y ∈ ins lt x s ↔ y = x ∨ y ∈ s := by
  -- the branches of `ins` on `z :: zs`: `x < z` (in front), `z < x` (further back), neither (dropped)
  fun_induction ins lt x s with
  | case1 => simp
  | case2 => exact List.mem_cons
  | case3 z zs _ _ ih => rw [List.mem_cons, ih, List.mem_cons, or_left_comm]
  | case4 z zs h1 h2 =>
    -- neither is smaller: `x = z` is in the set already
    rw [h.total x z (Bool.eq_false_iff.mpr h1) (Bool.eq_false_iff.mpr h2)]
    exact ⟨.inr, fun hy => hy.elim (· ▸ List.mem_cons_self) id⟩

theorem ins_sorted (h : StrictTotal lt) (x : α) (s : List α) (hs : Sorted lt s) :
    Sorted lt (ins lt x s) := by
  fun_induction ins lt x s with
  | case1 => exact List.pairwise_singleton _ _
  | case2 z zs h1 =>
    -- `x < z`: `x` in front
    refine List.pairwise_cons.mpr ⟨fun a ha => ?_, hs⟩
    rcases List.mem_cons.mp ha with rfl | ha
    · exact h1
    · exact h.trans _ _ _ h1 ((List.pairwise_cons.mp hs).1 a ha)
  | case3 z zs _ h2 ih =>
    -- `z < x`: `z` stays in front of `ins lt x zs`
    have hz := List.pairwise_cons.mp hs
    refine List.pairwise_cons.mpr ⟨fun a ha => ?_, ih hz.2⟩
    rcases (mem_ins h x a zs).mp ha with rfl | ha
    · exact h2
    · exact hz.1 a ha
  | case4 => exact hs  -- neither: unchanged

theorem merge_sorted (h : StrictTotal lt) (s t : List α) (hs : Sorted lt s) :
    Sorted lt (merge lt s t) := by
  induction t generalizing s with
  | nil => exact hs
  | cons x xs ih => exact ih (ins lt x s) (ins_sorted h x s hs)

theorem mem_merge (h : StrictTotal lt) (s t : List α) (y : α) :
    y ∈ merge lt s t ↔ y ∈ s ∨ y ∈ t := by
  induction t generalizing s with
  | nil => simp [merge]
  | cons x xs ih =>
    show y ∈ merge lt (ins lt x s) xs ↔ _
    rw [ih, mem_ins h, List.mem_cons, or_assoc, or_left_comm]

theorem ofList_sorted (h : StrictTotal lt) (l : List α) : Sorted lt (ofList lt l) :=
  merge_sorted h [] l List.Pairwise.nil

theorem mem_ofList (h : StrictTotal lt) {l : List α} {y : α} : y ∈ ofList lt l ↔ y ∈ l :=
  (mem_merge h [] l y).trans (or_iff_right List.not_mem_nil)

/-- Canonical form: a strictly sorted list is determined by its members. -/
theorem sorted_ext (s t : List α) (h : StrictTotal lt) (hs : Sorted lt s) (ht : Sorted lt t)
    (hm : ∀ x, x ∈ s ↔ x ∈ t) : s = t := by
  -- strictly sorted lists have no duplicates, so equal members make them permutations of each other
  have nodup : ∀ {l : List α}, Sorted lt l → l.Nodup := fun hl =>
    List.Pairwise.imp (S := (· ≠ ·)) (fun hab e => h.asymm hab (e ▸ hab)) hl
  exact ((List.perm_ext_iff_of_nodup (nodup hs) (nodup ht)).mpr hm).eq_of_pairwise
    (fun a b _ _ h1 h2 => (h.asymm h1 h2).elim) hs ht

theorem eq_ofList (h : StrictTotal lt) {s l : List α} (hs : Sorted lt s)
    (hm : ∀ x, x ∈ s ↔ x ∈ l) : s = ofList lt l :=
  sorted_ext s _ h hs (ofList_sorted h l) fun x => (hm x).trans (mem_ofList h).symm

theorem ofList_congr (h : StrictTotal lt) {l l' : List α} (hm : ∀ x, x ∈ l ↔ x ∈ l') :
    ofList lt l = ofList lt l' :=
  eq_ofList h (ofList_sorted h l) fun x => (mem_ofList h).trans (hm x)

theorem ofList_order_agree {lt' : α → α → Bool} (h : StrictTotal lt) (h' : StrictTotal lt')
    (l : List α) (agree : ∀ a ∈ l, ∀ b ∈ l, lt a b = true → lt' a b = true) :
    ofList lt l = ofList lt' l :=
  eq_ofList h'
    ((ofList_sorted h l).imp_of_mem fun ha hb =>
      agree _ ((mem_ofList h).mp ha) _ ((mem_ofList h).mp hb))
    fun _ => mem_ofList h

theorem filter_ofList (h : StrictTotal lt) (p : α → Bool) (l : List α) :
    (ofList lt l).filter p = ofList lt (l.filter p) :=
  eq_ofList h ((ofList_sorted h l).filter p) fun x => by
    rw [List.mem_filter, List.mem_filter, mem_ofList h]

theorem merge_ofList (a b : List α) : merge lt (ofList lt a) b = ofList lt (a ++ b) :=
  List.foldl_append.symm

theorem mergeAll_eq_ofList (ls : List (List α)) : mergeAll lt ls = ofList lt ls.flatten :=
  List.foldl_flatten.symm

theorem mergeAll_map_ofList (h : StrictTotal lt) (ls : List (List α)) :
    mergeAll lt (ls.map (ofList lt)) = ofList lt ls.flatten := by
  rw [mergeAll_eq_ofList]
  refine ofList_congr h fun x => ?_
  simp only [List.mem_flatten, List.mem_map]
  constructor
  · rintro ⟨_, ⟨l, hl, rfl⟩, hx⟩; exact ⟨l, hl, (mem_ofList h).mp hx⟩
  · rintro ⟨l, hl, hx⟩; exact ⟨_, ⟨l, hl, rfl⟩, (mem_ofList h).mpr hx⟩

end Generic

theorem lexLt_nil_right (a : List Nat) : lexLt a [] = false := by cases a <;> rfl

theorem lexLt_cons_cons (a b : Nat) (as bs : List Nat) :
    lexLt (a :: as) (b :: bs) = true ↔ a < b ∨ (a = b ∧ lexLt as bs = true) := by
  simp only [lexLt]
  rcases Nat.lt_trichotomy a b with h | rfl | h
  · rw [if_pos h]; exact ⟨fun _ => .inl h, fun _ => rfl⟩
  · rw [if_neg (Nat.lt_irrefl a), if_neg (Nat.lt_irrefl a)]
    exact ⟨fun h => .inr ⟨rfl, h⟩, fun h => h.elim (absurd · (Nat.lt_irrefl a)) (·.2)⟩
  · rw [if_neg (Nat.lt_asymm h), if_pos h]
    exact ⟨fun f => (nomatch f), fun o =>
      o.elim (absurd · (Nat.lt_asymm h)) fun e => absurd (e.1 ▸ h) (Nat.lt_irrefl _)⟩

theorem lexLt_cons_same (x : Nat) (r r' : List Nat) : lexLt (x :: r) (x :: r') = lexLt r r' := by
  rw [lexLt, if_neg (Nat.lt_irrefl x), if_neg (Nat.lt_irrefl x)]

theorem lexLt_iff_lt (a b : List Nat) : lexLt a b = true ↔ a < b := by
  induction a generalizing b with
  | nil =>
    cases b with
    | nil => exact ⟨nofun, fun h => absurd h (List.lt_irrefl [])⟩
    | cons y ys => exact ⟨fun _ => List.nil_lt_cons y ys, fun _ => rfl⟩
  | cons x xs ih =>
    cases b with
    | nil => exact ⟨nofun, fun h => absurd h (List.not_lt_nil _)⟩
    | cons y ys => rw [lexLt_cons_cons, List.cons_lt_cons_iff, ih]

theorem lexLt_irrefl (a : List Nat) : lexLt a a = false :=
  Bool.eq_false_iff.mpr fun h => List.lt_irrefl a ((lexLt_iff_lt a a).mp h)

theorem lexLt_trans (a b c : List Nat) : lexLt a b = true → lexLt b c = true → lexLt a c = true :=
  fun h1 h2 => (lexLt_iff_lt a c).mpr (List.lt_trans ((lexLt_iff_lt a b).mp h1) ((lexLt_iff_lt b c).mp h2))

theorem lexLt_total (a b : List Nat) : lexLt a b = false → lexLt b a = false → a = b :=
  fun h1 h2 => List.le_antisymm
    (List.not_lt.mp fun h => Bool.false_ne_true (h2.symm.trans ((lexLt_iff_lt b a).mpr h)))
    (List.not_lt.mp fun h => Bool.false_ne_true (h1.symm.trans ((lexLt_iff_lt a b).mpr h)))

theorem lexLt_strictTotal : StrictTotal lexLt :=
  ⟨lexLt_irrefl, lexLt_trans, lexLt_total⟩

def Inj (ids : Nat → Nat) : Prop := ∀ a b, ids a = ids b → a = b

theorem inj_of_involutive {f : Nat → Nat} (inv : ∀ n, f (f n) = n) : Inj f :=
  fun a b h => (inv a).symm.trans ((congrArg f h).trans (inv b))

theorem inj_swap (i j : Nat) : Inj fun n => if n = i then j else if n = j then i else n :=
  inj_of_involutive fun n => by
    by_cases hi : n = i
    · rw [if_pos hi]
      by_cases hji : j = i
      · rw [if_pos hji, hji, hi]
      · rw [if_neg hji, if_pos rfl, hi]
    · rw [if_neg hi]
      by_cases hj : n = j
      · rw [if_pos hj, if_pos rfl, hj]
      · rw [if_neg hj, if_neg hi, if_neg hj]

/-- `atomKey`'s code of an inline string (every byte plus one, then `0`) is self-delimiting: followed
by anything, it determines the bytes and what follows. -/
theorem inl_key_inj (bs bs' : List Nat) (r r' : List Nat) :
    (bs.map (· + 1) ++ [0]) ++ r = (bs'.map (· + 1) ++ [0]) ++ r' → bs = bs' ∧ r = r' := by
  induction bs generalizing bs' with
  | nil =>
    cases bs' with
    | nil => exact fun h => ⟨rfl, (List.cons.inj h).2⟩
    | cons y ys => exact fun h => absurd (List.cons.inj h).1.symm (Nat.succ_ne_zero y)
  | cons x xs ih =>
    cases bs' with
    | nil => exact fun h => absurd (List.cons.inj h).1 (Nat.succ_ne_zero x)
    | cons y ys =>
      intro h
      have h' := List.cons.inj h
      have t := ih ys h'.2
      exact ⟨by rw [Nat.succ.inj h'.1, t.1], t.2⟩

theorem atomKey_inj (ids : Nat → Nat) (hi : Inj ids) (a a' : Atom) (r r' : List Nat) :
    atomKey ids a ++ r = atomKey ids a' ++ r' → a = a' ∧ r = r' := by
  intro h
  cases a <;> cases a' <;> injection h with tag h
  case num.num => injection h with h1 h2; exact ⟨by rw [h1], h2⟩
  case inl.inl =>
    have t := inl_key_inj _ _ r r' h
    exact ⟨by rw [t.1], t.2⟩
  case heap.heap => injection h with h1 h2; exact ⟨by rw [hi _ _ h1], h2⟩
  -- two different kinds: the first number of the encoding tells them apart
  all_goals exact absurd tag (by decide)

theorem atomsKey_inj (ids : Nat → Nat) (hi : Inj ids) (as as' : List Atom) :
    atomsKey ids as = atomsKey ids as' → as = as' := by
  -- the terminating `0` is not the first number of any atom
  induction as generalizing as' with
  | nil =>
    cases as' with
    | nil => exact fun _ => rfl
    | cons b bs => cases b <;> exact fun h => absurd (List.cons.inj h).1 (by decide)
  | cons a as ih =>
    cases as' with
    | nil => cases a <;> exact fun h => absurd (List.cons.inj h).1 (by decide)
    | cons b bs =>
      intro h
      have t := atomKey_inj ids hi a b _ _ h
      rw [t.1, ih bs t.2]

theorem errKey_inj (ids : Nat → Nat) (hi : Inj ids) (a b : Err) :
    errKey ids a = errKey ids b → a = b := by
  cases a; cases b
  simp only [errKey, List.cons.injEq, Err.mk.injEq, and_imp]
  intro h1 h2 h3 h4 h5 h6 h7
  exact ⟨hi _ _ h1, h2, h3, h4, h5, h6, atomsKey_inj ids hi _ _ h7⟩

/-- `CompileTimeError`'s derived order is a strict total order (for injective handle ids). -/
theorem errLt_strictTotal (ids : Nat → Nat) (hi : Inj ids) : StrictTotal (errLt ids) :=
  lexLt_strictTotal.comap (errKey ids) (errKey_inj ids hi)

end SamVerif.ErrorSet
