import SamVerif.Lemmas.MatchLower
/-! The assignments the lowered pattern code performs (`execCode`, Model/MatchLower.lean): only names of the
pattern, all of them after a successful test, with the source bindings as values; and the temporaries
`allocTemps` gives those names (`allocTemps_snd`, `lookup_rename`). -/
namespace SamVerif.MatchLower
open SamVerif.Useful

theorem mkField_some {i : Nat} {nested : Code} {rest : Fields} {vs : List Val} {b : Bool} {d : Delta}
    (h : execFields (mkField i nested rest) vs = some (b, d)) :
    ∃ x bn dn, vs[i]? = some x ∧ execCode nested x = some (bn, dn) ∧
      ((bn = false ∧ b = false ∧ d = dn) ∨
       (bn = true ∧ ∃ d', execFields rest vs = some (b, d') ∧ d = d' ++ dn)) := by
  rw [execFields_mkField] at h
  simp only [execFields] at h
  split at h
  · cases h
  · rename_i x hx
    split at h
    · cases h
    · rename_i dn hn
      cases h; exact ⟨x, false, _, hx, hn, .inl ⟨rfl, rfl, rfl⟩⟩
    · rename_i dn hn
      split at h
      · cases h
      · rename_i d' hr
        cases h; exact ⟨x, true, dn, hx, hn, .inr ⟨rfl, d', hr, rfl⟩⟩

theorem mkField_true {i : Nat} {nested : Code} {rest : Fields} {vs : List Val} {d : Delta}
    (h : execFields (mkField i nested rest) vs = some (true, d)) :
    ∃ x dn d', vs[i]? = some x ∧ execCode nested x = some (true, dn) ∧
      execFields rest vs = some (true, d') ∧ d = d' ++ dn := by
  obtain ⟨x, bn, dn, hx, hn, ⟨_, hf, _⟩ | ⟨rfl, d', hr, hd⟩⟩ := mkField_some h
  · cases hf
  · exact ⟨x, dn, d', hx, hn, hr, hd⟩

theorem orElse_some (first rest : Code) (v : Val) (b : Bool) (d : Delta)
    (h : execCode (.orElse first rest) v = some (b, d)) :
    ∃ b1 d1, execCode first v = some (b1, d1) ∧
      ((b1 = true ∧ b = true ∧ d = d1) ∨
       (b1 = false ∧ ∃ d', execCode rest v = some (b, d') ∧ d = d' ++ d1)) := by
  simp only [execCode] at h
  split at h
  · cases h
  · rename_i d1 hf
    cases h; exact ⟨true, _, hf, .inl ⟨rfl, rfl, rfl⟩⟩
  · rename_i d1 hf
    split at h
    · cases h
    · rename_i d' hr
      cases h; exact ⟨false, d1, hf, .inr ⟨rfl, d', hr, rfl⟩⟩

theorem done_some {vs : List Val} {b : Bool} {d : Delta} (h : execFields .done vs = some (b, d)) : d = [] := by
  simp only [execFields, Option.some.injEq, Prod.mk.injEq] at h
  exact h.2.symm

theorem struct_some (fs : Fields) (v : Val) (b : Bool) (d : Delta)
    (h : execCode (.struct fs) v = some (b, d)) :
    (∃ vs, v = .con none vs ∧ execFields fs vs = some (b, d)) ∨ (fs.isDone = true ∧ b = true ∧ d = []) := by
  simp only [execCode] at h
  split at h
  · exact .inl ⟨_, rfl, h⟩
  · split at h
    · rename_i hdone
      cases h; exact .inr ⟨hdone, rfl, rfl⟩
    · cases h

theorem destructure_some (c : Ctor) (n : Nat) (fs : Fields) (v : Val) (b : Bool) (d : Delta)
    (h : execCode (.destructure c n fs) v = some (b, d)) :
    (∃ ws, v = .con (some c) ws ∧ execFields fs ws = some (b, d)) ∨ (b = false ∧ d = []) := by
  simp only [execCode] at h
  split at h
  · split at h
    · rename_i hc
      subst hc
      split at h
      · exact .inl ⟨_, rfl, h⟩
      · cases h
    · cases h; exact .inr ⟨rfl, rfl⟩
  · cases h

theorem sameNames_mem (a b : List Nat) (h : sameNames a b = true) (x : Nat) : x ∈ a ↔ x ∈ b := by
  simp only [sameNames, Bool.and_eq_true, List.all_eq_true, List.contains_eq_mem,
    decide_eq_true_eq] at h
  exact ⟨fun hx => h.1 x hx, fun hx => h.2 x hx⟩

theorem bindsOkL_cons {p : CPat} {ps : List CPat} (h : bindsOkL (p :: ps) = true) :
    bindsOk p = true ∧ bindsOkL ps = true := by
  simpa only [bindsOkL, Bool.and_eq_true] using h

theorem altsSame_cons {ns : List Nat} {p : CPat} {ps : List CPat} (h : altsSame ns (p :: ps) = true) :
    (∀ x, x ∈ names p ↔ x ∈ ns) ∧ altsSame ns ps = true := by
  simp only [altsSame, Bool.and_eq_true] at h
  exact ⟨sameNames_mem _ _ h.1, h.2⟩

theorem lowerElems_eq_lowerObj : ∀ (es : List CPat) (i : Nat),
    lowerElems es i = lowerObj (List.range' i es.length) es
  | [], _ => rfl
  | p :: ps, i => by
    rw [lowerElems, List.length_cons, List.range'_succ, lowerObj, lowerElems_eq_lowerObj ps (i + 1)]

theorem lowerObj_nil (orders : List Nat) : lowerObj orders [] = .done := by
  cases orders <;> rfl

/-! ### only names of the pattern are ever assigned (also by alternatives that fail) -/

mutual
theorem exec_names : ∀ (p : CPat) (v : Val) (b : Bool) (d : Delta), bindsOk p = true →
    execCode (lowerPat p) v = some (b, d) → ∀ x w, (x, w) ∈ d → x ∈ names p
  | .id y => by
    intro v b d _ h x w hm
    simp only [lowerPat, execCode, Option.some.injEq, Prod.mk.injEq] at h
    rw [← h.2, List.mem_singleton] at hm
    cases hm; exact List.mem_singleton.mpr rfl
  | .wild => by
    intro v b d _ h x w hm
    simp only [lowerPat, execCode, Option.some.injEq, Prod.mk.injEq] at h
    rw [← h.2] at hm; cases hm
  | .tuple n es => by
    intro v b d hb h x w hm
    rw [lowerPat, lowerElems_eq_lowerObj] at h
    rcases struct_some _ v b d h with ⟨vs, _, hf⟩ | ⟨_, _, rfl⟩
    · exact execObj_names _ es vs b d hb hf x w hm
    · cases hm
  | .object n orders es => by
    intro v b d hb h x w hm
    simp only [bindsOk, Bool.and_eq_true] at hb
    rcases struct_some _ v b d h with ⟨vs, _, hf⟩ | ⟨_, _, rfl⟩
    · exact execObj_names orders es vs b d hb.2 hf x w hm
    · cases hm
  | .variant c args => by
    intro v b d hb h x w hm
    rw [lowerPat, lowerElems_eq_lowerObj] at h
    rcases destructure_some _ _ _ v b d h with ⟨ws, _, hf⟩ | ⟨_, rfl⟩
    · exact execObj_names _ args ws b d hb hf x w hm
    · cases hm
  | .or ps => by
    intro v b d hb h x w hm
    simp only [bindsOk, Bool.and_eq_true] at hb
    exact execOr_names ps (namesFirst ps) v b d hb.1 hb.2 h x w hm
theorem execObj_names : ∀ (orders : List Nat) (es : List CPat) (vs : List Val) (b : Bool) (d : Delta),
    bindsOkL es = true → execFields (lowerObj orders es) vs = some (b, d) →
    ∀ x w, (x, w) ∈ d → x ∈ namesL es
  | orders, [] => by
    intro vs b d _ h x w hm
    rw [lowerObj_nil] at h
    rw [done_some h] at hm; cases hm
  | [], p :: es => by
    intro vs b d _ h x w hm
    rw [done_some h] at hm; cases hm
  | o :: os, p :: es => by
    intro vs b d hb h x w hm
    obtain ⟨hp, hes⟩ := bindsOkL_cons hb
    obtain ⟨y, bn, dn, _, hn, hcase⟩ := mkField_some h
    have h1 := exec_names p y bn dn hp hn x w
    simp only [namesL, List.mem_append]
    rcases hcase with ⟨_, _, rfl⟩ | ⟨_, d', hr, rfl⟩
    · exact .inl (h1 hm)
    · exact (List.mem_append.mp hm).elim
        (fun hm => .inr (execObj_names os es vs b d' hes hr x w hm))
        (fun hm => .inl (h1 hm))
theorem execOr_names : ∀ (ps : List CPat) (ns : List Nat) (v : Val) (b : Bool) (d : Delta),
    bindsOkL ps = true → altsSame ns ps = true → execCode (lowerOr ps) v = some (b, d) →
    ∀ x w, (x, w) ∈ d → x ∈ ns
  | [] => by
    intro ns v b d _ _ h x w hm
    simp only [lowerOr, execCode, Option.some.injEq, Prod.mk.injEq] at h
    rw [← h.2] at hm; cases hm
  | p :: ps => by
    intro ns v b d hb hs h x w hm
    obtain ⟨hp, hps⟩ := bindsOkL_cons hb
    obtain ⟨hsame, hss⟩ := altsSame_cons hs
    obtain ⟨b1, d1, hf, hcase⟩ := orElse_some _ _ _ _ _ (execCode_lowerOr_cons p ps v ▸ h)
    have h1 := fun hm => (hsame x).mp (exec_names p v b1 d1 hp hf x w hm)
    rcases hcase with ⟨_, _, rfl⟩ | ⟨_, d', hr, rfl⟩
    · exact h1 hm
    · exact (List.mem_append.mp hm).elim (execOr_names ps ns v b d' hps hss hr x w) h1
end

/-! ### a successful test has assigned every name of the pattern -/

theorem lookup_append_isSome (d1 d2 : Delta) (x : Nat)
    (h : (d1.lookup x).isSome = true ∨ (d2.lookup x).isSome = true) : ((d1 ++ d2).lookup x).isSome = true := by
  rw [List.lookup_append]
  cases h1 : d1.lookup x with
  | some w => rfl
  | none => exact h.elim (fun h => by rw [h1] at h; cases h) id

theorem mkField_not_done (i : Nat) (n : Code) (r : Fields) : (mkField i n r).isDone = false := by
  unfold mkField; split <;> rfl

theorem lowerObj_done (orders : List Nat) (es : List CPat) (hl : orders.length = es.length)
    (h : (lowerObj orders es).isDone = true) : es = [] := by
  cases es with
  | nil => rfl
  | cons p es =>
    cases orders with
    | nil => cases hl
    | cons o orders => rw [lowerObj, mkField_not_done] at h; cases h

mutual
theorem exec_assigns : ∀ (p : CPat) (v : Val) (d : Delta), bindsOk p = true →
    execCode (lowerPat p) v = some (true, d) → ∀ x ∈ names p, (d.lookup x).isSome = true
  | .id y => by
    intro v d _ h x hx
    simp only [lowerPat, execCode, Option.some.injEq, Prod.mk.injEq, true_and] at h
    rw [List.mem_singleton.mp hx, ← h]; simp [List.lookup]
  | .wild => fun _ _ _ _ x hx => nomatch hx
  | .tuple n es => by
    intro v d hb h x hx
    rw [lowerPat, lowerElems_eq_lowerObj] at h
    rcases struct_some _ v true d h with ⟨vs, _, hf⟩ | ⟨hd, _, _⟩
    · exact execObj_assigns _ es vs d List.length_range' hb hf x hx
    · rw [names, lowerObj_done _ es List.length_range' hd] at hx; cases hx
  | .object n orders es => by
    intro v d hb h x hx
    simp only [bindsOk, Bool.and_eq_true, decide_eq_true_eq] at hb
    rcases struct_some _ v true d h with ⟨vs, _, hf⟩ | ⟨hd, _, _⟩
    · exact execObj_assigns orders es vs d hb.1 hb.2 hf x hx
    · rw [names, lowerObj_done orders es hb.1 hd] at hx; cases hx
  | .variant c args => by
    intro v d hb h x hx
    rw [lowerPat, lowerElems_eq_lowerObj] at h
    rcases destructure_some _ _ _ v true d h with ⟨ws, _, hf⟩ | ⟨hf, _⟩
    · exact execObj_assigns _ args ws d List.length_range' hb hf x hx
    · cases hf
  | .or ps => by
    intro v d hb h x hx
    simp only [bindsOk, Bool.and_eq_true] at hb
    exact execOr_assigns ps (namesFirst ps) v d hb.1 hb.2 h x hx
theorem execObj_assigns : ∀ (orders : List Nat) (es : List CPat) (vs : List Val) (d : Delta),
    orders.length = es.length → bindsOkL es = true →
    execFields (lowerObj orders es) vs = some (true, d) → ∀ x ∈ namesL es, (d.lookup x).isSome = true
  | _, [] => fun _ _ _ _ _ x hx => nomatch hx
  | [], p :: es => fun _ _ hl => nomatch hl
  | o :: os, p :: es => by
    intro vs d hl hb h x hx
    obtain ⟨hp, hes⟩ := bindsOkL_cons hb
    obtain ⟨y, dn, d', _, hn, hr, rfl⟩ := mkField_true h
    apply lookup_append_isSome
    exact (List.mem_append.mp hx).elim
      (fun hx => .inr (exec_assigns p y dn hp hn x hx))
      (fun hx => .inl (execObj_assigns os es vs d' (Nat.succ.inj hl) hes hr x hx))
theorem execOr_assigns : ∀ (ps : List CPat) (ns : List Nat) (v : Val) (d : Delta),
    bindsOkL ps = true → altsSame ns ps = true → execCode (lowerOr ps) v = some (true, d) →
    ∀ x ∈ ns, (d.lookup x).isSome = true
  | [] => fun _ _ _ _ _ h => nomatch h
  | p :: ps => by
    intro ns v d hb hs h x hx
    obtain ⟨hp, hps⟩ := bindsOkL_cons hb
    obtain ⟨hsame, hss⟩ := altsSame_cons hs
    obtain ⟨b1, d1, hf, hcase⟩ := orElse_some _ _ _ _ _ (execCode_lowerOr_cons p ps v ▸ h)
    rcases hcase with ⟨rfl, _, rfl⟩ | ⟨_, d', hr, rfl⟩
    · exact exec_assigns p v d hp hf x ((hsame x).mpr hx)
    · exact lookup_append_isSome _ _ _ (.inl (execOr_assigns ps ns v d' hps hss hr x hx))
end

theorem execL_assigns : ∀ (es : List CPat) (i : Nat) (vs : List Val) (d : Delta),
    bindsOkL es = true → execFields (lowerElems es i) vs = some (true, d) →
    ∀ x ∈ namesL es, (d.lookup x).isSome = true :=
  fun es i vs d hb h =>
    execObj_assigns _ es vs d List.length_range' hb (lowerElems_eq_lowerObj es i ▸ h)

/-! ### the assignments of a successful test are the source bindings -/

theorem cond_of_exec (sig : Sig) {p : CPat} {t : Nat} {v : Val} {b : Bool} {d : Delta}
    (hp : cpatTy sig p t = true) (hv : hasTy sig v t = true) (h : execCode (lowerPat p) v = some (b, d)) :
    pmatch (absOf p) v = b :=
  Option.some.inj ((lowerPat_correct sig p t v hp hv).symm.trans (exec_some_eval _ _ _ _ h))

mutual
theorem exec_binds (sig : Sig) : ∀ (p : CPat) (t : Nat) (v : Val) (d : Delta),
    cpatTy sig p t = true → bindsOk p = true → hasTy sig v t = true →
    execCode (lowerPat p) v = some (true, d) → ∀ x, d.lookup x = (srcDelta p v).lookup x
  | .id y => by
    intro _ v d _ _ _ h x
    simp only [lowerPat, execCode, Option.some.injEq, Prod.mk.injEq, true_and] at h
    rw [← h]; rfl
  | .wild => by
    intro _ v d _ _ _ h x
    simp only [lowerPat, execCode, Option.some.injEq, Prod.mk.injEq, true_and] at h
    rw [← h]; rfl
  | .tuple n es => by
    intro t v d hty hb hv h x
    obtain ⟨tys, hc, _, hes⟩ := cpatTy_tuple hty
    obtain ⟨ws, rfl, hws⟩ := hasTy_con_none hc hv
    exact execL_binds sig es tys [] ws d hes hb hws h x
  | .object n orders es => by
    intro t v d hty hb hv h x
    obtain ⟨tys, hc, _, _, hes⟩ := cpatTy_object hty
    obtain ⟨ws, rfl, hws⟩ := hasTy_con_none hc hv
    simp only [bindsOk, Bool.and_eq_true] at hb
    exact execObj_binds sig orders es tys ws d hes hb.2 hws h x
  | .variant c args => by
    intro t v d hty hb hv h x
    obtain ⟨tys, hc, hargs⟩ := cpatTy_variant hty
    rcases destructure_some _ _ _ v true d h with ⟨ws, rfl, hf⟩ | ⟨hf, _⟩
    · simp only [hasTy, hc] at hv
      exact execL_binds sig args tys [] ws d hargs hb hv hf x
    · cases hf
  | .or ps => by
    intro t v d hty hb hv h x
    simp only [cpatTy] at hty
    simp only [bindsOk, Bool.and_eq_true] at hb
    exact execOr_binds sig ps (namesFirst ps) t v d hty hb.1 hb.2 hv h x
theorem execL_binds (sig : Sig) : ∀ (es : List CPat) (tys : List Nat) (pre ws : List Val) (d : Delta),
    cpatTys sig es tys = true → bindsOkL es = true → hasTys sig ws tys = true →
    execFields (lowerElems es pre.length) (pre ++ ws) = some (true, d) →
    ∀ x, d.lookup x = (srcDeltaL es ws).lookup x
  | [] => by intro _ _ _ d _ _ _ h x; rw [done_some h]; rfl
  | p :: ps => by
    intro tys pre ws d hty hb hv h x
    obtain ⟨t, ts, rfl, hp, hps⟩ := cpatTys_cons hty
    obtain ⟨w, ws, rfl, hw, hws⟩ := hasTys_cons_inv hv
    obtain ⟨hbp, hbps⟩ := bindsOkL_cons hb
    obtain ⟨y, dn, d', hy, hn, hr, rfl⟩ := mkField_true h
    obtain rfl : w = y := by simpa using hy
    have hr' : execFields (lowerElems ps (pre ++ [w]).length) ((pre ++ [w]) ++ ws) = some (true, d') := by
      simpa using hr
    simp only [srcDeltaL, List.lookup_append, exec_binds sig p t w dn hp hbp hw hn x,
      execL_binds sig ps ts (pre ++ [w]) ws d' hps hbps hws hr' x]
theorem execObj_binds (sig : Sig) : ∀ (orders : List Nat) (es : List CPat) (tys : List Nat)
    (vs : List Val) (d : Delta),
    cobjTy sig tys orders es = true → bindsOkL es = true → hasTys sig vs tys = true →
    execFields (lowerObj orders es) vs = some (true, d) →
    ∀ x, d.lookup x = (srcDeltaObj orders es vs).lookup x
  | orders, [] => by
    intro _ _ d hty _ _ h x
    rw [cobjTy_nil hty] at h ⊢
    rw [done_some h]; rfl
  | orders, p :: es => by
    intro tys vs d hty hb hv h x
    obtain ⟨o, os, t, rfl, hto, hp, hes⟩ := cobjTy_cons hty
    obtain ⟨hbp, hbes⟩ := bindsOkL_cons hb
    obtain ⟨y, hy, hyt⟩ := hasTys_get hv hto
    obtain ⟨y', dn, d', hy', hn, hr, rfl⟩ := mkField_true h
    obtain rfl : y = y' := Option.some.inj (hy.symm.trans hy')
    simp only [srcDeltaObj, hy, List.lookup_append, exec_binds sig p t y dn hp hbp hyt hn x,
      execObj_binds sig os es tys vs d' hes hbes hv hr x]
theorem execOr_binds (sig : Sig) : ∀ (ps : List CPat) (ns : List Nat) (t : Nat) (v : Val) (d : Delta),
    cpatTyAll sig ps t = true → bindsOkL ps = true → altsSame ns ps = true → hasTy sig v t = true →
    execCode (lowerOr ps) v = some (true, d) → ∀ x, d.lookup x = (srcDeltaOr ps v).lookup x
  | [] => fun _ _ _ _ _ _ _ _ h => nomatch h
  | p :: ps => by
    intro ns t v d hty hb hs hv h x
    obtain ⟨hp, hps⟩ := cpatTyAll_cons hty
    obtain ⟨hbp, hbps⟩ := bindsOkL_cons hb
    obtain ⟨hsame, hss⟩ := altsSame_cons hs
    obtain ⟨b1, d1, hf, hcase⟩ := orElse_some _ _ _ _ _ (execCode_lowerOr_cons p ps v ▸ h)
    rw [srcDeltaOr, cond_of_exec sig hp hv hf]
    rcases hcase with ⟨rfl, _, rfl⟩ | ⟨rfl, d', hr, rfl⟩
    · rw [if_pos rfl]
      exact exec_binds sig p t v d hp hbp hv hf x
    · -- what the failed first alternative assigned is assigned again by the one that succeeds
      rw [if_neg Bool.false_ne_true, List.lookup_append,
        ← execOr_binds sig ps ns t v d' hps hbps hss hv hr x]
      cases hl : d'.lookup x with
      | some w => rfl
      | none =>
        cases hl1 : d1.lookup x with
        | none => rfl
        | some w =>
          obtain ⟨l1, l2, hd1, _⟩ := List.lookup_eq_some_iff.mp hl1
          have hxn := (hsame x).mp (exec_names p v false d1 hbp hf x w
            (hd1 ▸ List.mem_append_right _ (.head _)))
          have := execOr_assigns ps ns v d' hbps hss hr x hxn
          rw [hl] at this; cases this
end

theorem allocTemps_fst : ∀ (ns : List Nat) (c : Nat), (allocTemps ns c).map (fun b => b.1) = ns
  | [], _ => rfl
  | n :: ns, c => by simp [allocTemps, allocTemps_fst ns (c + 1)]

theorem allocTemps_snd : ∀ (ns : List Nat) (c : Nat),
    (allocTemps ns c).map (fun b => b.2) = List.range' c ns.length
  | [], _ => rfl
  | n :: ns, c => by simp [allocTemps, allocTemps_snd ns (c + 1), List.range'_succ]

theorem lookup_rename (bn : Nat → Nat) (x : Nat) : ∀ (d : Delta),
    (∀ y w, (y, w) ∈ d → bn y = bn x → y = x) →
    (renameDelta bn d).lookup (bn x) = d.lookup x
  | [], _ => rfl
  | (y, w) :: d, h => by
    have ih := lookup_rename bn x d (fun y' w' hm => h y' w' (List.mem_cons_of_mem _ hm))
    have hb : (bn x == bn y) = (x == y) := by
      rw [Bool.eq_iff_iff, beq_iff_eq, beq_iff_eq]
      exact ⟨fun heq => (h y w List.mem_cons_self heq.symm).symm, congrArg bn⟩
    simp only [renameDelta, List.map_cons, List.lookup] at ih ⊢
    rw [hb, ih]

end SamVerif.MatchLower
