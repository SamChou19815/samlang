import SamVerif.Model.CpeProg
import SamVerif.Lemmas.CpeSem
/-! C01 / K4c: constant-parameter elimination over a program of functions. The simulations
(`exec_dropParam` for an unused, `exec_substParam` for a constant parameter) assume only the shapes
`okU` / `okC` of the bodies; bridges lead from the decision kernel to those shapes (`okU_of_reads`,
`okC_of_calls`); and the shape for one parameter survives the removal or substitution of another,
which a sweep over several parameters needs. -/
namespace SamVerif.CpeProg
open SamVerif.TailRec
open SamVerif.Opt (Op)
open SamVerif.CpeSem (Res exprReads exprArg substExpr upd_agree bindParams_erase bindParams_get map_eraseIdx'
  map_eraseIdx_congr eval_subst map_subst upd_keep ne_var_of_not_reads mem_argReads own_slot_of_not_reads
  lit_of_exprArg)

def AgreeH (hide : Option Name) (e1 e2 : Env) : Prop := ∀ x, hide ≠ some x → e1 x = e2 x

theorem eval_agreeH {hide : Option Name} {e1 e2 : Env} (h : AgreeH hide e1 e2) (e : Expr)
    (he : clean hide e) : e.eval e1 = e.eval e2 := by
  cases e with
  | lit n => rfl
  | var x => exact h x (fun hx => he x hx rfl)

theorem map_agreeH {hide : Option Name} {e1 e2 : Env} (h : AgreeH hide e1 e2) (es : List Expr)
    (hes : ∀ e ∈ es, clean hide e) : es.map (Expr.eval e1) = es.map (Expr.eval e2) :=
  List.map_congr_left (fun e he => eval_agreeH h e (hes e he))

theorem agreeH_of_agree {p : Name} {e1 e2 : Env} (h : CpeSem.Agree p e1 e2) : AgreeH (some p) e1 e2 :=
  fun x hx => h x (fun hxp => hx (by rw [hxp]))

theorem agreeH_refl (e : Env) : AgreeH none e e := fun _ _ => rfl

theorem lookup_mem {prog : Prog} {g : Nat} {fn : PFn} (h : lookup prog g = some fn) :
    fn ∈ prog ∧ fn.name = g := by
  unfold lookup at h
  exact ⟨List.mem_of_find?_eq_some h, by simpa using List.find?_some h⟩

theorem lookup_map (prog : Prog) (T : PFn → PFn) (hT : ∀ fn, (T fn).name = fn.name) (g : Nat) :
    lookup (prog.map T) g = (lookup prog g).map T := by
  unfold lookup
  induction prog with
  | nil => rfl
  | cons fn rest ih =>
    simp only [List.map_cons, List.find?_cons, hT]
    split
    · rfl
    · exact ih

theorem lookup_of_mem (prog : Prog) (hu : (prog.map (·.name)).Nodup) (fn : PFn) (hm : fn ∈ prog) :
    lookup prog fn.name = some fn := by
  unfold lookup
  induction prog with
  | nil => cases hm
  | cons f rest ih =>
    simp only [List.map_cons, List.nodup_cons] at hu
    simp only [List.find?_cons]
    rcases List.mem_cons.mp hm with h | h
    · subst h; simp
    · have hne : f.name ≠ fn.name := fun hq => hu.1 (by rw [hq]; exact List.mem_map_of_mem h)
      have : (f.name == fn.name) = false := by simpa using hne
      simp only [this]
      exact ih hu.2 h

/-- The name hidden in the body of `fn`: the eliminated parameter `p` inside `g`, nothing elsewhere. -/
def hideOf (g : Nat) (p : Name) (fn : PFn) : Option Name := if fn.name = g then some p else none

theorem hideOf_self {g : Nat} {fn : PFn} (h : fn.name = g) (p : Name) : hideOf g p fn = some p := if_pos h

theorem hideOf_other {g : Nat} {fn : PFn} (h : fn.name ≠ g) (p : Name) : hideOf g p fn = none := if_neg h

theorem lookup_dropParam (g i : Nat) (prog : Prog) (h : Nat) :
    lookup (dropParam g i prog) h = (lookup prog h).map fun fn =>
      { fn with params := if fn.name = g then fn.params.eraseIdx i else fn.params,
                body := dropArgs g i fn.body } := by
  unfold dropParam
  apply lookup_map
  exact fun _ => rfl

theorem lookup_substParam (g i : Nat) (p : Name) (n : Int) (prog : Prog) (h : Nat) :
    lookup (substParam g i p n prog) h = (lookup prog h).map fun fn =>
      { fn with params := if fn.name = g then fn.params.eraseIdx i else fn.params,
                body := dropArgs g i (if fn.name = g then substVar p n fn.body else fn.body) } := by
  unfold substParam
  apply lookup_map
  exact fun _ => rfl

/-- Entering function `h` with `vals`, given the simulation of bodies at this fuel. -/
theorem enter_dropParam (ev : Op → Int → Int → Option Int) (prog : Prog) (g i : Nat) (gfn : PFn) (p : Name)
    (hg : lookup prog g = some gfn) (hp : gfn.params[i]? = some p)
    (hall : ∀ fn ∈ prog, okU g i gfn.params.length (hideOf g p fn) fn.body) (fuel : Nat)
    (sim : ∀ (b : PBody) (hide : Option Name) (e1 e2 : Env) (out : List (List Int)),
      AgreeH hide e1 e2 → okU g i gfn.params.length hide b →
      exec ev prog fuel e1 out b = exec ev (dropParam g i prog) fuel e2 out (dropArgs g i b))
    (h : Nat) (fn : PFn) (hl : lookup prog h = some fn) (vals : List Int) (out : List (List Int)) :
    exec ev prog fuel (bindParams fn.params vals) out fn.body =
      exec ev (dropParam g i prog) fuel
        (bindParams (if fn.name = g then fn.params.eraseIdx i else fn.params)
          (if h = g then vals.eraseIdx i else vals)) out (dropArgs g i fn.body) := by
  have hm := lookup_mem hl
  have hok := hall fn hm.1
  by_cases hhg : h = g
  · subst hhg
    have hfn : fn = gfn := Option.some.inj (hl.symm.trans hg)
    subst hfn
    rw [hideOf_self hm.2] at hok
    rw [if_pos hm.2, if_pos rfl]
    exact sim _ _ _ _ out (agreeH_of_agree (bindParams_erase p fn.params vals i hp)) hok
  · have hne : fn.name ≠ g := fun hq => hhg (hm.2.symm.trans hq)
    rw [hideOf_other hne] at hok
    rw [if_neg hne, if_neg hhg]
    exact sim _ _ _ _ out (agreeH_refl _) hok

/-- Simulation for an unused parameter, over the whole program. -/
theorem exec_dropParam (ev : Op → Int → Int → Option Int) (prog : Prog) (g i : Nat) (gfn : PFn) (p : Name)
    (hg : lookup prog g = some gfn) (hp : gfn.params[i]? = some p) (hnd : gfn.params.Nodup)
    (hall : ∀ fn ∈ prog, okU g i gfn.params.length (hideOf g p fn) fn.body) :
    ∀ (fuel : Nat) (b : PBody) (hide : Option Name) (e1 e2 : Env) (out : List (List Int)),
      AgreeH hide e1 e2 → okU g i gfn.params.length hide b →
      exec ev prog fuel e1 out b = exec ev (dropParam g i prog) fuel e2 out (dropArgs g i b) := by
  intro fuel
  induction fuel using Nat.strongRecOn with
  | _ fuel ihf =>
  intro b
  induction b with
  | ret e => intro hide e1 e2 out ha hk; simp [exec, dropArgs, eval_agreeH ha e hk]
  | bin x op a1 a2 k ih =>
    intro hide e1 e2 out ha hk
    obtain ⟨hx, h1, h2, hk'⟩ := hk
    simp only [exec, dropArgs, eval_agreeH ha a1 h1, eval_agreeH ha a2 h2]
    split
    · rfl
    · exact ih _ _ _ _ (upd_agree ha x _) hk'
  | print es k ih =>
    intro hide e1 e2 out ha hk
    simp only [exec, dropArgs, map_agreeH ha es hk.1]
    exact ih _ _ _ _ ha hk.2
  | ite c t e iht ihe =>
    intro hide e1 e2 out ha hk
    simp only [exec, dropArgs, eval_agreeH ha c hk.1]
    split
    · exact iht _ _ _ _ ha hk.2.1
    · exact ihe _ _ _ _ ha hk.2.2
  | call x h args k ih =>
    intro hide e1 e2 out ha hk
    obtain ⟨hx, hargs, hk'⟩ := hk
    cases fuel with
    | zero => simp [exec, dropArgs]
    | succ m =>
      simp only [exec, dropArgs, lookup_dropParam]
      cases hl : lookup prog h with
      | none => rfl
      | some fn =>
        have hv : (if h = g then (args.map (Expr.eval e1)).eraseIdx i else args.map (Expr.eval e1)) =
            (if h = g then args.eraseIdx i else args).map (Expr.eval e2) := by
          by_cases hh : h = g
          · rw [if_pos hh] at hargs
            rw [if_pos hh, if_pos hh]
            exact map_eraseIdx_congr fun j a hji haj => eval_agreeH ha a (hargs.2 j a hji haj)
          · rw [if_neg hh] at hargs
            rw [if_neg hh, if_neg hh]
            exact map_agreeH ha args hargs
        simp only [Option.map_some]
        rw [enter_dropParam ev prog g i gfn p hg hp hall m (ihf m (Nat.lt_succ_self m)) h fn hl, hv]
        split
        · rfl
        · exact ih _ _ _ _ (upd_agree ha x _) hk'

/-- Run-level form of `exec_dropParam`: from the shape alone. -/
theorem run_dropParam (ev : Op → Int → Int → Option Int) (prog : Prog) (g i : Nat) (gfn : PFn) (p : Name)
    (hg : lookup prog g = some gfn) (hp : gfn.params[i]? = some p) (hnd : gfn.params.Nodup)
    (hall : ∀ fn ∈ prog, okU g i gfn.params.length (hideOf g p fn) fn.body) :
    ∀ (h : Nat) (fuel : Nat) (vals : List Int),
      run ev prog h fuel vals =
        run ev (dropParam g i prog) h fuel (if h = g then vals.eraseIdx i else vals) := by
  intro h fuel vals
  unfold run
  rw [lookup_dropParam]
  cases hl : lookup prog h with
  | none => rfl
  | some fn =>
    exact enter_dropParam ev prog g i gfn p hg hp hall fuel
      (exec_dropParam ev prog g i gfn p hg hp hnd hall fuel) h fn hl vals []

/-- Entering function `h` with `vals` (the constant in position `i` when `h = g`), given the two
simulations of bodies at this fuel. -/
theorem enter_substParam (ev : Op → Int → Int → Option Int) (prog : Prog) (g i : Nat) (gfn : PFn)
    (p : Name) (n : Int)
    (hg : lookup prog g = some gfn) (hp : gfn.params[i]? = some p) (hnd : gfn.params.Nodup)
    (hall : ∀ fn ∈ prog, okC g i gfn.params.length n (hideOf g p fn) fn.body) (fuel : Nat)
    (simA : ∀ (b : PBody) (e1 e2 : Env) (out : List (List Int)), CpeSem.Agree p e1 e2 → e1 p = n →
      okC g i gfn.params.length n (some p) b →
      exec ev prog fuel e1 out b =
        exec ev (substParam g i p n prog) fuel e2 out (dropArgs g i (substVar p n b)))
    (simB : ∀ (b : PBody) (e : Env) (out : List (List Int)), okC g i gfn.params.length n none b →
      exec ev prog fuel e out b = exec ev (substParam g i p n prog) fuel e out (dropArgs g i b))
    (h : Nat) (fn : PFn) (hl : lookup prog h = some fn) (vals : List Int) (out : List (List Int))
    (hv : h = g → vals[i]? = some n) :
    exec ev prog fuel (bindParams fn.params vals) out fn.body =
      exec ev (substParam g i p n prog) fuel
        (bindParams (if fn.name = g then fn.params.eraseIdx i else fn.params)
          (if h = g then vals.eraseIdx i else vals)) out
        (dropArgs g i (if fn.name = g then substVar p n fn.body else fn.body)) := by
  have hm := lookup_mem hl
  have hok := hall fn hm.1
  by_cases hhg : h = g
  · subst hhg
    have hfn : fn = gfn := Option.some.inj (hl.symm.trans hg)
    subst hfn
    rw [hideOf_self hm.2] at hok
    simp only [if_pos hm.2]
    exact simA _ _ _ out (bindParams_erase p fn.params vals i hp)
      (bindParams_get p fn.params vals i n hp hnd (hv rfl)) hok
  · have hne : fn.name ≠ g := fun hq => hhg (hm.2.symm.trans hq)
    rw [hideOf_other hne] at hok
    simp only [if_neg hne, if_neg hhg]
    exact simB _ _ out hok

/-- Simulation for a constant parameter, over the whole program: inside `g` (A) the parameter holds
`n`, is replaced by the literal and dropped; in every other function (B) only the calls of `g` change. -/
theorem exec_substParam (ev : Op → Int → Int → Option Int) (prog : Prog) (g i : Nat) (gfn : PFn)
    (p : Name) (n : Int)
    (hg : lookup prog g = some gfn) (hp : gfn.params[i]? = some p) (hnd : gfn.params.Nodup)
    (hall : ∀ fn ∈ prog, okC g i gfn.params.length n (hideOf g p fn) fn.body) :
    ∀ (fuel : Nat),
      (∀ (b : PBody) (e1 e2 : Env) (out : List (List Int)), CpeSem.Agree p e1 e2 → e1 p = n →
        okC g i gfn.params.length n (some p) b →
        exec ev prog fuel e1 out b =
          exec ev (substParam g i p n prog) fuel e2 out (dropArgs g i (substVar p n b))) ∧
      (∀ (b : PBody) (e : Env) (out : List (List Int)), okC g i gfn.params.length n none b →
        exec ev prog fuel e out b = exec ev (substParam g i p n prog) fuel e out (dropArgs g i b)) := by
  intro fuel
  induction fuel using Nat.strongRecOn with
  | _ fuel ihf =>
  -- A call, in `g` or elsewhere: the callee is entered with the same values less position `i` (`hvals`) and by
  -- the induction hypothesis on the fuel runs the same; then the rest `k` / `k'` of the two bodies (`hcont`).
  have callStep : ∀ (x : Name) (h : Nat) (args args' : List Expr) (k k' : PBody) (e1 e2 : Env)
      (out : List (List Int)), (h = g → (args.map (Expr.eval e1))[i]? = some n) →
      (if h = g then (args.map (Expr.eval e1)).eraseIdx i else args.map (Expr.eval e1)) =
        args'.map (Expr.eval e2) →
      (∀ v out', exec ev prog fuel (upd e1 x v) out' k =
        exec ev (substParam g i p n prog) fuel (upd e2 x v) out' k') →
      exec ev prog fuel e1 out (.call x h args k) =
        exec ev (substParam g i p n prog) fuel e2 out (.call x h args' k') := by
    intro x h args args' k k' e1 e2 out hentry hvals hcont
    cases fuel with
    | zero => simp only [exec]
    | succ m =>
      simp only [exec, lookup_substParam]
      cases hl : lookup prog h with
      | none => rfl
      | some fn =>
        have ihm := ihf m (Nat.lt_succ_self m)
        simp only [Option.map_some]
        rw [enter_substParam ev prog g i gfn p n hg hp hnd hall m ihm.1 ihm.2 h fn hl _ out hentry, hvals]
        split
        · rfl
        · exact hcont _ _
  constructor
  · intro b
    induction b with
    | ret e => intro e1 e2 out ha hn hk; simp [exec, dropArgs, substVar, eval_subst ha hn e]
    | bin x op a1 a2 k ih =>
      intro e1 e2 out ha hn hk
      simp only [exec, dropArgs, substVar, eval_subst ha hn a1, eval_subst ha hn a2]
      split
      · rfl
      · exact ih _ _ _ (upd_agree ha x _) (upd_keep hn x (fun h => hk.1 (by rw [h])) _) hk.2
    | print es k ih =>
      intro e1 e2 out ha hn hk
      simp only [exec, dropArgs, substVar, map_subst ha hn es]
      exact ih _ _ _ ha hn hk
    | ite c t e iht ihe =>
      intro e1 e2 out ha hn hk
      simp only [exec, dropArgs, substVar, eval_subst ha hn c]
      split
      · exact iht _ _ _ ha hn hk.1
      · exact ihe _ _ _ ha hn hk.2
    | call x h args k ih =>
      intro e1 e2 out ha hn hk
      obtain ⟨hx, hargs, hk'⟩ := hk
      simp only [dropArgs, substVar]
      refine callStep x h args _ _ _ e1 e2 out (fun hh => by simp [(hargs hh).2, Expr.eval]) ?_
        fun v out' => ih _ _ _ (upd_agree ha x v) (upd_keep hn x (fun h' => hx (by rw [h'])) v) hk'
      split
      · rw [map_eraseIdx', map_subst ha hn args]
      · rw [map_subst ha hn args]
  · intro b
    induction b with
    | ret e => intro e out hk; simp [exec, dropArgs]
    | bin x op a1 a2 k ih =>
      intro e out hk
      simp only [exec, dropArgs]
      split
      · rfl
      · exact ih _ _ hk.2
    | print es k ih => intro e out hk; simp only [exec, dropArgs]; exact ih _ _ hk
    | ite c t e iht ihe =>
      intro e out hk
      simp only [exec, dropArgs]
      split
      · exact iht _ _ hk.1
      · exact ihe _ _ hk.2
    | call x h args k ih =>
      intro e out hk
      obtain ⟨hx, hargs, hk'⟩ := hk
      simp only [dropArgs]
      refine callStep x h args _ _ _ e e out (fun hh => by simp [(hargs hh).2, Expr.eval]) ?_
        fun v out' => ih _ _ hk'
      split
      · rw [map_eraseIdx']
      · rfl

/-- Run-level form of `exec_substParam`: from the shape alone. -/
theorem run_substParam (ev : Op → Int → Int → Option Int) (prog : Prog) (g i : Nat) (gfn : PFn)
    (p : Name) (n : Int)
    (hg : lookup prog g = some gfn) (hp : gfn.params[i]? = some p) (hnd : gfn.params.Nodup)
    (hall : ∀ fn ∈ prog, okC g i gfn.params.length n (hideOf g p fn) fn.body) :
    ∀ (h : Nat) (fuel : Nat) (vals : List Int), (h = g → vals[i]? = some n) →
      run ev prog h fuel vals =
        run ev (substParam g i p n prog) h fuel (if h = g then vals.eraseIdx i else vals) := by
  intro h fuel vals hv
  have hsim := exec_substParam ev prog g i gfn p n hg hp hnd hall fuel
  unfold run
  rw [lookup_substParam]
  cases hl : lookup prog h with
  | none => rfl
  | some fn =>
    exact enter_substParam ev prog g i gfn p n hg hp hnd hall fuel hsim.1 hsim.2 h fn hl vals [] hv

/-- Names the decision kernel counts as read in a body of the function named `self`. -/
def readsOf (self : Nat) (params : List Name) (b : PBody) : List Name :=
  (atomsOf b).flatMap fun a => match a with
    | .read x => [x]
    | .call g args => if g = self then selfCallReads params args else argReads args

theorem localReads_fnOf (fn : PFn) : localReads (fnOf fn) = readsOf fn.name fn.params fn.body := rfl

theorem readsOf_ret (self : Nat) (params : List Name) (e : Expr) :
    readsOf self params (.ret e) = exprReads e := by
  cases e <;> rfl

theorem readsOf_bin (self : Nat) (params : List Name) (x : Name) (op : Op) (e1 e2 : Expr) (k : PBody) :
    readsOf self params (.bin x op e1 e2 k) = exprReads e1 ++ exprReads e2 ++ readsOf self params k := by
  cases e1 <;> cases e2 <;> rfl

theorem readsOf_ite (self : Nat) (params : List Name) (c : Expr) (t e : PBody) :
    readsOf self params (.ite c t e) = exprReads c ++ readsOf self params t ++ readsOf self params e := by
  cases c <;> simp [readsOf, atomsOf, exprReads]

theorem readsOf_call (self : Nat) (params : List Name) (x : Name) (h : Nat) (args : List Expr) (k : PBody) :
    readsOf self params (.call x h args k) =
      (if h = self then selfCallReads params (args.map exprArg) else argReads (args.map exprArg)) ++
        readsOf self params k := rfl

/-- `print` is summarised as a call of function 999 (`atomsOf`). -/
theorem readsOf_print (self : Nat) (params : List Name) (es : List Expr) (k : PBody) :
    readsOf self params (.print es k) =
      (if 999 = self then selfCallReads params (es.map exprArg) else argReads (es.map exprArg)) ++
        readsOf self params k := rfl

theorem clean_none (e : Expr) : clean none e := fun _ h => by cases h

theorem clean_of_not_reads (p : Name) (e : Expr) (h : p ∉ exprReads e) : clean (some p) e := by
  intro q hq; cases hq; exact ne_var_of_not_reads p e h

/-- Inside `g`: the decision `Unused` gives the shape `okU`. -/
theorem okU_of_reads (g : Nat) (hg9 : g ≠ 999) (params : List Name) (p : Name) (i : Nat)
    (hp : params[i]? = some p) (hnd : params.Nodup) :
    ∀ (b : PBody), p ∉ readsOf g params b → assignsP p b = false →
      callsArityG g params.length b = true → okU g i params.length (some p) b := by
  intro b
  induction b with
  | ret e => intro h _ _; exact clean_of_not_reads p e (readsOf_ret g params e ▸ h)
  | bin x op e1 e2 k ih =>
    intro h ha hc
    simp only [readsOf_bin, List.mem_append, not_or] at h
    simp only [assignsP, Bool.or_eq_false_iff, beq_eq_false_iff_ne] at ha
    exact ⟨fun hx => ha.1 (Option.some.inj hx).symm, clean_of_not_reads p e1 h.1.1,
      clean_of_not_reads p e2 h.1.2, ih h.2 ha.2 hc⟩
  | print es k ih =>
    intro h ha hc
    simp only [readsOf_print, if_neg (Ne.symm hg9), List.mem_append, not_or] at h
    refine ⟨fun e he q hq hep => ?_, ih h.2 ha hc⟩
    cases hq
    subst hep
    exact h.1 ((mem_argReads es p).mpr he)
  | ite c t e iht ihe =>
    intro h ha hc
    simp only [readsOf_ite, List.mem_append, not_or] at h
    simp only [assignsP, Bool.or_eq_false_iff] at ha
    simp only [callsArityG, Bool.and_eq_true] at hc
    exact ⟨clean_of_not_reads p c h.1.1, iht h.1.2 ha.1 hc.1, ihe h.2 ha.2 hc.2⟩
  | call x h' args k ih =>
    intro h ha hc
    simp only [readsOf_call, List.mem_append, not_or] at h
    simp only [assignsP, Bool.or_eq_false_iff, beq_eq_false_iff_ne] at ha
    simp only [callsArityG, Bool.and_eq_true, Bool.or_eq_true, bne_iff_ne, ne_eq, beq_iff_eq] at hc
    refine ⟨fun hx => ha.1 (Option.some.inj hx).symm, ?_, ih h.2 ha.2 hc.2⟩
    by_cases hh : h' = g
    · subst hh
      simp only [if_true] at h ⊢
      refine ⟨hc.1.resolve_left (fun h0 => h0 rfl), ?_⟩
      intro j a hj haj q hq haq
      cases hq
      subst haq
      exact own_slot_of_not_reads hp hnd h.1 j hj haj
    · simp only [hh, if_false] at h ⊢
      intro a ha' q hq haq
      cases hq
      subst haq
      exact h.1 ((mem_argReads args p).mpr ha')

/-- Outside `g` only the arity of the calls of `g` matters. -/
theorem okU_none (g i kg : Nat) : ∀ (b : PBody), callsArityG g kg b = true → okU g i kg none b := by
  intro b
  induction b with
  | ret e => intro _; exact clean_none e
  | bin x op e1 e2 k ih =>
    intro hc
    exact ⟨(fun h => by cases h), clean_none _, clean_none _, ih (by simpa [callsArityG] using hc)⟩
  | print es k ih => intro hc; exact ⟨fun e _ => clean_none e, ih (by simpa [callsArityG] using hc)⟩
  | ite c t e iht ihe =>
    intro hc
    simp only [callsArityG, Bool.and_eq_true] at hc
    exact ⟨clean_none _, iht hc.1, ihe hc.2⟩
  | call x h args k ih =>
    intro hc
    simp only [callsArityG, Bool.and_eq_true, Bool.or_eq_true, bne_iff_ne, ne_eq, beq_iff_eq] at hc
    refine ⟨(fun h => by cases h), ?_, ih hc.2⟩
    split
    · rename_i hh
      exact ⟨hc.1.resolve_left (fun h0 => h0 hh), fun _ a _ _ => clean_none a⟩
    · exact fun a _ => clean_none a

theorem callsOf_atoms (g : Nat) : ∀ (b : PBody) (args : List Expr),
    args ∈ callsOf g b → Atom.call g (args.map exprArg) ∈ atomsOf b := by
  intro b
  induction b with
  | ret e => intro args h; simp [callsOf] at h
  | bin x op e1 e2 k ih => intro args h; simp only [atomsOf, List.mem_append]; exact Or.inr (ih args h)
  | print es k ih => intro args h; simp only [atomsOf, List.mem_cons]; exact Or.inr (ih args h)
  | ite c t e iht ihe =>
    intro args h
    simp only [callsOf, List.mem_append] at h
    simp only [atomsOf, List.mem_append]
    rcases h with h | h
    · exact Or.inl (Or.inr (iht args h))
    · exact Or.inr (ihe args h)
  | call x h' a k ih =>
    intro args h
    simp only [callsOf] at h
    simp only [atomsOf, List.mem_cons]
    split at h
    · rename_i hh
      subst hh
      rcases List.mem_cons.mp h with h | h
      · subst h; exact Or.inl rfl
      · exact Or.inr (ih args h)
    · exact Or.inr (ih args h)

theorem hidden_or {hide : Option Name} {l r : Name → Bool}
    (ha : ∀ p, hide = some p → (l p || r p) = false) :
    (∀ p, hide = some p → l p = false) ∧ ∀ p, hide = some p → r p = false :=
  ⟨fun p hp => (Bool.or_eq_false_iff.mp (ha p hp)).1, fun p hp => (Bool.or_eq_false_iff.mp (ha p hp)).2⟩

theorem okC_of_calls (g i kg : Nat) (n : Int) (hide : Option Name) (hi : i < kg) : ∀ (b : PBody),
    (∀ args ∈ callsOf g b, ∀ a, (args.map exprArg)[i]? = some a → a = .i32 n) →
    (∀ p, hide = some p → assignsP p b = false) → callsArityG g kg b = true → okC g i kg n hide b := by
  intro b
  induction b with
  | ret e => intro _ _ _; trivial
  | bin x op e1 e2 b ih =>
    intro h ha hc
    obtain ⟨hax, hab⟩ := hidden_or (l := (x == ·)) (r := (assignsP · b)) ha
    exact ⟨fun hx => by simpa using hax x hx, ih h hab (by simpa [callsArityG] using hc)⟩
  | print es b ih =>
    intro h ha hc
    exact ih h ha (by simpa [callsArityG] using hc)
  | ite c t e iht ihe =>
    intro h ha hc
    simp only [callsArityG, Bool.and_eq_true] at hc
    obtain ⟨hat, hae⟩ := hidden_or (l := (assignsP · t)) (r := (assignsP · e)) ha
    exact ⟨iht (fun a ha' => h a (by simp [callsOf, ha'])) hat hc.1,
      ihe (fun a ha' => h a (by simp [callsOf, ha'])) hae hc.2⟩
  | call x h' args b ih =>
    intro h ha hc
    simp only [callsArityG, Bool.and_eq_true, Bool.or_eq_true, bne_iff_ne, ne_eq, beq_iff_eq] at hc
    obtain ⟨hax, hab⟩ := hidden_or (l := (x == ·)) (r := (assignsP · b)) ha
    refine ⟨fun hx => by simpa using hax x hx, ?_,
      ih (fun a ha' => h a (by simp only [callsOf]; split <;> simp [ha'])) hab hc.2⟩
    intro hh
    subst hh
    have hlen : args.length = kg := hc.1.resolve_left (fun h0 => h0 rfl)
    exact ⟨hlen, lit_of_exprArg (by omega) (h args (by simp [callsOf]))⟩

/-- The shape for parameter `j` survives the removal of a later parameter `i`. -/
theorem okU_dropArgs (g i j kg : Nat) (hide : Option Name) (hji : j < i) (hi : i < kg) :
    ∀ (b : PBody), okU g j kg hide b → okU g j (kg - 1) hide (dropArgs g i b) := by
  intro b
  induction b with
  | ret e => intro h; exact h
  | bin x op e1 e2 k ih => intro h; exact ⟨h.1, h.2.1, h.2.2.1, ih h.2.2.2⟩
  | print es k ih => intro h; exact ⟨h.1, ih h.2⟩
  | ite c t e iht ihe => intro h; exact ⟨h.1, iht h.2.1, ihe h.2.2⟩
  | call x h' args k ih =>
    intro h
    obtain ⟨hx, hargs, hk⟩ := h
    refine ⟨hx, ?_, ih hk⟩
    by_cases hh : h' = g
    · simp only [hh, if_true] at hargs ⊢
      obtain ⟨hlen, hcl⟩ := hargs
      refine ⟨by rw [List.length_eraseIdx]; simp [hlen, hi], ?_⟩
      intro j' a hj' ha
      rw [List.getElem?_eraseIdx] at ha
      split at ha
      · exact hcl j' a hj' ha
      · exact hcl (j' + 1) a (by omega) ha
    · simp only [hh, if_false] at hargs ⊢
      exact hargs

theorem okC_dropArgs (g i j kg : Nat) (m : Int) (hide : Option Name) (hji : j < i) (hi : i < kg) :
    ∀ (b : PBody), okC g j kg m hide b → okC g j (kg - 1) m hide (dropArgs g i b) := by
  intro b
  induction b with
  | ret e => intro h; exact h
  | bin x op e1 e2 k ih => intro h; exact ⟨h.1, ih h.2⟩
  | print es k ih => intro h; exact ih h
  | ite c t e iht ihe => intro h; exact ⟨iht h.1, ihe h.2⟩
  | call x h' args k ih =>
    intro h
    obtain ⟨hx, hargs, hk⟩ := h
    refine ⟨hx, ?_, ih hk⟩
    intro hh
    obtain ⟨hlen, hlit⟩ := hargs hh
    simp only [hh, if_true]
    refine ⟨by rw [List.length_eraseIdx]; simp [hlen, hi], ?_⟩
    rw [List.getElem?_eraseIdx]
    simp [hji, hlit]

theorem clean_subst (hide : Option Name) (p : Name) (n : Int) (e : Expr) (h : clean hide e) :
    clean hide (substExpr p n e) := by
  cases e with
  | lit m => exact h
  | var x =>
    simp only [substExpr]
    split
    · intro q _ hq; cases hq
    · exact h

theorem okU_substVar (g j kg : Nat) (hide : Option Name) (p : Name) (n : Int) :
    ∀ (b : PBody), okU g j kg hide b → okU g j kg hide (substVar p n b) := by
  intro b
  induction b with
  | ret e => intro h; exact clean_subst hide p n e h
  | bin x op e1 e2 k ih =>
    intro h; exact ⟨h.1, clean_subst _ _ _ _ h.2.1, clean_subst _ _ _ _ h.2.2.1, ih h.2.2.2⟩
  | print es k ih =>
    intro h
    refine ⟨?_, ih h.2⟩
    intro e he
    obtain ⟨e0, he0, rfl⟩ := List.mem_map.mp he
    exact clean_subst _ _ _ _ (h.1 e0 he0)
  | ite c t e iht ihe => intro h; exact ⟨clean_subst _ _ _ _ h.1, iht h.2.1, ihe h.2.2⟩
  | call x h' args k ih =>
    intro h
    obtain ⟨hx, hargs, hk⟩ := h
    refine ⟨hx, ?_, ih hk⟩
    by_cases hh : h' = g
    · simp only [hh, if_true] at hargs ⊢
      refine ⟨by simpa using hargs.1, ?_⟩
      intro j' a hj' ha
      rw [List.getElem?_map] at ha
      cases hq : args[j']? with
      | none => simp [hq] at ha
      | some a0 =>
        simp [hq] at ha
        subst ha
        exact clean_subst _ _ _ _ (hargs.2 j' a0 hj' hq)
    · simp only [hh, if_false] at hargs ⊢
      intro a ha
      obtain ⟨a0, ha0, rfl⟩ := List.mem_map.mp ha
      exact clean_subst _ _ _ _ (hargs a0 ha0)

theorem okC_substVar (g j kg : Nat) (m : Int) (hide : Option Name) (p : Name) (n : Int) :
    ∀ (b : PBody), okC g j kg m hide b → okC g j kg m hide (substVar p n b) := by
  intro b
  induction b with
  | ret e => intro _; trivial
  | bin x op e1 e2 k ih => intro h; exact ⟨h.1, ih h.2⟩
  | print es k ih => intro h; exact ih h
  | ite c t e iht ihe => intro h; exact ⟨iht h.1, ihe h.2⟩
  | call x h' args k ih =>
    intro h
    obtain ⟨hx, hargs, hk⟩ := h
    refine ⟨hx, ?_, ih hk⟩
    intro hh
    obtain ⟨hlen, hlit⟩ := hargs hh
    refine ⟨by simpa using hlen, ?_⟩
    rw [List.getElem?_map, hlit]
    rfl

end SamVerif.CpeProg
