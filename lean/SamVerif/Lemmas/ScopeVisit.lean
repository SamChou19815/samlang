import SamVerif.Model.Scope
/-!
Case analysis and induction along `visit`, stated once: which production applies to a node is
decided by its tag, by whether it carries a name, and by the number of its children. Also the
equations of the productions that open a scope, in the shape `push ++ inside ++ pop`.
-/
namespace SamVerif.Scope
variable {α : Type}

/-- The nodes without a production of their own: `visit` passes on to the children. -/
def passes : Tag → Bool → Nat → Bool
  | .seq, _, _ | .none, _, _ => true
  | .var, named, _ | .param, named, _ | .pId, named, _ | .tyUse, named, _ => !named
  | .ifGuard, _, n => n != 4
  | .decl, _, n => n != 3
  | .case, _, n => n != 2
  | .pOr, _, n => n == 0
  | .lambda, _, _ | .block, _, _ => false

theorem visit_pass {tag : Tag} {name : Option α} {kids : List (Node α)}
    (h : passes tag name.isSome kids.length = true) (loc : Nat) :
    visit (.mk tag name loc kids) = visitList kids := by
  unfold visit
  -- each of the ten productions contradicts `h`; the fall-through is the claim
  split <;> first | rfl | simp [passes] at h

theorem visit_block (name : Option α) (loc : Nat) (ks : List (Node α)) :
    visit (.mk .block name loc ks) = [.push] ++ visitList ks ++ [.pop .scoped loc] := by
  simp only [visit]

theorem visit_lambda (name : Option α) (loc : Nat) (ks : List (Node α)) :
    visit (.mk .lambda name loc ks) = [.push] ++ visitList ks ++ [.pop .lambda loc] := by
  simp only [visit]

theorem visit_case (name : Option α) (loc : Nat) (p b : Node α) :
    visit (.mk .case name loc [p, b]) = [.push] ++ (visit p ++ visit b) ++ [.pop .scoped loc] := by
  simp only [visit, List.append_assoc]

/-- `if let p = g { e1 } else e2`: the guard, then pattern and then-branch in a scope of their own, then the else
part. -/
theorem visit_ifGuard (name : Option α) (loc : Nat) (p g e1 e2 : Node α) :
    visit (.mk .ifGuard name loc [p, g, e1, e2])
      = visit g ++ ([.push] ++ (visit p ++ visit e1) ++ [.pop .discard 0]) ++ visit e2 := by
  simp only [visit, List.append_assoc]

theorem visit_induct {P : Node α → Prop} {Q : List (Node α) → Prop}
    (var : ∀ loc n ks, P (.mk .var (some n) loc ks))
    (ifGuard : ∀ loc name p g e1 e2, P g → P p → P e1 → P e2 → P (.mk .ifGuard name loc [p, g, e1, e2]))
    (decl : ∀ loc name p a e, P e → P a → P p → P (.mk .decl name loc [p, a, e]))
    (arm : ∀ loc name p b, P p → P b → P (.mk .case name loc [p, b]))
    (lambda : ∀ loc name ks, Q ks → P (.mk .lambda name loc ks))
    (param : ∀ loc n ks, Q ks → P (.mk .param (some n) loc ks))
    (block : ∀ loc name ks, Q ks → P (.mk .block name loc ks))
    (pId : ∀ loc n ks, P (.mk .pId (some n) loc ks))
    (pOr : ∀ loc name first rest, P first → P (.mk .pOr name loc (first :: rest)))
    (tyUse : ∀ loc n ks, Q ks → P (.mk .tyUse (some n) loc ks))
    (pass : ∀ loc tag name ks, passes tag name.isSome ks.length = true → Q ks → P (.mk tag name loc ks))
    (nil : Q []) (cons : ∀ k ks, P k → Q ks → Q (k :: ks)) (n : Node α) : P n := by
  refine visit.induct P Q var ifGuard decl arm lambda param block pId pOr tyUse ?_ nil cons n
  intro loc tag name ks h1 h2 h3 h4 h5 h6 h7 h8 h9 h10
  refine pass loc tag name ks ?_
  -- `h1 … h10`: none of the ten patterns of `visit` matched
  cases tag
  case seq => rfl
  case none => rfl
  case var => cases name; rfl; exact (h1 _ rfl rfl).elim
  case param => cases name; rfl; exact (h6 _ rfl rfl).elim
  case pId => cases name; rfl; exact (h8 _ rfl rfl).elim
  case tyUse => cases name; rfl; exact (h10 _ rfl rfl).elim
  case lambda => exact (h5 rfl).elim
  case block => exact (h7 rfl).elim
  case pOr => cases ks; rfl; exact (h9 _ _ rfl rfl).elim
  case ifGuard =>
    match ks with
    | [p, g, e1, e2] => exact (h2 _ _ _ _ rfl rfl).elim
    | [] | [_] | [_, _] | [_, _, _] | _ :: _ :: _ :: _ :: _ :: _ => rfl
  case decl =>
    match ks with
    | [p, g, e1] => exact (h3 _ _ _ rfl rfl).elim
    | [] | [_] | [_, _] | _ :: _ :: _ :: _ :: _ => rfl
  case case =>
    match ks with
    | [p, g] => exact (h4 _ _ rfl rfl).elim
    | [] | [_] | _ :: _ :: _ :: _ => rfl

end SamVerif.Scope
