import SamVerif.Lemmas.Lexer
/-! UTF-8 boundary lemmas: a valid `&str` may be cut before any byte that is not a continuation
byte, after an ASCII byte, and after a prefix of ASCII bytes; such a cut is a char boundary, so
`bump` does not panic there. `hasEmptyDoc_drop` at the end serves no proof: `hasEmptyDoc` says
that the text contains `/**/`, the four bytes on which the scanner panicked before fix c949025
(finding C05-F1, told in `Props/C05.lean` in front of `scan_total`). -/
namespace SamVerif.Lexer

theorem isCont_ge {b : UInt8} (h : isCont b = true) : 128 ≤ b.toNat ∧ b.toNat < 192 := by
  simpa [isCont] using h

theorem not_isCont_of_lt {b : UInt8} (h : b.toNat < 128) : isCont b = false := by
  simp [isCont]; omega

theorem not_isCont_of_ge {b : UInt8} (h : 192 ≤ b.toNat) : isCont b = false := by
  simp [isCont]; omega

theorem Valid.head_not_cont {b : UInt8} {r : Bytes} (h : Valid (b :: r)) : isCont b = false := by
  cases h with
  | one _ _ h0 => exact not_isCont_of_lt h0
  | two _ _ _ h0 => exact not_isCont_of_ge h0
  | three _ _ _ _ h0 => exact not_isCont_of_ge (by omega)
  | four _ _ _ _ _ h0 => exact not_isCont_of_ge (by omega)

theorem Valid.tail_of_ascii {b : UInt8} {r : Bytes} (h : Valid (b :: r)) (hb : b.toNat < 128) :
    Valid r := by
  cases h with
  | one _ _ _ hr => exact hr
  | two _ _ _ h1 => omega
  | three _ _ _ _ h1 => omega
  | four _ _ _ _ _ h1 => omega

/-- `bs[n]?` rather than `bs[n]`: the index steps below are then definitional. -/
theorem Valid.drop_of_not_cont {bs : Bytes} (h : Valid bs) :
    ∀ {n : Nat} {b : UInt8}, bs[n]? = some b → isCont b = false → Valid (bs.drop n) := by
  induction h with
  | nil => intro n b hb; cases hb
  | one b0 r h0 hr ih =>
    intro n b hb hc
    match n with
    | 0 => exact .one b0 r h0 hr
    | n + 1 => exact ih (n := n) hb hc
  | two b0 b1 r h0 h0' h1 hr ih =>
    intro n b hb hc
    match n with
    | 0 => exact .two b0 b1 r h0 h0' h1 hr
    | 1 => cases hb; rw [h1] at hc; cases hc
    | n + 2 => exact ih (n := n) hb hc
  | three b0 b1 b2 r h0 h0' h1 h2 hr ih =>
    intro n b hb hc
    match n with
    | 0 => exact .three b0 b1 b2 r h0 h0' h1 h2 hr
    | 1 => cases hb; rw [h1] at hc; cases hc
    | 2 => cases hb; rw [h2] at hc; cases hc
    | n + 3 => exact ih (n := n) hb hc
  | four b0 b1 b2 b3 r h0 h1 h2 h3 hr ih =>
    intro n b hb hc
    match n with
    | 0 => exact .four b0 b1 b2 b3 r h0 h1 h2 h3 hr
    | 1 => cases hb; rw [h1] at hc; cases hc
    | 2 => cases hb; rw [h2] at hc; cases hc
    | 3 => cases hb; rw [h3] at hc; cases hc
    | n + 4 => exact ih (n := n) hb hc

theorem Valid.drop_after_ascii {bs : Bytes} (h : Valid bs) {n : Nat} {b : UInt8}
    (hb : bs[n]? = some b) (ha : b.toNat < 128) : Valid (bs.drop (n + 1)) := by
  have h1 := h.drop_of_not_cont hb (not_isCont_of_lt ha)
  obtain ⟨hn, rfl⟩ := List.getElem?_eq_some_iff.mp hb
  rw [List.drop_eq_getElem_cons hn] at h1
  exact h1.tail_of_ascii ha

theorem Valid.drop_of_ascii {bs : Bytes} (h : Valid bs) {n : Nat}
    (ha : ∀ b ∈ bs.take n, b.toNat < 128) : Valid (bs.drop n) := by
  induction n generalizing bs with
  | zero => exact h
  | succ n ih =>
    cases bs with
    | nil => exact h
    | cons b r =>
      exact ih (h.tail_of_ascii (ha b (List.mem_cons_self ..)))
        (fun x hx => ha x (List.mem_cons_of_mem _ hx))

theorem Valid.drop_run_until {p : UInt8 → Bool} (hp : ∀ b, p b = false → isCont b = false)
    {bs : Bytes} (h : Valid bs) (e : Nat) : Valid (bs.drop (e + run p (bs.drop e))) := by
  rcases run_stop p (bs.drop e) with he | ⟨b, hb, hpb⟩
  · rw [he, ← List.drop_drop, List.drop_length]; exact .nil
  · rw [List.getElem?_drop] at hb
    exact h.drop_of_not_cont hb (hp b hpb)

theorem isBoundary_of_valid_drop {bs : Bytes} {n : Nat} (hn : n ≤ bs.length)
    (h : Valid (bs.drop n)) : isBoundary bs n = true := by
  unfold isBoundary
  by_cases h0 : n = 0
  · simp [h0]
  by_cases h1 : n = bs.length
  · simp [h1]
  have hlt : n < bs.length := by omega
  rw [List.drop_eq_getElem_cons hlt] at h
  simp [List.getElem?_eq_getElem hlt, h.head_not_cont]

theorem bump_of_valid_drop {bs : Bytes} {n : Nat} (hn : n ≤ bs.length)
    (h : Valid (bs.drop n)) : bump bs n = some (bs.drop n) := by
  simp [bump, isBoundary_of_valid_drop hn h]

theorem hasEmptyDoc_drop (bs : Bytes) (n : Nat) (h : hasEmptyDoc bs = false) :
    hasEmptyDoc (bs.drop n) = false := by
  induction n generalizing bs with
  | zero => simpa using h
  | succ n ih =>
    cases bs with
    | nil => simp [hasEmptyDoc]
    | cons a rest =>
      simp only [List.drop_succ_cons]
      apply ih
      simp only [hasEmptyDoc, Bool.or_eq_false_iff] at h
      exact h.2

end SamVerif.Lexer
