import SamVerif.Model.Source
/-! Consistent renaming of variables (SRC, for `alpha_invariant`): the renaming of patterns,
expressions, values, states, results and programs by a map `ρ` on names (`Res.ren f ρ` applies `f` to
the payload and `ρ` to the state), and the proof that every building block of the evaluator commutes
with it when `ρ` is injective and fixes `this`. For the evaluator itself that is `EvHom ρ ev ev'`:
`ev'` on renamed input gives the renamed result of `ev`; `step` carries it from the evaluators of
sub-expressions to the whole (`step_ren`), hence it holds of `eval` at every fuel (`eval_ren`). -/
namespace SamVerif.Source

mutual
def Pat.ren (ρ : String → String) : Pat → Pat
  | .wild => .wild
  | .var x => .var (ρ x)
  | .tuple ps => .tuple (Pat.renList ρ ps)
  | .obj idxs ps => .obj idxs (Pat.renList ρ ps)
  | .variant t ps => .variant t (Pat.renList ρ ps)
  | .or ps => .or (Pat.renList ρ ps)
def Pat.renList (ρ : String → String) : List Pat → List Pat
  | [] => []
  | p :: ps => Pat.ren ρ p :: Pat.renList ρ ps
end

mutual
def Expr.ren (ρ : String → String) : Expr → Expr
  | .int n => .int n
  | .bool b => .bool b
  | .str raw => .str raw
  | .var x => .var (ρ x)
  | .classId c => .classId c
  | .tuple c es => .tuple c (Expr.renList ρ es)
  | .field i e => .field i (Expr.ren ρ e)
  | .method r n e => .method r n (Expr.ren ρ e)
  | .unary op e => .unary op (Expr.ren ρ e)
  | .call f args => .call (Expr.ren ρ f) (Expr.renList ρ args)
  | .binary op a b => .binary op (Expr.ren ρ a) (Expr.ren ρ b)
  | .ite c a b => .ite (Expr.ren ρ c) (Expr.ren ρ a) (Expr.ren ρ b)
  | .iflet p e a b => .iflet (Pat.ren ρ p) (Expr.ren ρ e) (Expr.ren ρ a) (Expr.ren ρ b)
  | .match e cases => .match (Expr.ren ρ e) (Expr.renCases ρ cases)
  | .lam ps b => .lam (ps.map ρ) (Expr.ren ρ b)
  | .block stmts final => .block (Expr.renCases ρ stmts) (Expr.renOpt ρ final)
def Expr.renList (ρ : String → String) : List Expr → List Expr
  | [] => []
  | e :: es => Expr.ren ρ e :: Expr.renList ρ es
def Expr.renCases (ρ : String → String) : List (Pat × Expr) → List (Pat × Expr)
  | [] => []
  | c :: rest => Expr.renCase ρ c :: Expr.renCases ρ rest
def Expr.renCase (ρ : String → String) : Pat × Expr → Pat × Expr
  | (p, e) => (Pat.ren ρ p, Expr.ren ρ e)
def Expr.renOpt (ρ : String → String) : Option Expr → Option Expr
  | none => none
  | some e => some (Expr.ren ρ e)
end

mutual
def Val.ren (ρ : String → String) : Val → Val
  | .int n => .int n
  | .bool b => .bool b
  | .str s => .str s
  | .unit => .unit
  | .obj c t fs => .obj c t (Val.renList ρ fs)
  | .clo ps b env => .clo (ps.map ρ) (Expr.ren ρ b) (Val.renEnv ρ env)
  | .mref c n self => .mref c n (Val.ren ρ self)
  | .vec a => .vec a
  | .cls c => .cls c
def Val.renList (ρ : String → String) : List Val → List Val
  | [] => []
  | v :: vs => Val.ren ρ v :: Val.renList ρ vs
def Val.renEnv (ρ : String → String) : List (String × Val) → List (String × Val)
  | [] => []
  | b :: rest => Val.renBind ρ b :: Val.renEnv ρ rest
def Val.renBind (ρ : String → String) : String × Val → String × Val
  | (x, v) => (ρ x, Val.ren ρ v)
end

def MemberDef.ren (ρ : String → String) (m : MemberDef) : MemberDef :=
  { m with params := m.params.map ρ, body := Expr.ren ρ m.body }

def ClassDef.ren (ρ : String → String) (c : ClassDef) : ClassDef :=
  { c with members := c.members.map (MemberDef.ren ρ) }

/-- every parameter and every local variable of every member renamed by `ρ` -/
def Program.ren (ρ : String → String) (P : Program) : Program :=
  ⟨fun c => (P.classOf c).map (ClassDef.ren ρ)⟩

def St.ren (ρ : String → String) (s : St) : St :=
  { s with vecs := s.vecs.map (fun a => a.map (Val.ren ρ)) }

def Res.ren {α : Type} (f : α → α) (ρ : String → String) : Res α → Res α
  | .ok a s => .ok (f a) (s.ren ρ)
  | .panic m s => .panic m (s.ren ρ)
  | .trap k s => .trap k (s.ren ρ)
  | .oof => .oof

def EvHom (ρ : String → String) (ev ev' : Ev) : Prop :=
  ∀ env s e, ev' (Val.renEnv ρ env) (s.ren ρ) (Expr.ren ρ e) = (ev env s e).ren (Val.ren ρ) ρ

@[simp] theorem St.ren_out (ρ : String → String) (s : St) : (s.ren ρ).out = s.out := rfl
@[simp] theorem St.ren_flags (ρ : String → String) (s : St) : (s.ren ρ).flags = s.flags := rfl
@[simp] theorem St.ren_flagOvf (ρ : String → String) (s : St) : s.flagOvf.ren ρ = (s.ren ρ).flagOvf := rfl
@[simp] theorem St.ren_flagRefeq (ρ : String → String) (s : St) : s.flagRefeq.ren ρ = (s.ren ρ).flagRefeq := rfl
@[simp] theorem St.ren_flagNegdiv (ρ : String → String) (s : St) : s.flagNegdiv.ren ρ = (s.ren ρ).flagNegdiv := rfl
@[simp] theorem St.ren_flagVec31 (ρ : String → String) (s : St) : s.flagVec31.ren ρ = (s.ren ρ).flagVec31 := rfl
@[simp] theorem St.ren_flagCap (ρ : String → String) (s : St) : s.flagCap.ren ρ = (s.ren ρ).flagCap := rfl
@[simp] theorem St.ren_flagToint (ρ : String → String) (s : St) : s.flagToint.ren ρ = (s.ren ρ).flagToint := rfl
@[simp] theorem St.ren_vecs_size (ρ : String → String) (s : St) : (s.ren ρ).vecs.size = s.vecs.size := by
  simp [St.ren]

theorem Val.renList_eq_map (ρ : String → String) (vs : List Val) :
    Val.renList ρ vs = vs.map (Val.ren ρ) := by
  induction vs with
  | nil => rfl
  | cons v vs ih => simp [Val.renList, ih]

theorem Val.renEnv_append (ρ : String → String) (b env : Env) :
    Val.renEnv ρ (b ++ env) = Val.renEnv ρ b ++ Val.renEnv ρ env := by
  induction b with
  | nil => rfl
  | cons x b ih => simp [Val.renEnv, ih]

theorem Val.renList_getElem? (ρ : String → String) (vs : List Val) (i : Nat) :
    (Val.renList ρ vs)[i]? = (vs[i]?).map (Val.ren ρ) := by
  simp [Val.renList_eq_map]

theorem lookup_ren {ρ : String → String} (hinj : ∀ a b, ρ a = ρ b → a = b) (x : String) (env : Env) :
    lookup (ρ x) (Val.renEnv ρ env) = (lookup x env).map (Val.ren ρ) := by
  induction env with
  | nil => rfl
  | cons b env ih =>
    obtain ⟨y, v⟩ := b
    simp only [Val.renEnv, Val.renBind, lookup]
    by_cases h : x = y
    · subst h; simp
    · have h' : ρ x ≠ ρ y := fun e => h (hinj _ _ e)
      simp [h, h', ih]

theorem bindParams_ren (ρ : String → String) (ps : List String) (vs : List Val) :
    bindParams (ps.map ρ) (Val.renList ρ vs) = Val.renEnv ρ (bindParams ps vs) := by
  induction ps generalizing vs with
  | nil => simp [bindParams, Val.renEnv]
  | cons p ps ih =>
    cases vs with
    | nil => simp [bindParams, Val.renList, Val.renEnv]
    | cons v vs => simp [bindParams, Val.renList, Val.renEnv, Val.renBind, ih]

mutual
theorem matchPat_ren (ρ : String → String) : ∀ (p : Pat) (v : Val),
    matchPat (Pat.ren ρ p) (Val.ren ρ v) = (matchPat p v).map (Val.renEnv ρ)
  | .wild, v => rfl
  | .var x, v => rfl
  | .tuple ps, v => by
    cases v with
    | obj c t fs => exact matchPats_ren ρ ps fs
    | _ => rfl
  | .obj idxs ps, v => by
    cases v with
    | obj c t fs => exact matchFields_ren ρ idxs ps fs
    | _ => rfl
  | .variant t ps, v => by
    cases v with
    | obj c t' fs =>
      simp only [Pat.ren, Val.ren, matchPat]
      split
      · exact matchPats_ren ρ ps fs
      · rfl
    | _ => rfl
  | .or ps, v => matchAlts_ren ρ ps v
theorem matchPats_ren (ρ : String → String) : ∀ (ps : List Pat) (vs : List Val),
    matchPats (Pat.renList ρ ps) (Val.renList ρ vs) = (matchPats ps vs).map (Val.renEnv ρ)
  | [], vs => rfl
  | p :: ps, [] => rfl
  | p :: ps, v :: vs => by
    simp only [Pat.renList, Val.renList, matchPats, matchPat_ren ρ p v, matchPats_ren ρ ps vs]
    cases matchPat p v with
    | none => rfl
    | some b =>
      cases matchPats ps vs with
      | none => rfl
      | some bs => exact congrArg some (Val.renEnv_append ρ bs b).symm
theorem matchFields_ren (ρ : String → String) : ∀ (idxs : List Nat) (ps : List Pat) (fs : List Val),
    matchFields idxs (Pat.renList ρ ps) (Val.renList ρ fs) =
      (matchFields idxs ps fs).map (Val.renEnv ρ)
  | [], ps, fs => by cases ps <;> rfl
  | i :: idxs, [], fs => rfl
  | i :: idxs, p :: ps, fs => by
    simp only [Pat.renList, matchFields, Val.renList_getElem?]
    cases fs[i]? with
    | none => rfl
    | some v =>
      simp only [Option.map_some, matchPat_ren ρ p v, matchFields_ren ρ idxs ps fs]
      cases matchPat p v with
      | none => rfl
      | some b =>
        cases matchFields idxs ps fs with
        | none => rfl
        | some bs => exact congrArg some (Val.renEnv_append ρ bs b).symm
theorem matchAlts_ren (ρ : String → String) : ∀ (ps : List Pat) (v : Val),
    matchAlts (Pat.renList ρ ps) (Val.ren ρ v) = (matchAlts ps v).map (Val.renEnv ρ)
  | [], v => rfl
  | p :: ps, v => by
    simp only [Pat.renList, matchAlts, matchPat_ren ρ p v]
    cases matchPat p v with
    | none => exact matchAlts_ren ρ ps v
    | some b => rfl
end

theorem bind_ren {α β : Type} {ρ : String → String} {f : α → α} {g : β → β} {r : Res α}
    {k k' : α → St → Res β} (hk : ∀ a s, k' (f a) (s.ren ρ) = (k a s).ren g ρ) :
    (r.ren f ρ).bind k' = (r.bind k).ren g ρ := by
  cases r with
  | ok a s => exact hk a s
  | _ => rfl

theorem isPrim_ren (ρ : String → String) (v : Val) : isPrim (Val.ren ρ v) = isPrim v := by
  cases v <;> rfl

theorem Val.ren_prim (ρ : String → String) {v : Val} (h : isPrim v = true) : Val.ren ρ v = v := by
  cases v with
  | int _ | bool _ | str _ | unit => rfl
  | _ => cases h

mutual
theorem valEq_ren (ρ : String → String) : ∀ (a b : Val),
    valEq (Val.ren ρ a) (Val.ren ρ b) = valEq a b
  | .obj c t fs, b => by
    cases b with
    | obj c' t' fs' => simp only [Val.ren, valEq, valEqList_ren ρ fs fs']
    | _ => rfl
  | .int _, b | .bool _, b | .str _, b | .unit, b | .vec _, b | .cls _, b => by cases b <;> rfl
  | .clo _ _ _, _ | .mref _ _ _, _ => rfl
theorem valEqList_ren (ρ : String → String) : ∀ (as bs : List Val),
    valEqList (Val.renList ρ as) (Val.renList ρ bs) = valEqList as bs
  | [], bs => by cases bs <;> rfl
  | a :: as, [] => rfl
  | a :: as, b :: bs => by
    simp only [Val.renList, valEqList, valEq_ren ρ a b, valEqList_ren ρ as bs]
end

theorem eqOp_ren_args (ρ : String → String) (a b : Val) (s : St) :
    eqOp (Val.ren ρ a) (Val.ren ρ b) s = eqOp a b s := by
  simp only [eqOp, valEq_ren, isPrim_ren]

theorem eqOp_st_ren (ρ : String → String) (a b : Val) (s : St) :
    eqOp a b (s.ren ρ) = ((eqOp a b s).1, (eqOp a b s).2.ren ρ) := by
  simp only [eqOp]
  split <;> rfl

theorem arith_ren (ρ : String → String) (r : Int) (s : St) :
    arith r (s.ren ρ) = (arith r s).ren (Val.ren ρ) ρ := by
  simp only [arith]
  split <;> rfl

theorem stuck_ren (ρ : String → String) (f : Val → Val) (w : String) (s : St) :
    (stuck w (s.ren ρ) : Res Val) = (stuck w s : Res Val).ren f ρ := rfl

theorem unop_ren (ρ : String → String) (op : UnOp) (v : Val) (s : St) :
    unop op (Val.ren ρ v) (s.ren ρ) = (unop op v s).ren (Val.ren ρ) ρ := by
  cases op with
  | not => cases v <;> rfl
  | neg =>
    cases v with
    | int n => exact arith_ren ρ _ s
    | _ => rfl

theorem binop_nonprim {op : BinOp} {a b : Val} (hop : ¬(op = .eq ∨ op = .ne))
    (h : (isPrim a && isPrim b) = false) (s : St) : binop op a b s = stuck "binary" s := by
  unfold binop
  split
  case h_10 => exact absurd (.inl rfl) hop  -- `==`
  case h_11 => exact absurd (.inr rfl) hop  -- `!=`
  case h_13 => rfl                          -- no arm applies
  -- the arithmetic, comparison and `::` arms: both operands are `int`s or both `Str`s, so primitive
  all_goals cases h

/-- `binop` does not see the renaming of its operands: primitive ones are not changed by it, and
of the others only `==`/`!=` take notice, through `valEq` and `isPrim` -/
theorem binop_ren_args (ρ : String → String) (op : BinOp) (a b : Val) (s : St) :
    binop op (Val.ren ρ a) (Val.ren ρ b) s = binop op a b s := by
  cases hp : isPrim a && isPrim b
  · by_cases hop : op = .eq ∨ op = .ne
    · rcases hop with rfl | rfl <;> simp only [binop, eqOp_ren_args]
    · rw [binop_nonprim hop hp, binop_nonprim hop (by rw [isPrim_ren, isPrim_ren, hp])]
  · rw [Bool.and_eq_true] at hp
    rw [Val.ren_prim ρ hp.1, Val.ren_prim ρ hp.2]

/-- on fixed operands `binop` only sets flags, and its results are primitive -/
theorem binop_st_ren (ρ : String → String) (op : BinOp) (a b : Val) (s : St) :
    binop op a b (s.ren ρ) = (binop op a b s).ren (Val.ren ρ) ρ := by
  unfold binop
  -- both sides split together, since they share `op a b`; the arms in `binop`'s order
  split
  · exact arith_ren ρ _ s  -- `*`
  · exact arith_ren ρ _ s  -- `+`
  · exact arith_ren ρ _ s  -- `-`
  · split                  -- `/`: by zero, or with the quotient flagged or not
    · rfl
    · split
      · exact arith_ren ρ _ s.flagNegdiv
      · exact arith_ren ρ _ s
  · split                  -- `%`: by zero, or not
    · rfl
    · exact arith_ren ρ _ s
  · rfl                    -- `<`
  · rfl                    -- `<=`
  · rfl                    -- `>`
  · rfl                    -- `>=`
  · rw [eqOp_st_ren]; rfl  -- `==`
  · rw [eqOp_st_ren]; rfl  -- `!=`
  · rfl                    -- `::`
  · rfl                    -- no arm applies: stuck

theorem binop_ren (ρ : String → String) (op : BinOp) (a b : Val) (s : St) :
    binop op (Val.ren ρ a) (Val.ren ρ b) (s.ren ρ) = (binop op a b s).ren (Val.ren ρ) ρ := by
  rw [binop_ren_args, binop_st_ren]

theorem vecGet_ren (ρ : String → String) (s : St) (a : Nat) :
    (s.ren ρ).vecGet a = (s.vecGet a).map (Val.ren ρ) := by
  simp only [St.vecGet, St.ren, Array.getElem?_map]
  cases s.vecs[a]? <;> simp

theorem vecAlloc_ren (ρ : String → String) (s : St) (arr : Array Val) :
    (s.ren ρ).vecAlloc (arr.map (Val.ren ρ)) = (s.vecAlloc arr).ren (Val.ren ρ) ρ := by
  simp [St.vecAlloc, Res.ren, Val.ren, St.ren]

theorem vecSet_ren (ρ : String → String) (s : St) (a : Nat) (arr : Array Val) :
    (s.ren ρ).vecSet a (arr.map (Val.ren ρ)) = (s.vecSet a arr).ren ρ := by
  simp [St.vecSet, St.ren]

theorem flagElem_ren (ρ : String → String) (v : Val) (s : St) :
    flagElem (Val.ren ρ v) (s.ren ρ) = (flagElem v s).ren ρ := by
  cases v with
  | int n =>
    simp only [flagElem, Val.ren]
    split <;> rfl
  | _ => rfl

theorem vecElemsEq_ren (ρ : String → String) : ∀ (xs ys : List Val) (s : St),
    vecElemsEq (xs.map (Val.ren ρ)) (ys.map (Val.ren ρ)) (s.ren ρ) =
      ((vecElemsEq xs ys s).1, (vecElemsEq xs ys s).2.ren ρ)
  | [], [], s => rfl
  | [], _ :: _, s => rfl
  | _ :: _, [], s => rfl
  | x :: xs, y :: ys, s => by
    simp only [List.map_cons, vecElemsEq, eqOp_ren_args, eqOp_st_ren]
    split
    · exact vecElemsEq_ren ρ xs ys _
    · rfl

/-- By the decision tree of `runBuiltin`'s match: only the positions a builtin dispatches on are
split, in the order the match inspects them; a shape it does not accept is stuck on both sides. -/
theorem runBuiltin_ren (ρ : String → String) (b : Builtin) (self : Val) (args : List Val) (s : St) :
    runBuiltin b (Val.ren ρ self) (Val.renList ρ args) (s.ren ρ) =
      (runBuiltin b self args s).ren (Val.ren ρ) ρ := by
  cases b
  case println | panic | fromInt =>
    rcases args with _ | ⟨a, rest⟩
    · rfl
    · cases a with
      | str _ | int _ => cases rest <;> rfl
      | _ => rfl
  case toInt =>
    cases self with
    | str x =>
      cases args
      · simp only [runBuiltin, Val.ren, Val.renList]
        split <;> rfl
      · rfl
    | _ => rfl
  case vEmpty =>
    cases args
    · simpa [runBuiltin, Val.renList] using vecAlloc_ren ρ s #[]
    · rfl
  case vOf =>
    rcases args with _ | ⟨a, _ | _⟩
    · rfl
    · simpa [runBuiltin, Val.renList, flagElem_ren] using vecAlloc_ren ρ (flagElem a s) #[a]
    · rfl
  case vWithCapacity =>
    rcases args with _ | ⟨a, rest⟩
    · rfl
    · cases a with
      | int n =>
        cases rest
        · simp only [runBuiltin, Val.renList, Val.ren]
          split
          · simpa using vecAlloc_ren ρ s.flagCap #[]
          · simpa using vecAlloc_ren ρ s #[]
        · rfl
      | _ => rfl
  case vLength | vCapacity =>
    cases self with
    | vec a =>
      cases args
      · simp only [runBuiltin, Val.ren, Val.renList, vecGet_ren, Array.size_map]; rfl
      · rfl
    | _ => rfl
  case vReserve =>
    cases self with
    | vec a =>
      rcases args with _ | ⟨n, rest⟩
      · rfl
      · cases n with
        | int n => cases rest <;> rfl
        | _ => rfl
    | _ => rfl
  case vPush =>
    cases self with
    | vec a =>
      rcases args with _ | ⟨v, _ | _⟩
      · rfl
      · simp only [runBuiltin, Val.ren, Val.renList, flagElem_ren, vecGet_ren, Res.ren]
        rw [← Array.map_push, vecSet_ren]
      · rfl
    | _ => rfl
  case vPop =>
    cases self with
    | vec a =>
      cases args
      · simp only [runBuiltin, Val.ren, Val.renList, vecGet_ren, Array.back?_map]
        cases (s.vecGet a).back? with
        | none => rfl
        | some v =>
          simp only [Option.map_some, Res.ren]
          rw [← Array.map_pop, vecSet_ren]
      · rfl
    | _ => rfl
  case vGet =>
    cases self with
    | vec a =>
      rcases args with _ | ⟨i, rest⟩
      · rfl
      · cases i with
        | int i =>
          cases rest
          · simp only [runBuiltin, Val.ren, Val.renList, vecGet_ren, Array.getElem?_map]
            split
            · rfl
            · cases (s.vecGet a)[i.toNat]? <;> rfl
          · rfl
        | _ => rfl
    | _ => rfl
  case vSet =>
    cases self with
    | vec a =>
      rcases args with _ | ⟨i, rest⟩
      · rfl
      · cases i with
        | int i =>
          rcases rest with _ | ⟨v, _ | _⟩
          · rfl
          · simp only [runBuiltin, Val.ren, Val.renList, vecGet_ren, flagElem_ren, Array.size_map]
            split
            · rfl
            · simp only [Res.ren]
              rw [← Array.map_setIfInBounds, vecSet_ren]
              rfl
          · rfl
        | _ => rfl
    | _ => rfl
  case vEq =>
    cases self with
    | vec a =>
      rcases args with _ | ⟨b, rest⟩
      · rfl
      · cases b with
        | vec b =>
          cases rest
          · simp only [runBuiltin, Val.ren, Val.renList, vecGet_ren, Array.size_map, Array.toList_map,
              vecElemsEq_ren]
            split
            · rfl
            · split <;> rfl
          · rfl
        | _ => rfl
    | _ => rfl

theorem builtin_ren (ρ : String → String) (cls name : String) (self : Val) (args : List Val) (s : St) :
    builtin cls name (Val.ren ρ self) (Val.renList ρ args) (s.ren ρ) =
      (builtin cls name self args s).ren (Val.ren ρ) ρ := by
  simp only [builtin]
  cases builtinOf cls name with
  | none => rfl
  | some b => exact runBuiltin_ren ρ b self args s

theorem classOfVal_ren (ρ : String → String) (v : Val) : classOfVal (Val.ren ρ v) = classOfVal v := by
  cases v <;> rfl

theorem resolveCls_ren (ρ : String → String) (P : Program) (r : Recv) (v : Val) :
    resolveCls (P.ren ρ) r (Val.ren ρ v) = resolveCls P r v := by
  cases r <;> simp [resolveCls, Program.ren, classOfVal_ren]

theorem findMember_ren (ρ : String → String) (name : String) (ms : List MemberDef) :
    findMember name (ms.map (MemberDef.ren ρ)) = (findMember name ms).map (MemberDef.ren ρ) := by
  induction ms with
  | nil => rfl
  | cons m ms ih =>
    simp only [List.map_cons, findMember]
    have : (MemberDef.ren ρ m).name = m.name := rfl
    rw [this]
    split
    · rfl
    · exact ih

theorem invoke_ren {ρ : String → String} (hthis : ρ "this" = "this") (P : Program) {ev ev' : Ev}
    (h : EvHom ρ ev ev') (cls name : String) (self : Val) (args : List Val) (s : St) :
    invoke (P.ren ρ) ev' cls name (Val.ren ρ self) (Val.renList ρ args) (s.ren ρ) =
      (invoke P ev cls name self args s).ren (Val.ren ρ) ρ := by
  unfold invoke
  split
  · exact builtin_ren ρ cls name self args s
  · simp only [Program.ren]
    cases P.classOf cls with
    | none => rfl
    | some c =>
      simp only [Option.map_some, ClassDef.ren, findMember_ren]
      cases findMember name c.members with
      | some m =>
        simp only [Option.map_some, MemberDef.ren]
        rw [← h]
        congr 1
        rw [Val.renEnv_append, bindParams_ren]
        cases m.isMethod <;> simp [Val.renEnv, Val.renBind, hthis]
      | none =>
        simp only [Option.map_none]
        cases c.td with
        | struct fs =>
          simp only
          split <;> rfl
        | enum vs =>
          simp only
          cases findVariant name vs 0 <;> rfl
        | none => rfl

theorem applyVal_ren {ρ : String → String} (hthis : ρ "this" = "this") (P : Program) {ev ev' : Ev}
    (h : EvHom ρ ev ev') (f : Val) (args : List Val) (s : St) :
    applyVal (P.ren ρ) ev' (Val.ren ρ f) (Val.renList ρ args) (s.ren ρ) =
      (applyVal P ev f args s).ren (Val.ren ρ) ρ := by
  cases f with
  | clo ps body cenv =>
    simp only [applyVal, Val.ren]
    rw [← h, Val.renEnv_append, bindParams_ren]
  | mref cls name self => exact invoke_ren hthis P h _ _ _ _ _
  | _ => rfl

theorem EvHom.bind {ρ : String → String} {ev ev' : Ev} (h : EvHom ρ ev ev') {β : Type} {g : β → β}
    (env : Env) (s : St) (e : Expr) {k k' : Val → St → Res β}
    (hk : ∀ v s, k' (Val.ren ρ v) (s.ren ρ) = (k v s).ren g ρ) :
    (ev' (Val.renEnv ρ env) (s.ren ρ) (Expr.ren ρ e)).bind k' = ((ev env s e).bind k).ren g ρ := by
  rw [h]
  exact bind_ren hk

theorem evalList_ren {ρ : String → String} {ev ev' : Ev} (h : EvHom ρ ev ev') (env : Env) :
    ∀ (es : List Expr) (s : St),
      evalList ev' (Val.renEnv ρ env) (s.ren ρ) (Expr.renList ρ es) =
        (evalList ev env s es).ren (Val.renList ρ) ρ
  | [], s => rfl
  | e :: es, s => h.bind env s e fun v s1 => by
    rw [evalList_ren h env es s1]
    exact bind_ren fun vs s2 => rfl

theorem evalStmts_ren {ρ : String → String} {ev ev' : Ev} (h : EvHom ρ ev ev') :
    ∀ (stmts : List (Pat × Expr)) (env : Env) (s : St),
      evalStmts ev' (Val.renEnv ρ env) (s.ren ρ) (Expr.renCases ρ stmts) =
        (evalStmts ev env s stmts).ren (Val.renEnv ρ) ρ
  | [], env, s => rfl
  | (p, e) :: rest, env, s => h.bind env s e fun v s1 => by
    rw [matchPat_ren]
    cases matchPat p v with
    | none => rfl
    | some b =>
      simp only [Option.map_some, ← Val.renEnv_append]
      exact evalStmts_ren h rest _ _

theorem evalCases_ren {ρ : String → String} {ev ev' : Ev} (h : EvHom ρ ev ev') (env : Env) (s : St)
    (v : Val) : ∀ (cases : List (Pat × Expr)),
      evalCases ev' (Val.renEnv ρ env) (s.ren ρ) (Val.ren ρ v) (Expr.renCases ρ cases) =
        (evalCases ev env s v cases).ren (Val.ren ρ) ρ
  | [] => rfl
  | (p, body) :: rest => by
    simp only [Expr.renCases, Expr.renCase, evalCases, matchPat_ren]
    cases matchPat p v with
    | none => exact evalCases_ren h env s v rest
    | some b =>
      simp only [Option.map_some, ← Val.renEnv_append]
      exact h _ _ _

theorem step_ren {ρ : String → String} (hinj : ∀ a b, ρ a = ρ b → a = b) (hthis : ρ "this" = "this")
    (P : Program) {ev ev' : Ev} (h : EvHom ρ ev ev') : EvHom ρ (step P ev) (step (P.ren ρ) ev') := by
  intro env s e
  cases e with
  | int n => rfl
  | bool b => rfl
  | str raw => rfl
  | var x =>
    simp only [Expr.ren, step, lookup_ren hinj]
    cases lookup x env <;> rfl
  | classId c => rfl
  | tuple c es =>
    simp only [Expr.ren, step, evalList_ren h]
    exact bind_ren fun vs s1 => rfl
  | field i e =>
    refine h.bind env s e fun v s1 => ?_
    cases v with
    | obj c t fs =>
      simp only [Val.ren, Val.renList_getElem?]
      cases fs[i]? <;> rfl
    | _ => rfl
  | method r name o =>
    refine h.bind env s o fun v s1 => ?_
    simp only [resolveCls_ren]
    rfl
  | unary op e => exact h.bind env s e fun v s1 => unop_ren ρ op v s1
  | call f args =>
    refine h.bind env s f fun fv s1 => ?_
    rw [evalList_ren h]
    exact bind_ren fun vs s2 => applyVal_ren hthis P h fv vs s2
  | binary op e1 e2 =>
    simp only [Expr.ren, step]
    split
    · refine h.bind env s e1 fun a s1 => ?_
      cases a with
      | bool b =>
        cases b with
        | false => rfl
        | true => exact h.bind env s1 e2 fun b s2 => by cases b <;> rfl
      | _ => rfl
    -- `||`: as `&&`, with the other value of the left operand ending the evaluation
    · refine h.bind env s e1 fun a s1 => ?_
      cases a with
      | bool b =>
        cases b with
        | true => rfl
        | false => exact h.bind env s1 e2 fun b s2 => by cases b <;> rfl
      | _ => rfl
    · exact h.bind env s e1 fun a s1 => h.bind env s1 e2 fun b s2 => binop_ren ρ _ a b s2
  | ite c e1 e2 =>
    refine h.bind env s c fun v s1 => ?_
    cases v with
    | bool b => cases b <;> exact h _ _ _
    | _ => rfl
  | iflet p e e1 e2 =>
    refine h.bind env s e fun v s1 => ?_
    rw [matchPat_ren]
    cases matchPat p v with
    | none => exact h _ _ _
    | some b =>
      simp only [Option.map_some, ← Val.renEnv_append]
      exact h _ _ _
  | «match» e cases => exact h.bind env s e fun v s1 => evalCases_ren h env s1 v cases
  | lam ps body => rfl
  | block stmts final =>
    simp only [Expr.ren, step, evalStmts_ren h]
    refine bind_ren fun env' s1 => ?_
    cases final with
    | none => rfl
    | some e => exact h _ _ _

theorem eval_ren {ρ : String → String} (hinj : ∀ a b, ρ a = ρ b → a = b) (hthis : ρ "this" = "this")
    (P : Program) : ∀ n, EvHom ρ (eval P n) (eval (P.ren ρ) n)
  | 0 => fun _ _ _ => rfl
  | n + 1 => step_ren hinj hthis P (eval_ren hinj hthis P n)

theorem outcomeOf_ren (ρ : String → String) (r : Res Val) :
    outcomeOf (r.ren (Val.ren ρ) ρ) = outcomeOf r := by
  cases r <;> rfl

end SamVerif.Source
