import SamVerif.Model.ExprDoc
import SamVerif.Lemmas.Doc
/-! Lemmas for the expression-document part of `Props/C09.lean`: every piece of `create_doc`
`Prints` the items its counterpart in `printA` lists. -/
namespace SamVerif.ExprDoc
open SamVerif.Doc
open SamVerif.Imports (commentsDoc commentsDocGrouped optPreceding commentDocs commaSep)
open SamVerif.CommentQueue (Comment Kind)

/-- Non-whitespace characters of a printed item sequence. -/
def items (xs : List Item) : Str := xs.flatMap itemChars

theorem items_append (a b : List Item) : items (a ++ b) = items a ++ items b :=
  List.flatMap_append

theorem items_comments (cs : List Comment) : items (cs.map .comment) = cs.flatMap commentChars :=
  List.flatMap_map ..

/-- `d` prints the items `xs`: whatever layout is chosen, its content under `commentKey` is the
non-whitespace text of `xs`. -/
def Prints (d : Doc) (xs : List Item) : Prop := Reads commentKey d (items xs)

section
variable {d a b : Doc} {xs ys : List Item}

theorem Prints.cast (h : Prints d xs) (e : xs = ys) : Prints d ys := e ▸ h
theorem Prints.nil : Prints .nil [] := Reads.nil
theorem Prints.line : Prints .line [] := Reads.line
theorem Prints.lineHard : Prints .lineHard [] := Reads.lineHard
theorem Prints.space : Prints (.text [' ']) [] := (Reads.text _).cast commentKey_space
theorem Prints.name (s : Str) : Prints (.nstext s) [.tok s] :=
  (Reads.nstext s).cast (List.append_nil _).symm

/-- `s.length ≠ 3`: no token is as long as a comment leader, which `commentKey` skips. -/
theorem Prints.tok {s : Str} (h : s.length ≠ 3) : Prints (.text s) [.tok s] :=
  (Reads.text s).cast ((commentKey_text h).trans (List.append_nil _).symm)

theorem Prints.concat (ha : Prints a xs) (hb : Prints b ys) : Prints (.concat a b) (xs ++ ys) :=
  (Reads.concat ha hb).cast (items_append xs ys).symm

theorem Prints.group (h : Prints d xs) : Prints (group d) xs := Reads.group commentKey_space h

theorem Prints.ite {c : Prop} [Decidable c] (ha : Prints a xs) (hb : Prints b ys) :
    Prints (if c then a else b) (if c then xs else ys) := by
  split <;> assumption

theorem Prints.paren (h : Prints d xs) : Prints (parenDoc d) (wrapP true xs) := by
  have hl : commentKey.text ['('] = items [.tok ['(']] := by decide
  have hr : commentKey.text [')'] = items [.tok [')']] := by decide
  refine (Reads.bracketFlexible commentKey_space _ _ .lineNil h).cast ?_
  rw [hl, hr, List.nil_append, List.append_nil, ← items_append, ← items_append]
  rfl

/-- `create_doc_for_subexpression_considering_precedence_level`. -/
theorem Prints.sub (c : Prop) [Decidable c] (h : Prints d xs) :
    Prints (if c then parenDoc d else d) (wrapP (decide c) xs) := by
  by_cases hc : c
  · rw [if_pos hc, decide_eq_true hc]; exact h.paren
  · rw [if_neg hc, decide_eq_false hc]; exact h

end

/-- `Prints`, document by document (the arguments of a call against their item lists). -/
inductive PrintsAll : List Doc → List (List Item) → Prop
  | nil : PrintsAll [] []
  | cons {d xs ds xss} : Prints d xs → PrintsAll ds xss → PrintsAll (d :: ds) (xs :: xss)

theorem PrintsAll.spec {ds : List Doc} {xss : List (List Item)} (h : PrintsAll ds xss) :
    (∀ d ∈ ds, Agree commentKey d) ∧ ds.map (val commentKey) = xss.map items := by
  induction h with
  | nil => exact ⟨fun _ h => (nomatch h), rfl⟩
  | cons hd _ ih =>
    exact ⟨List.forall_mem_cons.mpr ⟨hd.1, ih.1⟩, by rw [List.map_cons, List.map_cons, hd.2, ih.2]⟩

theorem commentDocs_ok (c : Comment) : ReadsL commentKey (commentDocs c) (commentChars c) := by
  obtain ⟨k, t⟩ := c
  cases k
  · exact (ReadsL.cons (lineComment_ok t) (.one .lineHard)).cast (List.append_nil _)
  · exact (ReadsL.cons (multilineComment_ok _ t) (.one .line)).cast (List.append_nil _)
  · exact (ReadsL.cons (multilineComment_ok _ t) (.one .line)).cast (List.append_nil _)

/-- The common shape of the three modes of `associated_comments_doc` (33-80), each of which unfolds
to it; `F` is what the mode does to the concatenated comment documents. -/
def commentsDocWith (F : Doc → Doc) (cs : List Comment) (addFinal : Bool) : Option Doc :=
  let docs := cs.flatMap commentDocs
  if docs.isEmpty then none else
  let soft := decide (docs.getLast? = some .line)
  let main := F (concatV (if soft then docs.dropLast else docs))
  some (if addFinal && soft then .concat main .line else main)

/-- What `associated_comments_doc` returns: nothing for no comments, else a document that prints
them. -/
inductive CommentsDocOk : Option Doc → List Comment → Prop
  | none : CommentsDocOk none []
  | some {d c cs} : Prints d ((c :: cs).map .comment) → CommentsDocOk (some d) (c :: cs)

theorem commentsDocWith_ok {F : Doc → Doc} (hF : ∀ {d xs}, Prints d xs → Prints (F d) xs)
    (cs : List Comment) (b : Bool) : CommentsDocOk (commentsDocWith F cs b) cs := by
  cases cs with
  | nil => exact .none
  | cons c cs =>
    have hne : ((c :: cs).flatMap commentDocs).isEmpty = false := by
      obtain ⟨k, t⟩ := c; cases k <;> rfl
    have hl : ReadsL commentKey ((c :: cs).flatMap commentDocs) (items ((c :: cs).map .comment)) :=
      (ReadsL.flatMap _ fun c _ => commentDocs_ok c).cast (items_comments _).symm
    unfold commentsDocWith
    generalize (c :: cs).flatMap commentDocs = docs at hne hl
    simp only [hne, Bool.false_eq_true, if_false]
    refine .some ?_
    have hm : Prints (F (concatV (if decide (docs.getLast? = some .line) = true then docs.dropLast else docs)))
        ((c :: cs).map .comment) := by
      refine hF (ReadsL.concatV ?_)
      split
      · rename_i hd
        exact hl.dropLast fun x hx => by rw [of_decide_eq_true hd] at hx; cases hx; rfl
      · exact hl
    show Prints (if _ then _ else _) _
    split
    · exact (hm.concat .line).cast (List.append_nil _)
    · exact hm

theorem commentsDoc_ok (cs : List Comment) (b : Bool) : CommentsDocOk (commentsDoc cs b) cs :=
  commentsDocWith_ok id cs b

theorem commentsDocGrouped_ok (cs : List Comment) (b : Bool) :
    CommentsDocOk (commentsDocGrouped cs b) cs :=
  commentsDocWith_ok Prints.group cs b

theorem commentsDocFlattened_ok (cs : List Comment) (b : Bool) :
    CommentsDocOk (commentsDocFlattened cs b) cs := by
  refine commentsDocWith_ok (F := fun m => (flatten m).getD m) (fun {d xs} h => ?_) cs b
  cases hf : flatten d with
  | none => exact h
  | some f => exact Reads.flatten commentKey_space hf h

theorem optPreceding_ok (cs : List Comment) {main : Doc} {xs : List Item} (h : Prints main xs) :
    Prints (optPreceding cs main) (cs.map .comment ++ xs) := by
  unfold optPreceding
  have hc := commentsDocGrouped_ok cs true
  generalize commentsDocGrouped cs true = od at hc
  cases hc with
  | none => exact h
  | some hd => exact (hd.concat h).group

theorem opCommentsDoc_ok (ocs : List Comment) : Prints (opCommentsDoc ocs) (ocs.map .comment) := by
  unfold opCommentsDoc
  have hc := commentsDocGrouped_ok ocs false
  generalize commentsDocGrouped ocs false = od at hc
  cases hc with
  | none => exact .nil
  | some hd => exact (Prints.line.concat hd).group

theorem memberPre_ok (flat : Bool) (cs : List Comment) :
    Prints (memberPre flat cs) (cs.map .comment) := by
  unfold memberPre
  cases flat
  · have hc := commentsDoc_ok cs true
    generalize commentsDoc cs true = od at hc
    cases hc with
    | none => exact .lineHard
    | some hd => exact Prints.lineHard.concat hd
  · have hc := commentsDocFlattened_ok cs false
    generalize commentsDocFlattened cs false = od at hc
    cases hc with
    | none => exact .nil
    | some hd => exact Prints.space.concat hd

theorem operatorDoc_ok (o : BinOp) : Prints (operatorDoc o) [.tok (opStr o)] :=
  Prints.space.concat ((Prints.tok (by cases o <;> decide)).concat .space)

theorem unaryDoc_ok (cs : List Comment) (u : UOp) (p : Nat) {d : Doc} {xs : List Item}
    (h : Prints d xs) : Prints (unaryDoc cs u p d) (unaryItems cs u p xs) :=
  (optPreceding_ok cs ((Prints.tok (by cases u <;> decide)).concat (h.sub (p ≥ 2)))).cast
    (List.append_assoc ..).symm

theorem binaryDoc_ok (cs : List Comment) (o : BinOp) (ocs : List Comment) (l r : AExpr)
    {dl dr : Doc} {xl xr : List Item} (hl : Prints dl xl) (hr : Prints dr xr) :
    Prints (binaryDoc cs o ocs l r dl dr) (binaryItems cs o ocs l r xl xr) := by
  -- both sides choose among the same four rows by the same tests
  have row {a b : Doc} {xa xb : List Item} (ha : Prints a xa) (hb : Prints b xb) :
      Prints (concatV ([a] ++ [opCommentsDoc ocs, operatorDoc o] ++ [b]))
        (xa ++ (ocs.map .comment ++ [.tok (opStr o)]) ++ xb) :=
    (ha.concat ((opCommentsDoc_ok ocs).concat ((operatorDoc_ok o).concat hb))).cast
      (by rw [List.append_assoc, List.append_assoc])
  have hsl := hl.sub (l.prec ≥ 4 + o.pprec)
  have hsr := hr.sub (r.prec ≥ 4 + o.pprec)
  exact optPreceding_ok cs
    (.ite (row hl.paren hsr) (.ite (row hl hsr) (.ite (row hsl hr) (row hsl hsr))))

theorem commaSep_ok {ds : List Doc} {xss : List (List Item)} (h : PrintsAll ds xss) :
    Prints (commaSep ds) (argsItems.join xss) := by
  induction h with
  | nil => exact .nil
  | cons hd htl ih =>
    cases htl with
    | nil => exact hd
    | cons _ _ =>
      exact (hd.concat ((Prints.tok (by decide)).concat (Prints.line.concat ih))).cast
        (List.append_assoc ..).symm

theorem commaSepEnding_ok {ds : List Doc} {xss : List (List Item)} (h : PrintsAll ds xss)
    (ecs : List Comment) :
    Prints (commaSepEnding ds ecs) (argsItems.join xss ++
      (if ecs.isEmpty then [] else (if xss.isEmpty then [] else [.tok [',']]) ++ ecs.map .comment)) := by
  have hb := commaSep_ok h
  unfold commaSepEnding
  have hc := commentsDoc_ok ecs false
  generalize commentsDoc ecs false = od at hc
  cases hc with
  | none => exact hb.cast (List.append_nil _).symm
  | some hd =>
    cases h with
    | nil => exact hd
    | cons _ _ => exact hb.concat ((Prints.tok (by decide)).concat (Prints.line.concat hd))

theorem argsDoc_ok {ds : List Doc} {xss : List (List Item)} (h : PrintsAll ds xss)
    (scs ecs : List Comment) : Prints (argsDoc scs ds ecs) (argsItems scs xss ecs) :=
  (optPreceding_ok scs (commaSepEnding_ok h ecs).paren).cast (by
    simp only [argsItems, wrapP, ↓reduceIte, List.append_assoc])

/-- Well-formed chain IR: every document in it has agreeing `Union`s. -/
def IRok (ir : ChainIR) : Prop :=
  Agree commentKey ir.1 ∧ ∀ m ∈ ir.2, ∀ d ∈ m.2, Agree commentKey d

/-- What one member of a chain reads as: its comments, the dot, its documents. -/
def memberVal (m : List Comment × List Doc) : Str :=
  m.1.flatMap commentChars ++ ['.'] ++ m.2.flatMap (val commentKey)

/-- What a chain IR reads as, whichever of the three layouts is taken: the base, then the members. -/
def chainVal (ir : ChainIR) : Str := val commentKey ir.1 ++ ir.2.flatMap memberVal

theorem IRok_snoc {ir : ChainIR} {m} :
    IRok (ir.1, ir.2 ++ [m]) ↔ IRok ir ∧ ∀ d ∈ m.2, Agree commentKey d := by
  simp only [IRok, List.forall_mem_append, List.forall_mem_singleton, and_assoc]

theorem chainVal_snoc (ir : ChainIR) (m) : chainVal (ir.1, ir.2 ++ [m]) = chainVal ir ++ memberVal m := by
  simp only [chainVal, List.flatMap_append, List.flatMap_singleton, List.append_assoc]

theorem memberVal_snoc (cs : List Comment) (ds : List Doc) (d : Doc) :
    memberVal (cs, ds ++ [d]) = memberVal (cs, ds) ++ val commentKey d := by
  simp only [memberVal, List.flatMap_append, List.flatMap_singleton, List.append_assoc]

theorem seg_ok (flat : Bool) (m : List Comment × List Doc) (h : ∀ d ∈ m.2, Agree commentKey d) :
    ReadsL commentKey (seg flat m) (memberVal m) :=
  ((ReadsL.cons (memberPre_ok flat m.1) (.one (.text ['.']))).append (.of_agree h)).cast
    (by rw [items_comments]; rfl)

theorem segs_ok (flat : Bool) (ms : List (List Comment × List Doc))
    (h : ∀ m ∈ ms, ∀ d ∈ m.2, Agree commentKey d) :
    ReadsL commentKey (ms.flatMap (seg flat)) (ms.flatMap memberVal) :=
  ReadsL.flatMap ms fun m hm => seg_ok flat m (h m hm)

theorem chainExpanded0_ok (ir : ChainIR) (h : IRok ir) :
    Reads commentKey (chainExpanded0 ir) (chainVal ir) :=
  Reads.concat (.of_agree h.1) ((segs_ok false ir.2 h.2).concatV.nest 2)

theorem chainExpanded_ok (ir : ChainIR) (h : IRok ir) :
    Reads commentKey (chainExpanded ir) (chainVal ir) := by
  have hE0 := chainExpanded0_ok ir h
  obtain ⟨b, ms⟩ := ir
  cases ms with
  | nil => exact hE0
  | cons first rest =>
    have hfirst : Reads commentKey (concatV first.2) (first.2.flatMap (val commentKey)) :=
      (ReadsL.of_agree (h.2 first (.head _))).concatV
    have hrest : Reads commentKey (.nest 2 (concatV (rest.flatMap (seg false))))
        (rest.flatMap memberVal) :=
      (segs_ok false rest fun m hm => h.2 m (.tail _ hm)).concatV.nest 2
    have parts : ReadsL commentKey
        [b, memberPre true first.1, .text ['.'], concatV first.2,
          .nest 2 (concatV (rest.flatMap (seg false)))] _ :=
      .cons (.of_agree h.1) (.cons (memberPre_ok true first.1) (.cons (.text ['.'])
        (.cons hfirst (.one hrest))))
    refine Reads.union (parts.concatV.cast ?_) hE0
    rw [items_comments]
    simp only [chainVal, List.flatMap_cons, memberVal, List.append_assoc]
    rfl

/-- `Reads commentKey (dottedChain ir) (chainVal ir)`, written out. -/
theorem dottedChain_ok (ir : ChainIR) (h : IRok ir) :
    Agree commentKey (dottedChain ir) ∧ val commentKey (dottedChain ir) = chainVal ir := by
  have hE := chainExpanded_ok ir h
  unfold dottedChain
  split
  · rename_i f hf
    exact ((ReadsL.cons (.of_agree h.1) (segs_ok true ir.2 h.2)).concatV.flatten commentKey_space hf).union hE
  · exact hE

/-- `Prints` for the chain IR: well formed, and it reads as the items `xs`. -/
def IRPrints (ir : ChainIR) (xs : List Item) : Prop := IRok ir ∧ chainVal ir = items xs

theorem IRPrints.base {d : Doc} {xs : List Item} (h : Prints d xs) : IRPrints (d, []) xs :=
  ⟨⟨h.1, fun _ hm => (nomatch hm)⟩, (List.append_nil _).trans h.2⟩

theorem IRPrints.dottedChain {ir : ChainIR} {xs : List Item} (h : IRPrints ir xs) :
    Prints (dottedChain ir) xs :=
  have hr : Reads commentKey (ExprDoc.dottedChain ir) (chainVal ir) := dottedChain_ok ir h.1
  hr.cast h.2

theorem IRPrints.field {ir : ChainIR} {xs : List Item} (h : IRPrints ir xs) (ncs : List Comment)
    (name : Str) :
    IRPrints (extendField ir ncs name) (xs ++ ncs.map .comment ++ [.tok ['.'], .tok name]) := by
  have hm : ReadsL commentKey [.nstext name, .nil] (nonWs name ++ []) :=
    .cons (.nstext name) (.one .nil)
  refine ⟨IRok_snoc.mpr ⟨h.1, hm.1⟩, ?_⟩
  rw [extendField, chainVal_snoc, h.2, memberVal, hm.2, items_append, items_append, items_comments]
  simp only [List.append_assoc]
  rfl

theorem IRPrints.call {ir : ChainIR} {xs ys : List Item} {ad : Doc} (h : IRPrints ir xs)
    (ha : Prints ad ys) : IRPrints (extendCall ir ad) (xs ++ ys) := by
  obtain ⟨b, ms⟩ := ir
  unfold extendCall
  split
  · rename_i last hl
    obtain ⟨pre, rfl⟩ := List.getLast?_eq_some_iff.mp hl
    obtain ⟨hpre, hlast⟩ := (IRok_snoc (ir := (b, pre))).mp h.1
    have hlast' : ∀ d ∈ last.2 ++ [ad], Agree commentKey d :=
      List.forall_mem_append.mpr ⟨hlast, List.forall_mem_singleton.mpr ha.1⟩
    rw [List.dropLast_concat]
    refine ⟨(IRok_snoc (ir := (b, pre))).mpr ⟨hpre, hlast'⟩, ?_⟩
    rw [chainVal_snoc (b, pre), memberVal_snoc, ← List.append_assoc, ← chainVal_snoc (b, pre), ha.2,
      items_append, ← h.2]
  · rename_i hl
    cases List.getLast?_eq_none_iff.mp hl
    have hb : Prints b xs := ⟨h.1.1, (List.append_nil _).symm.trans h.2⟩
    exact .base (hb.concat ha)

end SamVerif.ExprDoc
