import SamVerif.Model.Gc
import SamVerif.Lemmas.Heap
/-! Lemmas about the GC driver model (C11), organised around `SweepSafe h p` (a covering sweep does
not reclaim the slot behind `p`) and the loop invariant `Queued` of the marking loop. What one
`mark` does to the heap is in `Lemmas/Heap.lean` (`mark_cases`, `mark_unmarked`, `mark_temp_false`,
`mark_read`). -/
namespace SamVerif.Gc
open SamVerif.Heap

/-- The slot behind `p` is not an unmarked temporary, i.e. a covering sweep will not reclaim it. -/
def SweepSafe (h : Heap) (p : Handle) : Prop :=
  ∀ id, p = .ref id → ∀ s : Bytes, h.slots[id]? ≠ some (Slot.temp s false)

theorem mark_safe_self (h : Heap) (p : Handle) : SweepSafe (mark h p) p :=
  fun _ hp _ hc => (mark_temp_false hc).2 hp

theorem mark_safe_mono (h : Heap) (p q : Handle) (hq : SweepSafe h q) : SweepSafe (mark h p) q :=
  fun id hqe s hc => hq id hqe s (mark_temp_false hc).1

theorem markAll_cons (h : Heap) (p : Handle) (ps : List Handle) :
    markAll h (p :: ps) = markAll (mark h p) ps := rfl

theorem addAll_cons (h : Heap) (c : Nat) (cs : List Nat) :
    addAll h (c :: cs) = addAll (addUnmarked h c) cs := rfl

theorem markAll_unmarked (ps : List Handle) (h : Heap) : (markAll h ps).unmarked = h.unmarked := by
  induction ps generalizing h with
  | nil => rfl
  | cons p ps ih => rw [markAll_cons, ih, mark_unmarked]

theorem markAll_safe_mono (ps : List Handle) (h : Heap) (q : Handle) (hq : SweepSafe h q) :
    SweepSafe (markAll h ps) q :=
  List.foldlRecOn ps mark hq fun h hq p _ => mark_safe_mono h p q hq

theorem markAll_safe_mem (ps : List Handle) (h : Heap) (q : Handle) (hq : q ∈ ps) :
    SweepSafe (markAll h ps) q := by
  induction ps generalizing h with
  | nil => cases hq
  | cons p ps ih =>
    rw [markAll_cons]
    rcases List.mem_cons.mp hq with rfl | hq
    · exact markAll_safe_mono ps _ q (mark_safe_self h q)
    · exact ih _ hq

theorem markAll_read (ps : List Handle) (h : Heap) (q : Handle) (s : Bytes)
    (hr : read h q = some s) : read (markAll h ps) q = some s :=
  List.foldlRecOn ps mark hr fun h hr p _ => mark_read h p q s hr

theorem inv_markAll {h : Heap} (hi : Inv h) (ps : List Handle) : Inv (markAll h ps) :=
  List.foldlRecOn ps mark hi fun _ hi p _ => inv_mark hi p

theorem addAll_slots (cs : List Nat) (h : Heap) : (addAll h cs).slots = h.slots := by
  induction cs generalizing h with
  | nil => rfl
  | cons c cs ih => rw [addAll_cons, ih, addUnmarked_slots]

theorem mem_addUnmarked (h : Heap) (c m : Nat) :
    m ∈ (addUnmarked h c).unmarked ↔ m = c ∨ m ∈ h.unmarked := by
  unfold addUnmarked
  split
  · rename_i hc
    exact ⟨.inr, fun hm => hm.elim (· ▸ hc) id⟩
  · exact List.mem_cons

theorem addAll_mem (cs : List Nat) (h : Heap) (m : Nat) (hm : m ∈ cs ∨ m ∈ h.unmarked) :
    m ∈ (addAll h cs).unmarked := by
  induction cs generalizing h with
  | nil => exact hm.resolve_left List.not_mem_nil
  | cons c cs ih =>
    rw [addAll_cons]
    refine ih _ ?_
    rcases hm with hm | hm
    · rcases List.mem_cons.mp hm with rfl | hm
      · exact .inr ((mem_addUnmarked h m m).mpr (.inl rfl))
      · exact .inl hm
    · exact .inr ((mem_addUnmarked h c m).mpr (.inr hm))

theorem inv_addAll {h : Heap} (hi : Inv h) (cs : List Nat) : Inv (addAll h cs) :=
  List.foldlRecOn cs addUnmarked hi fun _ hi c _ => inv_addUnmarked hi c

theorem addAll_read (cs : List Nat) (h : Heap) (q : Handle) : read (addAll h cs) q = read h q :=
  read_of_slots_eq (addAll_slots cs h) q

/-- Loop invariant: every checked module is still queued, or all its handles are sweep-safe. -/
def Queued (all : List Module) (h : Heap) : Prop :=
  ∀ md ∈ all, md.id ∈ h.unmarked ∨ ∀ p ∈ md.marks, SweepSafe h p

theorem findModule_some {all : List Module} {m : Nat} {md : Module}
    (h : findModule all m = some md) : md ∈ all ∧ md.id = m := by
  unfold findModule at h
  have h1 := List.mem_of_find?_eq_some h
  have h2 := List.find?_some h
  exact ⟨h1, by simpa using h2⟩

theorem findModule_none {all : List Module} {m : Nat} (h : findModule all m = none) :
    ∀ md ∈ all, md.id ≠ m := by
  unfold findModule at h
  intro md hmd hc
  have := List.find?_eq_none.mp h md hmd
  simp [hc] at this

/-- Module ids are the keys of a `HashMap`: pairwise distinct. -/
def DistinctIds (all : List Module) : Prop :=
  ∀ a ∈ all, ∀ b ∈ all, a.id = b.id → a = b

theorem markLoop_props (all : List Module) (hd : DistinctIds all) (cs : List (Option Nat))
    (slice : Nat) (h : Heap) (hi : Inv h) (hq : Queued all h) :
    Inv (markLoop all cs slice h) ∧ Queued all (markLoop all cs slice h) ∧
    (∀ q s, read h q = some s → read (markLoop all cs slice h) q = some s) ∧
    (∀ q, SweepSafe h q → SweepSafe (markLoop all cs slice h) q) := by
  fun_induction markLoop all cs slice h with
  -- every way the loop stops returns `h` itself
  | case1 | case2 | case3 | case4 => exact ⟨hi, hq, fun _ _ hr => hr, fun _ hs => hs⟩
  -- the popped id `m` names the checked module `md`, whose handles are marked
  | case5 cs slice h _ m h' hp md hf ih =>
    have hi' := inv_popUnmarked hi _ hp
    -- the popped heap is `{ h with unmarked := u }`: its reads and sweep-safety are those of `h`
    obtain ⟨u, rfl, hu⟩ := popUnmarked_some hp
    obtain ⟨hmd, rfl⟩ := findModule_some hf
    have hq' : Queued all (markAll { h with unmarked := u } md.marks) := by
      intro md2 hmd2
      by_cases he : md2.id = md.id
      · cases hd md2 hmd2 md hmd he
        exact .inr fun p hp => markAll_safe_mem _ _ p hp
      · rcases hq md2 hmd2 with hu' | hs
        · left; rw [markAll_unmarked, hu _ rfl]; simp [hu', he]
        · exact .inr fun p hp => markAll_safe_mono _ _ p (hs p hp)
    obtain ⟨rinv, rqueued, rread, rsafe⟩ := ih (inv_markAll hi' _) hq'
    exact ⟨rinv, rqueued, fun q s hr => rread q s (markAll_read _ _ q s hr),
      fun q hs => rsafe q (markAll_safe_mono _ _ q hs)⟩
  -- the popped id names no checked module: nothing is marked, the slice is not charged
  | case6 cs slice h _ m h' hp hf ih =>
    have hi' := inv_popUnmarked hi _ hp
    obtain ⟨u, rfl, hu⟩ := popUnmarked_some hp
    have hnone := findModule_none hf
    refine ih hi' fun md2 hmd2 => (hq md2 hmd2).imp_left fun hu' => ?_
    simp only [hu _ rfl]; simp [hu', hnone md2 hmd2]

theorem queued_addAll (all : List Module) (h : Heap) (changed : List Nat)
    (hch : ∀ md ∈ all, md.id ∈ changed) : Queued all (addAll h changed) :=
  fun md hmd => .inl (addAll_mem changed h md.id (.inl (hch md hmd)))

theorem inv_gcStep {h : Heap} (hi : Inv h) (all : List Module) (hd : DistinctIds all)
    (changed : List Nat) (hch : ∀ md ∈ all, md.id ∈ changed) (slice work : Nat)
    (choices : List (Option Nat)) : Inv (gcStep h all changed slice work choices) :=
  inv_sweep (markLoop_props all hd choices slice _ (inv_addAll hi changed)
    (queued_addAll all h changed hch)).1 work

end SamVerif.Gc
