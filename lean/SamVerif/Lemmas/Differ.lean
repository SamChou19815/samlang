import SamVerif.Model.Differ
/-! Lemmas on the list differ model (C16). `fuse` changes neither what a script does nor where its
entries sit; for a valid trace the sorted script is the segment-by-segment script `segs`, which yields
`new` (cursor invariant `Yields`); a list against itself with something appended gives the diagonal
trace; the search builds only valid traces, and it terminates. -/
namespace SamVerif.Differ
variable {α : Type} [DecidableEq α]
set_option linter.unusedSectionVars false

/-! ## Valid traces

Monotonicity of `ValidFrom` in its bounds, and the induction principle by which the lemmas on `segs` below
and on the chunk sequence (`Lemmas/DifferText.lean`) walk along a trace. -/

theorem ValidFrom.mono {old new : List α} {lx ly lx' ly' : Nat} {tr : Trace}
    (h : ValidFrom old new lx ly tr) (hx : lx' ≤ lx) (hy : ly' ≤ ly) : ValidFrom old new lx' ly' tr := by
  cases tr with
  | nil => trivial
  | cons p tr =>
    obtain ⟨a, b⟩ := p
    simp only [ValidFrom] at h ⊢
    exact ⟨Nat.le_trans hx h.1, Nat.le_trans hy h.2.1, h.2.2⟩

theorem validTrace_nil_old (new : List α) (tr : Trace) (hv : ValidTrace [] new tr) : tr = [] := by
  cases tr with
  | nil => rfl
  | cons p tr =>
    obtain ⟨x, y⟩ := p
    simp [ValidTrace, ValidFrom] at hv

/-- Induction along a valid trace, with the lower bounds `c` (old positions) and `first` (new positions)
as indices of the motive.  The step for the match point `(x, y)` is handed, in this order: `c ≤ x`,
`first ≤ y`, `x < old.length`, `y < new.length`, the match `old[x]? = some new[y]`, validity of the rest of
the trace from `(x + 1, y + 1)` on, and the motive for that rest. -/
theorem ValidFrom.ind {old new : List α} {motive : Nat → Nat → Trace → Prop}
    (nil : ∀ c first, motive c first [])
    (cons : ∀ c first x y tr, c ≤ x → first ≤ y → (hx : x < old.length) → (hy : y < new.length) →
      old[x]? = some new[y] → ValidFrom old new (x + 1) (y + 1) tr → motive (x + 1) (y + 1) tr →
      motive c first ((x, y) :: tr)) :
    ∀ tr c first, ValidFrom old new c first tr → motive c first tr := by
  intro tr
  induction tr with
  | nil => intro c first _; exact nil c first
  | cons q tr ih =>
    intro c first hv
    obtain ⟨x, y⟩ := q
    obtain ⟨hcx, hfy, ⟨e, hox, hny⟩, hv'⟩ := hv
    obtain ⟨hy, rfl⟩ := List.getElem?_eq_some_iff.mp hny
    exact cons c first x y tr hcx hfy (List.getElem?_eq_some_iff.mp hox).1 hy hox hv' (ih (x + 1) (y + 1) hv')

/-! ## Slices

`slice l a b` against `drop`, `append` and one more element: the arithmetic under `Yields`. -/

theorem slice_eq_take_drop (l : List α) (a b : Nat) : slice l a b = (l.drop a).take (b - a) := rfl

theorem take_drop_slice (old : List α) (c0 c : Nat) :
    (old.drop c0).take (c - c0) = slice old c0 c := rfl

theorem slice_self (l : List α) (a : Nat) : slice l a a = [] := by
  rw [slice, Nat.sub_self, List.take_zero]

theorem slice_length (l : List α) (a : Nat) : slice l a l.length = l.drop a :=
  List.take_of_length_le (by rw [List.length_drop]; exact Nat.le_refl _)

theorem drop_drop_sub (l : List α) {a b : Nat} (hab : a ≤ b) : (l.drop a).drop (b - a) = l.drop b := by
  rw [List.drop_drop, Nat.add_sub_cancel' hab]

theorem ofNat_add_sub {c0 c : Nat} (h : c0 ≤ c) : Int.ofNat c0 + ((c - c0 : Nat) : Int) = Int.ofNat c :=
  congrArg Int.ofNat (Nat.add_sub_cancel' h)

theorem slice_append_drop (l : List α) (a b : Nat) (hab : a ≤ b) :
    slice l a b ++ l.drop b = l.drop a := by
  rw [← drop_drop_sub l hab]; exact List.take_append_drop _ _

theorem slice_succ_right (l : List α) (a b : Nat) (e : α) (hab : a ≤ b) (hb : l[b]? = some e) :
    slice l a (b + 1) = slice l a b ++ [e] := by
  have hget : (l.drop a)[b - a]? = some e := by rw [List.getElem?_drop, Nat.add_sub_cancel' hab, hb]
  rw [slice, Nat.succ_sub hab, List.take_add_one, hget]; rfl

theorem slice_eq_nil_iff (l : List α) (a b : Nat) (hb : b ≤ l.length) : slice l a b = [] ↔ ¬ a < b := by
  rw [slice, List.take_eq_nil_iff, List.drop_eq_nil_iff, Nat.not_lt]
  constructor
  · rintro (h | h)
    · exact Nat.le_of_sub_eq_zero h
    · exact Nat.le_trans hb h
  · exact fun h => Or.inl (Nat.sub_eq_zero_of_le h)

/-! ## Fusion

`fuse` only ever rewrites an insert directly followed by the delete of the next old element.  Two facts
carry everything that is proved about it: it does not change what the script does (`applyFrom_fuse`),
and every entry of the fused script is an entry of the original one or sits where the original one
had a delete (`mem_fuse`).

The cases of `fun_induction fuse`: case1 `[]`; case2 a single change; case3 an insert directly followed by
the delete of the next old element (the fused pair; what is left of the insert, if anything, goes on as an
insert with leading separator: `ih1` for nothing left, `ih2` otherwise); case4 an insert followed by a
delete elsewhere; case5 any other head. -/

theorem applyFrom_cons_congr {s t : Script α}
    (h : ∀ pos rest, applyFrom pos rest s = applyFrom pos rest t) (c : Int × Change α) (pos : Int)
    (rest : List α) : applyFrom pos rest (c :: s) = applyFrom pos rest (c :: t) := by
  obtain ⟨p, ch⟩ := c
  cases ch <;> simp only [applyFrom, h]

theorem applyFrom_fuse (s : Script α) :
    ∀ (pos : Int) (rest : List α), applyFrom pos rest (fuse s) = applyFrom pos rest s := by
  fun_induction fuse s with
  | case1 => intros; rfl
  | case2 c => intros; rfl
  | case3 it r ld i2 y q ih1 ih2 =>
    intro pos rest
    -- Both scripts copy `k = (i2 - pos).toNat` old elements and then write `it`: the delete behind the
    -- insert copies nothing more, and neither does the insert behind the replace.
    have hk1 : (i2 - 1 + 1 - pos).toNat = (i2 - pos).toNat := by rw [Int.sub_add_cancel]
    have hk2 : (i2 - (pos + ((i2 - pos).toNat : Int))).toNat = 0 :=
      Int.toNat_eq_zero.mpr (Int.sub_nonpos_of_le (Int.le_add_of_sub_left_le (Int.self_le_toNat _)))
    have hk3 : (i2 + 1 - (pos + ((i2 - pos).toNat : Int) + 1)).toNat = 0 := by
      rw [Int.add_sub_add_right]; exact hk2
    simp only [applyFrom, hk1, hk2, List.take_zero, List.nil_append, List.drop_drop, Nat.zero_add,
      Int.natCast_zero, Int.add_zero, List.append_assoc, List.cons_append]
    split
    · rename_i hr
      rw [ih1 hr, List.isEmpty_iff.mp hr]; rfl
    · rw [ih2]
      simp only [applyFrom, hk3, List.take_zero, List.nil_append, Int.natCast_zero, Int.add_zero,
        Nat.add_zero, List.drop_drop]
  | case4 i1 it r ld i2 y q hne ih => exact applyFrom_cons_congr ih _
  | case5 c n q hne ih => exact applyFrom_cons_congr ih _

theorem mem_fuse {s : Script α} {e : Int × Change α} :
    e ∈ fuse s → e ∈ s ∨ ∃ y, (e.1, Change.delete y) ∈ s := by
  have tail : ∀ {c : Int × Change α} {t : Script α},
      (e ∈ t ∨ ∃ y, (e.1, Change.delete y) ∈ t) → e ∈ c :: t ∨ ∃ y, (e.1, Change.delete y) ∈ c :: t :=
    Or.imp (List.mem_cons_of_mem _) (Exists.imp fun _ => List.mem_cons_of_mem _)
  fun_induction fuse s with
  | case1 => exact Or.inl
  | case2 c => exact Or.inl
  | case3 it rest ld i2 y q ih1 ih2 =>
    intro he
    have hd : ∃ z, ((i2, Change.delete z) : Int × Change α) ∈
        (i2 - 1, Change.insert (it :: rest) ld) :: (i2, Change.delete y) :: q := ⟨y, by simp⟩
    rcases List.mem_cons.mp he with rfl | he
    · exact Or.inr hd
    · split at he
      next hr => exact tail (tail (ih1 hr he))
      next =>
        rcases ih2 he with h | ⟨z, h⟩
        · rcases List.mem_cons.mp h with rfl | h
          · exact Or.inr hd
          · exact tail (tail (Or.inl h))
        · exact tail (tail (Or.inr ⟨z, by simpa using h⟩))
  | case4 i1 it rest ld i2 y q hne ih =>
    intro he
    rcases List.mem_cons.mp he with rfl | he
    · exact Or.inl (List.mem_cons_self ..)
    · exact tail (ih he)
  | case5 c n q hne ih =>
    intro he
    rcases List.mem_cons.mp he with rfl | he
    · exact Or.inl (List.mem_cons_self ..)
    · exact tail (ih he)

/-- `e` lies behind position `b`: at a larger position, or it is the insert right behind `b`. -/
def GE (b : Int) (e : Int × Change α) : Prop := b < e.1 ∨ (e.1 = b ∧ ∃ it ld, e.2 = Change.insert it ld)

def NoReplace (s : Script α) : Prop := ∀ e ∈ s, ∀ x y, e.2 ≠ Change.replace x y

/-- deletes and replaces sit at real (non-negative) old positions -/
def NonNeg (s : Script α) : Prop := ∀ e ∈ s, (∀ it ld, e.2 ≠ Change.insert it ld) → 0 ≤ e.1

def posLt (a b : Int × Change α) : Prop := a.1 < b.1

theorem fuse_pos {P : Int → Prop} {s : Script α} (h : ∀ e ∈ s, P e.1) : ∀ e ∈ fuse s, P e.1 := by
  intro e he
  rcases mem_fuse he with h' | ⟨y, h'⟩
  · exact h e h'
  · exact h (e.1, .delete y) h'

theorem fuse_gt (b : Int) (s : Script α) (h : ∀ e ∈ s, b < e.1) : ∀ e ∈ fuse s, b < e.1 :=
  fuse_pos (P := (b < ·)) h

theorem fuse_lt (N : Int) (s : Script α) (h : ∀ e ∈ s, e.1 < N) : ∀ e ∈ fuse s, e.1 < N :=
  fuse_pos (P := (· < N)) h

theorem fuse_ge (b : Int) (s : Script α) (h : ∀ e ∈ s, GE b e) : ∀ e ∈ fuse s, GE b e := by
  intro e he
  rcases mem_fuse he with h' | ⟨y, h'⟩
  · exact h e h'
  · rcases h (e.1, .delete y) h' with h1 | ⟨_, _, _, h2⟩
    · exact Or.inl h1
    · cases h2

theorem fuse_nonneg (s : Script α) (h : NonNeg s) : NonNeg (fuse s) := by
  intro e he hni
  rcases mem_fuse he with h' | ⟨y, h'⟩
  · exact h e h' hni
  · exact h (e.1, .delete y) h' (fun _ _ h => by cases h)

theorem fuse_pairwise (s : Script α) (hs : s.Pairwise posLt) : (fuse s).Pairwise Before := by
  fun_induction fuse s with
  | case1 => exact List.Pairwise.nil
  | case2 c => exact List.pairwise_singleton _ _
  | case3 it rest ld i2 y q ih1 ih2 =>
    obtain ⟨h2, hq⟩ := List.pairwise_cons.mp (List.pairwise_cons.mp hs).2
    refine List.pairwise_cons.mpr ⟨fun e he => ?_, ?_⟩
    · split at he
      · exact Or.inl (fuse_gt i2 q h2 e he)
      · refine (fuse_ge i2 _ ?_ e he).imp id fun h => ⟨h.1.symm, ⟨_, _, rfl⟩, h.2⟩
        exact List.forall_mem_cons.mpr ⟨Or.inr ⟨rfl, _, _, rfl⟩, fun e he => Or.inl (h2 e he)⟩
    · split
      next hr => exact ih1 hr hq
      next => exact ih2 (List.pairwise_cons.mpr ⟨h2, hq⟩)
  | case4 i1 it rest ld i2 y q hne ih =>
    obtain ⟨h1, hs1⟩ := List.pairwise_cons.mp hs
    exact List.pairwise_cons.mpr ⟨fun e he => Or.inl (fuse_gt i1 _ h1 e he), ih hs1⟩
  | case5 c n q hne ih =>
    obtain ⟨h1, hs1⟩ := List.pairwise_cons.mp hs
    exact List.pairwise_cons.mpr ⟨fun e he => Or.inl (fuse_gt c.1 _ h1 e he), ih hs1⟩

theorem fuse_sorted (s : Script α) (hs : s.Pairwise posLt) (hn : NoReplace s) :
    (fuse s).Pairwise Before := fuse_pairwise s hs

/-! ## Segments

Between two trace points the sorted script holds one optional insert and a run of deletes. -/

/-- The head of the script is not a delete at a position `≤ b`. -/
def NoDelUpTo (b : Int) : Script α → Prop
  | (p, .delete _) :: _ => b < p
  | _ => True

def insOpt (p : Int) (items : List α) (ld : Bool) : Script α :=
  if items = [] then [] else [(p, Change.insert items ld)]

def delRun (old : List α) : Nat → Nat → Script α
  | _, 0 => []
  | a, len + 1 =>
    match old[a]? with
    | some e => (Int.ofNat a, Change.delete e) :: delRun old (a + 1) len
    | none => delRun old (a + 1) len

/-- The position-sorted script before fusion, segment by segment: `px` is the previous matched old
position (`-1` at the start), `c = px + 1`, `first` the first new index not yet accounted for. -/
def segs (old new : List α) : Int → Nat → Nat → Trace → Script α
  | px, first, c, [] =>
    insOpt px (slice new first new.length) false ++ delRun old c (old.length - c)
  | px, first, c, (x, y) :: tr =>
    insOpt px (slice new first y) false ++ (delRun old c (x - c) ++ segs old new (Int.ofNat x) (y + 1) (x + 1) tr)

/-- Script `s`, met with the cursor anywhere at or in front of old position `c`, copies the old elements up
to `c` and then yields `R`.  Leaving the cursor free is what lets a kept element (`Yields.keep`) and the
segments of a trace be put in front of a script without any book-keeping of where the cursor stood. -/
def Yields (old : List α) (s : Script α) (c : Nat) (R : List α) : Prop :=
  ∀ c0, c0 ≤ c → applyFrom (Int.ofNat c0) (old.drop c0) s = slice old c0 c ++ R

section rules
variable {old : List α} {s : Script α} {c : Nat} {R : List α}

theorem Yields.nil (old : List α) : Yields old [] old.length [] :=
  fun c0 _ => by rw [slice_length, List.append_nil]; rfl

theorem Yields.insert {p : Int} (hp : p + 1 = c) (items : List α) (ld : Bool) (h : Yields old s c R) :
    Yields old ((p, Change.insert items ld) :: s) c (items ++ R) := fun c0 h0 => by
  have hk : (p + 1 - Int.ofNat c0).toNat = c - c0 := by rw [hp]; exact Int.toNat_sub c c0
  rw [applyFrom, hk, ofNat_add_sub h0, drop_drop_sub old h0, h c (Nat.le_refl c), slice_self, List.append_assoc]
  rfl

theorem Yields.delete (e : α) (h : Yields old s (c + 1) R) :
    Yields old ((Int.ofNat c, Change.delete e) :: s) c R := fun c0 h0 => by
  have hk : (Int.ofNat c - Int.ofNat c0).toNat = c - c0 := Int.toNat_sub c c0
  have := h (c + 1) (Nat.le_refl _)
  rw [slice_self] at this
  rw [applyFrom, hk, ofNat_add_sub h0, ← List.drop_drop, drop_drop_sub old h0, List.drop_drop]
  exact congrArg (_ ++ ·) this

theorem Yields.keep {e : α} (he : old[c]? = some e) (h : Yields old s (c + 1) R) : Yields old s c (e :: R) :=
  fun c0 h0 => by
    rw [h c0 (Nat.le_succ_of_le h0), slice_succ_right old c0 c e h0 he, List.append_assoc]
    rfl

theorem yields_fuse : Yields old (fuse s) c R ↔ Yields old s c R := by
  simp only [Yields, applyFrom_fuse]

end rules

theorem yields_delRun (old : List α) (rest : Script α) (R : List α) (len : Nat) :
    ∀ c, c + len ≤ old.length → Yields old rest (c + len) R → Yields old (delRun old c len ++ rest) c R := by
  induction len with
  | zero => intro c _ h; exact h
  | succ len ih =>
    intro c hn h
    have hc : c < old.length := Nat.lt_of_lt_of_le (Nat.lt_add_of_pos_right (Nat.succ_pos len)) hn
    have hlen : c + 1 + len = c + (len + 1) := Nat.add_right_comm c 1 len
    simp only [delRun, List.getElem?_eq_getElem hc, List.cons_append]
    exact (ih (c + 1) (hlen ▸ hn) (hlen ▸ h)).delete _

theorem yields_seg (old : List α) (items : List α) (ld : Bool) {c len : Nat} {p : Int}
    (rest : Script α) (R : List α) (hp : p + 1 = c) (hn : c + len ≤ old.length)
    (h : Yields old rest (c + len) R) :
    Yields old (insOpt p items ld ++ (delRun old c len ++ rest)) c (items ++ R) := by
  have hd := yields_delRun old rest R len c hn h
  unfold insOpt
  split
  · subst_vars; exact hd
  · exact hd.insert hp items ld

/-- `yields_seg` under `fuse`, with `Yields` written out. -/
theorem seg_apply (old : List α) (len : Nat) :
    ∀ (items : List α) (ld : Bool) (c c0 : Nat) (rest : Script α) (R : List α),
      c0 ≤ c → c + len ≤ old.length → NoDelUpTo (Int.ofNat (c + len)) rest →
      (∀ c1, c1 ≤ c + len → applyFrom (Int.ofNat c1) (old.drop c1) (fuse rest) = slice old c1 (c + len) ++ R) →
      applyFrom (Int.ofNat c0) (old.drop c0) (fuse (insOpt (Int.ofNat c - 1) items ld ++ (delRun old c len ++ rest)))
        = slice old c0 c ++ (items ++ R) :=
  fun items ld _ c0 rest R h0 hn _ hrest =>
    yields_fuse.mpr (yields_seg old items ld rest R (Int.sub_add_cancel _ _) hn (yields_fuse.mp hrest)) c0 h0

theorem yields_segs (old new : List α) :
    ∀ (tr : Trace) (c first : Nat), ValidFrom old new c first tr → c ≤ old.length →
      ∀ px : Int, px + 1 = c → Yields old (segs old new px first c tr) c (new.drop first) := by
  refine ValidFrom.ind ?_ ?_
  · intro c first hc px hp
    have hsum : c + (old.length - c) = old.length := Nat.add_sub_cancel' hc
    have := yields_seg (len := old.length - c) old (slice new first new.length) false [] [] hp
      (Nat.le_of_eq hsum) (hsum.symm ▸ Yields.nil old)
    rw [List.append_nil, List.append_nil] at this
    exact slice_length new first ▸ this
  · intro c first x y tr hcx hfy hx hy hox _ ih _ px hp
    have hsum : c + (x - c) = x := Nat.add_sub_cancel' hcx
    rw [← slice_append_drop new first y hfy, List.drop_eq_getElem_cons hy]
    exact yields_seg (len := x - c) old _ false _ _ hp (Nat.le_trans (Nat.le_of_eq hsum) (Nat.le_of_lt hx))
      (by rw [hsum]; exact (ih hx _ rfl).keep hox)

theorem segs_apply (old new : List α) (tr : Trace) :
    ∀ (first c c0 : Nat), ValidFrom old new c first tr → c ≤ old.length → first ≤ new.length → c0 ≤ c →
      applyFrom (Int.ofNat c0) (old.drop c0) (fuse (segs old new (Int.ofNat c - 1) first c tr))
        = slice old c0 c ++ new.drop first :=
  fun first _ c0 hv hc _ h0 =>
    yields_fuse.mpr (yields_segs old new tr _ first hv hc _ (Int.sub_add_cancel _ _)) c0 h0

theorem mem_insOpt {p : Int} {items : List α} {ld : Bool} {e : Int × Change α}
    (h : e ∈ insOpt p items ld) : e = (p, Change.insert items ld) ∧ items ≠ [] := by
  unfold insOpt at h
  split at h
  next => cases h
  next hne => exact ⟨List.mem_singleton.mp h, hne⟩

theorem mem_delRun {old : List α} {e : Int × Change α} {len a : Nat} (h : e ∈ delRun old a len) :
    ∃ p x, e = (Int.ofNat p, Change.delete x) ∧ a ≤ p ∧ p < a + len := by
  -- case1: the run is over; case2: `old[a]` is deleted; case3: `a` lies outside `old`
  fun_induction delRun old a len with
  | case1 => cases h
  | case2 a len x hx ih =>
    rcases List.mem_cons.mp h with rfl | h
    · exact ⟨a, _, rfl, Nat.le_refl _, Nat.lt_add_of_pos_right (Nat.succ_pos len)⟩
    · obtain ⟨p, x, he, h1, h2⟩ := ih h
      exact ⟨p, x, he, Nat.le_of_succ_le h1, Nat.add_right_comm a 1 len ▸ h2⟩
  | case3 a len hx ih =>
    obtain ⟨p, x, he, h1, h2⟩ := ih h
    exact ⟨p, x, he, Nat.le_of_succ_le h1, Nat.add_right_comm a 1 len ▸ h2⟩

theorem delRun_pairwise (old : List α) (len a : Nat) : (delRun old a len).Pairwise posLt := by
  fun_induction delRun old a len with
  | case1 => exact List.Pairwise.nil
  | case2 a len x hx ih =>
    refine List.pairwise_cons.mpr ⟨fun e he => ?_, ih⟩
    obtain ⟨p, x, rfl, h1, _⟩ := mem_delRun he
    exact Int.ofNat_lt.mpr h1
  | case3 a len hx ih => exact ih

/-- Where an entry of the segment script sits: behind `px` and inside `old`, as a non-empty insert or as
the delete of an old element from `c` on. -/
structure Sits (old : List α) (px : Int) (c : Nat) (e : Int × Change α) : Prop where
  lo : px ≤ e.1
  hi : e.1 < (old.length : Int)
  kind : (∃ it ld, it ≠ [] ∧ e.2 = Change.insert it ld) ∨ ((∃ x, e.2 = Change.delete x) ∧ (c : Int) ≤ e.1)

theorem mem_seg {old : List α} {e : Int × Change α} {px : Int} {it : List α} {c m : Nat} {rest : Script α}
    (hcm : c ≤ m) (hm : m ≤ old.length) (hpx : px < (c : Int)) (hr : e ∈ rest → Sits old (Int.ofNat m) (m + 1) e)
    (he : e ∈ insOpt px it false ++ (delRun old c (m - c) ++ rest)) : Sits old px c e := by
  have hc : (c : Int) ≤ Int.ofNat m := Int.ofNat_le.mpr hcm
  rcases List.mem_append.mp he with he | he
  · obtain ⟨rfl, h2⟩ := mem_insOpt he
    exact ⟨Int.le_refl _, Int.lt_of_lt_of_le hpx (Int.ofNat_le.mpr (Nat.le_trans hcm hm)), Or.inl ⟨_, _, h2, rfl⟩⟩
  · rcases List.mem_append.mp he with he | he
    · obtain ⟨p, x, rfl, h1, h2⟩ := mem_delRun he
      rw [Nat.add_sub_cancel' hcm] at h2
      have hcp : (c : Int) ≤ Int.ofNat p := Int.ofNat_le.mpr h1
      exact ⟨Int.le_of_lt (Int.lt_of_lt_of_le hpx hcp), Int.ofNat_lt.mpr (Nat.lt_of_lt_of_le h2 hm),
        Or.inr ⟨⟨_, rfl⟩, hcp⟩⟩
    · obtain ⟨h1, h2, h3⟩ := hr he
      exact ⟨Int.le_trans (Int.le_of_lt (Int.lt_of_lt_of_le hpx hc)) h1, h2,
        h3.imp_right fun h => ⟨h.1, Int.le_trans hc h1⟩⟩

theorem mem_segs {old new : List α} {e : Int × Change α} :
    ∀ (tr : Trace) {c first : Nat}, ValidFrom old new c first tr → c ≤ old.length → ∀ {px : Int}, px < (c : Int) →
      e ∈ segs old new px first c tr → Sits old px c e := by
  refine ValidFrom.ind ?_ ?_
  · intro c first hc px hpx he
    rw [segs, ← List.append_nil (delRun ..)] at he
    exact mem_seg hc (Nat.le_refl _) hpx (fun h => (List.not_mem_nil h).elim) he
  · intro c first x y tr hcx _ hx _ _ _ ih _ px hpx he
    exact mem_seg hcx (Nat.le_of_lt hx) hpx (ih hx (Int.ofNat_lt.mpr (Nat.lt_succ_self x))) he

theorem pairwise_seg {old : List α} {px : Int} {it : List α} {c m : Nat} {rest : Script α}
    (hcm : c ≤ m) (hpx : px < (c : Int)) (hs : rest.Pairwise posLt) (hr : ∀ e ∈ rest, Int.ofNat m ≤ e.1) :
    (insOpt px it false ++ (delRun old c (m - c) ++ rest)).Pairwise posLt := by
  have hd : ∀ e ∈ delRun old c (m - c), (c : Int) ≤ e.1 ∧ e.1 < Int.ofNat m := fun e he => by
    obtain ⟨p, _, rfl, h1, h2⟩ := mem_delRun he
    exact ⟨Int.ofNat_le.mpr h1, Int.ofNat_lt.mpr (Nat.add_sub_cancel' hcm ▸ h2)⟩
  have hrest := List.pairwise_append.mpr ⟨delRun_pairwise old _ c, hs,
    fun a ha b hb => Int.lt_of_lt_of_le (hd a ha).2 (hr b hb)⟩
  unfold insOpt
  split
  · exact hrest
  · rw [List.singleton_append]
    refine List.pairwise_cons.mpr ⟨fun e he => ?_, hrest⟩
    rcases List.mem_append.mp he with he | he
    · exact Int.lt_of_lt_of_le hpx (hd e he).1
    · exact Int.lt_of_lt_of_le hpx (Int.le_trans (Int.ofNat_le.mpr hcm) (hr e he))

theorem segs_pairwise {old new : List α} :
    ∀ (tr : Trace) {c first : Nat}, ValidFrom old new c first tr → c ≤ old.length → ∀ {px : Int}, px < (c : Int) →
      (segs old new px first c tr).Pairwise posLt := by
  refine ValidFrom.ind ?_ ?_
  · intro c first hc px hpx
    rw [segs, ← List.append_nil (delRun ..)]
    exact pairwise_seg hc hpx List.Pairwise.nil fun _ h => (List.not_mem_nil h).elim
  · intro c first x y tr hcx _ hx _ _ hv' ih _ px hpx
    have hxx : Int.ofNat x < ((x + 1 : Nat) : Int) := Int.ofNat_lt.mpr (Nat.lt_succ_self x)
    exact pairwise_seg hcx hpx (ih hx hxx) fun e he => (mem_segs tr hv' hx hxx he).lo

theorem segs_nonneg {old new : List α} (tr : Trace) {px : Int} {first c : Nat}
    (hv : ValidFrom old new c first tr) (hc : c ≤ old.length) (hpx : px < (c : Int)) :
    NonNeg (segs old new px first c tr) := by
  intro e he hni
  rcases (mem_segs tr hv hc hpx he).kind with ⟨it, ld, _, h⟩ | ⟨_, h⟩
  · exact absurd h (hni it ld)
  · exact Int.le_trans (Int.natCast_nonneg c) h

theorem nodel_segs {old new : List α} (tr : Trace) {px : Int} {first c : Nat} {b : Int}
    (hv : ValidFrom old new c first tr) (hc : c ≤ old.length) (hpx : px < (c : Int)) (hb : b < (c : Int)) :
    NoDelUpTo b (segs old new px first c tr) := by
  cases hs : segs old new px first c tr with
  | nil => trivial
  | cons e s =>
    obtain ⟨p, ch⟩ := e
    cases ch with
    | delete x =>
      rcases (mem_segs tr hv hc hpx (hs ▸ List.mem_cons_self ..)).kind with ⟨_, _, _, h⟩ | ⟨_, h⟩
      · cases h
      · exact Int.lt_of_lt_of_le hb h
    | insert _ _ => trivial
    | replace _ _ => trivial

/-! ## The sort step

The script before sorting (`presort`: all deletes, then all inserts) is a permutation of the segment
script, and the segment script has strictly increasing positions: so sorting yields it. -/

theorem deletesIn_append (old : List α) (xs : List Nat) (a l1 l2 : Nat) :
    deletesIn old xs a (l1 + l2) = deletesIn old xs a l1 ++ deletesIn old xs (a + l1) l2 := by
  simp only [deletesIn, ← List.range'_append_1, List.filter_append, List.filterMap_append]

theorem deletesIn_eq_delRun (old : List α) (xs : List Nat) (len : Nat) :
    ∀ a, (∀ p, a ≤ p → p < a + len → p ∉ xs) → deletesIn old xs a len = delRun old a len := by
  induction len with
  | zero => intro a _; rfl
  | succ len ih =>
    intro a h
    have ha : (!xs.contains a) = true := by
      simpa using h a (Nat.le_refl _) (Nat.lt_add_of_pos_right (Nat.succ_pos len))
    have ih' := ih (a + 1) fun p h1 h2 => h p (Nat.le_of_succ_le h1) (Nat.add_right_comm a 1 len ▸ h2)
    simp only [deletesIn] at ih' ⊢
    rw [List.range'_succ, List.filter_cons_of_pos (p := fun p => !xs.contains p) ha, List.filterMap_cons,
      delRun, ih']
    cases old[a]? <;> rfl

theorem deletesIn_hit (old : List α) (xs : List Nat) (a : Nat) (h : a ∈ xs) :
    deletesIn old xs a 1 = [] := by
  simp [deletesIn, h]

theorem deletesIn_drop_small (old : List α) (x : Nat) (xs : List Nat) (a len : Nat) (h : x < a) :
    deletesIn old (x :: xs) a len = deletesIn old xs a len := by
  simp only [deletesIn]
  congr 1
  apply List.filter_congr
  intro p hp
  have hne : ¬ p = x := Nat.ne_of_gt (Nat.lt_of_lt_of_le h (List.mem_range'_1.mp hp).1)
  simp [hne]

theorem validFrom_fst_ge {old new : List α} :
    ∀ (tr : Trace) (lx ly : Nat), ValidFrom old new lx ly tr → ∀ p ∈ tr.map Prod.fst, lx ≤ p := by
  refine ValidFrom.ind (fun _ _ _ hp => (List.not_mem_nil hp).elim) ?_
  intro lx _ x _ tr hlx _ _ _ _ _ ih p hp
  rcases List.mem_cons.mp hp with rfl | hp
  · exact hlx
  · exact Nat.le_trans (Nat.le_succ_of_le hlx) (ih p hp)

/-- The insert loop written with `insOpt` (equal to `insertsFrom` for traces inside `new`). -/
def insStruct (new : List α) : Int → Nat → Trace → Script α
  | px, first, [] => insOpt px (slice new first new.length) false
  | px, first, (x, y) :: tr => insOpt px (slice new first y) false ++ insStruct new (Int.ofNat x) (y + 1) tr

theorem insertsFrom_eq (old new : List α) :
    ∀ (tr : Trace) (lx ly : Nat), ValidFrom old new lx ly tr → ∀ prev : Option (Nat × Nat),
      insertsFrom new prev tr =
        insStruct new (match prev with | none => -1 | some p => (p.1 : Int))
          (match prev with | none => 0 | some p => p.2 + 1) tr := by
  -- the `here` of `insertsFrom` is an `insOpt`
  have here : ∀ (start : Int) (first last : Nat), last ≤ new.length →
      (if first < last then [(start, Change.insert (slice new first last) false)] else [])
        = insOpt start (slice new first last) false := fun start first last hl => by
    simp only [insOpt, slice_eq_nil_iff new first last hl, ite_not]
  refine ValidFrom.ind ?_ ?_
  · intro _ _ prev
    unfold insertsFrom
    exact here _ _ _ (Nat.le_refl _)
  · intro _ _ x y tr _ _ _ hy _ _ ih prev
    unfold insertsFrom
    simp only [insStruct]
    rw [here _ _ _ (Nat.le_of_lt hy), ih (some (x, y))]
    rfl

theorem perm_shuffle (A B H C S : Script α) (h : (B ++ C).Perm S) :
    ((A ++ B) ++ (H ++ C)).Perm (H ++ (A ++ S)) := by
  have h1 : ((A ++ B) ++ (H ++ C)).Perm (H ++ ((A ++ B) ++ C)) := by
    rw [← List.append_assoc, ← List.append_assoc H]
    exact (List.perm_append_comm (l₁ := A ++ B) (l₂ := H)).append_right C
  refine h1.trans (List.Perm.append_left H ?_)
  rw [List.append_assoc]
  exact List.Perm.append_left A h

theorem presort_perm_segs (old new : List α) :
    ∀ (tr : Trace) (c first : Nat), ValidFrom old new c first tr → ∀ px : Int,
      (deletesIn old (tr.map Prod.fst) c (old.length - c) ++ insStruct new px first tr).Perm
        (segs old new px first c tr) := by
  refine ValidFrom.ind ?_ ?_
  · intro c first px
    rw [List.map_nil, insStruct, segs, deletesIn_eq_delRun old [] _ c fun _ _ _ => List.not_mem_nil]
    exact List.perm_append_comm
  · intro c first x y tr hcx _ hx _ _ hv' ih px
    have hge := validFrom_fst_ge tr _ _ hv'
    -- the deletes in front of `x` are a full run, `x` itself is kept, behind `x` the trace point is irrelevant
    have hsplit : old.length - c = (x - c) + (1 + (old.length - (x + 1))) := by
      rw [Nat.add_comm 1, Nat.sub_add_eq, Nat.sub_add_cancel (Nat.sub_pos_of_lt hx), Nat.add_comm,
        Nat.sub_add_sub_cancel (Nat.le_of_lt hx) hcx]
    have hcx' : c + (x - c) = x := Nat.add_sub_cancel' hcx
    have h1 : deletesIn old (x :: tr.map Prod.fst) c (x - c) = delRun old c (x - c) := by
      apply deletesIn_eq_delRun
      intro p _ hp2 hmem
      rw [hcx'] at hp2
      rcases List.mem_cons.mp hmem with rfl | hmem
      · exact Nat.lt_irrefl _ hp2
      · exact Nat.lt_asymm hp2 (hge p hmem)
    rw [List.map_cons, insStruct, segs, hsplit, deletesIn_append, deletesIn_append, h1, hcx', deletesIn_hit old _ x (List.mem_cons_self ..),
      List.nil_append, deletesIn_drop_small old x _ (x + 1) _ (Nat.lt_succ_self x)]
    exact perm_shuffle _ _ _ _ _ (ih _)

theorem posLt_unique {l : Script α} (h : l.Pairwise posLt) :
    ∀ a ∈ l, ∀ b ∈ l, a.1 = b.1 → a = b := by
  induction l with
  | nil => intro a ha; cases ha
  | cons c l ih =>
    obtain ⟨hc, hl⟩ := List.pairwise_cons.mp h
    intro a ha b hb hab
    have hne : ∀ e ∈ l, c.1 ≠ e.1 := fun e he => Int.ne_of_lt (hc e he)
    rcases List.mem_cons.mp ha with rfl | ha' <;> rcases List.mem_cons.mp hb with rfl | hb'
    · rfl
    · exact absurd hab (hne b hb')
    · exact absurd hab.symm (hne a ha')
    · exact ih hl a ha' b hb' hab

theorem cle_iff (a b : Int × Change α) :
    cle a b = true ↔ a.1 < b.1 ∨ (a.1 = b.1 ∧ a.2.rank ≤ b.2.rank) := by
  simp only [cle, Bool.or_eq_true, Bool.and_eq_true, decide_eq_true_eq, beq_iff_eq]

theorem cle_trans (a b c : Int × Change α) (h1 : cle a b = true) (h2 : cle b c = true) : cle a c = true := by
  rw [cle_iff] at *
  rcases h1 with h1 | ⟨e1, r1⟩
  · rcases h2 with h2 | ⟨e2, _⟩
    · exact Or.inl (Int.lt_trans h1 h2)
    · exact Or.inl (e2 ▸ h1)
  · rcases h2 with h2 | ⟨e2, r2⟩
    · exact Or.inl (e1 ▸ h2)
    · exact Or.inr ⟨e1.trans e2, Nat.le_trans r1 r2⟩

theorem cle_total (a b : Int × Change α) : (cle a b || cle b a) = true := by
  rw [Bool.or_eq_true, cle_iff, cle_iff]
  rcases Int.lt_trichotomy a.1 b.1 with h | h | h
  · exact Or.inl (Or.inl h)
  · exact (Nat.le_total a.2.rank b.2.rank).imp (fun r => Or.inr ⟨h, r⟩) (fun r => Or.inr ⟨h.symm, r⟩)
  · exact Or.inr (Or.inl h)

/-- **The sort step**: for a valid trace the stably sorted script is the segment script. -/
theorem sorted_eq_segs (old new : List α) (tr : Trace) (hv : ValidTrace old new tr) :
    (presort old new tr).mergeSort cle = segs old new (-1) 0 0 tr := by
  have hperm : (presort old new tr).Perm (segs old new (-1) 0 0 tr) := by
    unfold presort deletes
    rw [insertsFrom_eq old new tr 0 0 hv none]
    exact presort_perm_segs old new tr 0 0 hv (-1)
  have hsorted : (segs old new (-1) 0 0 tr).Pairwise posLt :=
    segs_pairwise tr hv (Nat.zero_le _) (by decide)
  have hp2 : ((presort old new tr).mergeSort cle).Perm (segs old new (-1) 0 0 tr) :=
    (List.mergeSort_perm _ _).trans hperm
  -- a `cle`-sorted permutation of a list with strictly increasing positions is that list
  apply List.Perm.eq_of_pairwise (le := fun a b => cle a b = true) _
    (List.pairwise_mergeSort cle_trans cle_total _) _ hp2
  · intro a b ha hb h1 h2
    apply posLt_unique hsorted a (hp2.subset ha) b hb
    rw [cle_iff] at h1 h2
    rcases h1 with h1 | ⟨e, _⟩
    · rcases h2 with h2 | ⟨e, _⟩
      · exact absurd (Int.lt_trans h1 h2) (Int.lt_irrefl _)
      · exact e.symm
    · exact e
  · exact hsorted.imp fun hab => (cle_iff _ _).mpr (Or.inl hab)

theorem computeWith_eq {old new : List α} {tr : Trace} (hv : ValidTrace old new tr) :
    computeWith old new tr = fuse (segs old new (-1) 0 0 tr) :=
  congrArg fuse (sorted_eq_segs old new tr hv)

/-! ## A list against itself with something appended (the auto-import shape `old ++ [x]`) -/

/-- The diagonal trace `(k,k), (k+1,k+1), …` of length `d` (oldest first). -/
def diag (k d : Nat) : Trace := (List.range' k d).map (fun i => (i, i))

theorem diag_succ (k d : Nat) : diag k (d + 1) = (k, k) :: diag (k + 1) d := by
  simp [diag, List.range'_succ]

theorem snake_diag_prefix (old suf : List α) (d : Nat) :
    ∀ (k : Nat) (tr : Trace), k + d = old.length →
      followSnake old (old ++ suf) k k tr = (old.length, old.length, (diag k d).reverse ++ tr) := by
  induction d with
  | zero =>
    intro k tr hk
    obtain rfl : k = old.length := hk
    rw [followSnake, dif_neg (Nat.lt_irrefl _)]
    rfl
  | succ d ih =>
    intro k tr hk
    have hlt : k < old.length := hk ▸ Nat.lt_add_of_pos_right (Nat.succ_pos d)
    have hnew : (old ++ suf)[k]? = some old[k] := by
      rw [List.getElem?_append_left hlt, List.getElem?_eq_getElem hlt]
    rw [followSnake]
    simp only [hlt, ↓reduceDIte, hnew, ↓reduceIte]
    rw [ih (k + 1) ((k, k) :: tr) ((Nat.add_right_comm k 1 d).trans hk), diag_succ, List.reverse_cons, List.append_assoc]
    rfl

theorem segs_diag_prefix (old suf : List α) (d : Nat) :
    ∀ (k : Nat) (px : Int), px + 1 = k → k + d = old.length →
      segs old (old ++ suf) px k k (diag k d) = insOpt (Int.ofNat old.length - 1) suf false := by
  induction d with
  | zero =>
    intro k px hp hk
    obtain rfl : k = old.length := hk
    obtain rfl : px = Int.ofNat old.length - 1 := (Int.sub_eq_iff_eq_add.mpr hp.symm).symm
    rw [diag, List.range'_zero, List.map_nil, segs, slice_length, List.drop_left, Nat.sub_self, delRun,
      List.append_nil]
  | succ d ih =>
    intro k px hp hk
    rw [diag_succ, segs, slice_self, Nat.sub_self, delRun, List.nil_append]
    exact ih (k + 1) _ rfl ((Nat.add_right_comm k 1 d).trans hk)

theorem snake_diag (old : List α) (x : α) (d : Nat) :
    ∀ (k : Nat) (tr : Trace), k + d = old.length →
      followSnake old (old ++ [x]) k k tr = (old.length, old.length, (diag k d).reverse ++ tr) :=
  snake_diag_prefix old [x] d

theorem segs_diag (old : List α) (x : α) (d : Nat) :
    ∀ (k : Nat), k + d = old.length →
      segs old (old ++ [x]) (Int.ofNat k - 1) k k (diag k d)
        = [(Int.ofNat old.length - 1, Change.insert [x] false)] :=
  fun k hk => segs_diag_prefix old [x] d k _ (Int.sub_add_cancel _ _) hk

theorem snake_diag_self (old : List α) (d : Nat) :
    ∀ (k : Nat) (tr : Trace), k + d = old.length →
      followSnake old old k k tr = (old.length, old.length, (diag k d).reverse ++ tr) := by
  have := snake_diag_prefix old [] d
  rwa [List.append_nil] at this

theorem segs_diag_self (old : List α) (d : Nat) :
    ∀ (k : Nat) (px : Int), px + 1 = k → k + d = old.length → segs old old px k k (diag k d) = [] := by
  have := segs_diag_prefix old [] d
  rwa [List.append_nil] at this

theorem followSnake_stop (old new : List α) {x : Nat} (h : ¬ x < old.length) (y : Nat) (tr : Trace) :
    followSnake old new x y tr = (x, y, tr) := by
  rw [followSnake, dif_neg h]

theorem longestTrace_append_one (old : List α) (x : α) (fuel : Nat) :
    longestTrace (fuel + 2) old (old ++ [x]) = some (diag 0 old.length) := by
  unfold longestTrace
  rw [snake_diag old x old.length 0 [] (Nat.zero_add _)]
  -- round 1 expands `(n, n)`: both snakes stop at once (`followSnake_stop`), at `(n + 1, n)` and at
  -- `(n, n + 1)`, which is the end; round 2 finds it in the table
  simp [bfs, lookupV, expand, visit, followSnake_stop old (old ++ [x]) (Nat.lt_irrefl _),
    followSnake_stop old (old ++ [x]) (Nat.not_succ_lt_self)]

theorem longestTrace_self (l : List α) (fuel : Nat) :
    longestTrace (fuel + 1) l l = some (diag 0 l.length) := by
  unfold longestTrace
  rw [snake_diag_self l l.length 0 [] (Nat.zero_add _)]
  simp [bfs, lookupV]

/-! ## Soundness of the search

Every trace stored in the visited table is valid when read backwards (`VInv`), so whatever `bfs`
returns is a valid trace. -/

/-- Newest-first trace (the `Rc` cons list) all of whose points are matches, strictly decreasing,
and strictly below `(x, y)`. -/
def RValid (old new : List α) : Nat → Nat → Trace → Prop
  | _, _, [] => True
  | x, y, (a, b) :: tr =>
    a < x ∧ b < y ∧ (∃ e, old[a]? = some e ∧ new[b]? = some e) ∧ RValid old new a b tr

theorem RValid.mono {old new : List α} {x y x' y' : Nat} {tr : Trace}
    (h : RValid old new x y tr) (hx : x ≤ x') (hy : y ≤ y') : RValid old new x' y' tr := by
  cases tr with
  | nil => trivial
  | cons p tr =>
    obtain ⟨a, b⟩ := p
    simp only [RValid] at h ⊢
    exact ⟨Nat.lt_of_lt_of_le h.1 hx, Nat.lt_of_lt_of_le h.2.1 hy, h.2.2⟩

theorem followSnake_rvalid (old new : List α) (x y : Nat) (tr : Trace)
    (h : RValid old new x y tr) :
    RValid old new (followSnake old new x y tr).1 (followSnake old new x y tr).2.1
      (followSnake old new x y tr).2.2 := by
  -- case1: `old[x] = new[y]`, the snake goes on; case2-4: it stops (mismatch, `new` or `old` exhausted)
  fun_induction followSnake old new x y tr with
  | case1 x y tr hx hb ih =>
    apply ih
    simp only [RValid]
    exact ⟨Nat.lt_succ_self x, Nat.lt_succ_self y, ⟨old[x], List.getElem?_eq_getElem hx, hb⟩, h⟩
  | case2 => exact h
  | case3 => exact h
  | case4 => exact h

theorem rvalid_reverse (old new : List α) (tr : Trace) :
    ∀ (x y : Nat) (acc : Trace), RValid old new x y tr → ValidFrom old new x y acc →
      ValidFrom old new 0 0 (tr.reverse ++ acc) := by
  induction tr with
  | nil => intro x y acc _ h; simpa using h.mono (Nat.zero_le _) (Nat.zero_le _)
  | cons p tr ih =>
    intro x y acc h hacc
    obtain ⟨a, b⟩ := p
    simp only [RValid] at h
    have := ih a b ((a, b) :: acc) h.2.2.2
      (by simp only [ValidFrom]; exact ⟨Nat.le_refl _, Nat.le_refl _, h.2.2.1, hacc.mono h.1 h.2.1⟩)
    simpa using this

/-- every stored trace is valid, read backwards, below its key -/
def VInv (old new : List α) (v : Visited) : Prop :=
  ∀ e ∈ v, RValid old new e.1.1 e.1.2 e.2

theorem lookupV_some {v : Visited} {k : Nat × Nat} {t : Trace} (h : lookupV v k = some t) :
    (k, t) ∈ v := by
  obtain ⟨e, hf, rfl⟩ := Option.map_eq_some_iff.mp h
  have hk := List.find?_some hf
  obtain rfl : e.1 = k := of_decide_eq_true hk
  exact List.mem_of_find?_eq_some hf

theorem visit_inv {old new : List α} {v : Visited} {nf : List (Nat × Nat)} {k : Nat × Nat} {t : Trace}
    (hv : VInv old new v) (ht : RValid old new k.1 k.2 t) : VInv old new (visit v nf k t).1 := by
  unfold visit
  split
  · exact hv
  · intro e he
    simp only [List.mem_cons] at he
    rcases he with rfl | he
    · exact ht
    · exact hv e he

theorem expand_inv (old new : List α) (fr : List (Nat × Nat)) (v : Visited) (nf : List (Nat × Nat))
    (hv : VInv old new v) : VInv old new (expand old new fr v nf).1 := by
  fun_induction expand old new fr v nf with
  | case1 => exact hv
  -- a frontier node without entry is skipped
  | case2 x y fr v nf hl ih => exact ih hv
  -- both successors of `(x, y)` are visited
  | case3 x y fr v nf tr hl a b r1 r2 ih =>
    apply ih
    have ht := hv _ (lookupV_some hl)
    simp only at ht
    apply visit_inv
    · apply visit_inv hv
      exact followSnake_rvalid old new (x + 1) y tr (ht.mono (Nat.le_succ x) (Nat.le_refl y))
    · exact followSnake_rvalid old new x (y + 1) tr (ht.mono (Nat.le_refl x) (Nat.le_succ y))

theorem bfs_valid (old new : List α) (fuel : Nat) (v : Visited) (fr : List (Nat × Nat))
    (hv : VInv old new v) (tr : Trace) (h : bfs old new fuel v fr = some tr) :
    ValidTrace old new tr := by
  fun_induction bfs old new fuel v fr with
  -- case1: out of fuel; case2: `(n, m)` is in the table; case3: one more round
  | case1 => simp at h
  | case2 fuel v fr t hl =>
    simp at h
    subst h
    have := rvalid_reverse old new t _ _ [] (hv _ (lookupV_some hl)) trivial
    rwa [List.append_nil] at this
  | case3 fuel v fr hl r ih => exact ih (expand_inv old new fr v [] hv) h

/-! ## Completeness of the search

While `(n, m)` is unvisited, some frontier node inside the rectangle `[0, n] × [0, m]` has an unvisited
successor `succN` strictly closer to `(n, m)` (`chain` finds it from any visited node); one round of
`expand` visits it (`expand_ext`).  So the least distance of a visited node to `(n, m)` falls in every
round and `n + m + 2` rounds suffice (`bfs_total`). -/

theorem followSnake_bounds (old new : List α) (x y : Nat) (tr : Trace) :
    x ≤ (followSnake old new x y tr).1 ∧ y ≤ (followSnake old new x y tr).2.1 ∧
    (x ≤ old.length → (followSnake old new x y tr).1 ≤ old.length) ∧
    (y ≤ new.length → (followSnake old new x y tr).2.1 ≤ new.length) := by
  fun_induction followSnake old new x y tr with
  | case1 x y tr hx hb ih =>
    have hy := (List.getElem?_eq_some_iff.mp hb).1
    exact ⟨Nat.le_of_succ_le ih.1, Nat.le_of_succ_le ih.2.1, fun _ => ih.2.2.1 hx, fun _ => ih.2.2.2 hy⟩
  | case2 => simp
  | case3 => simp
  | case4 => simp

/-- Where the snake from `(x, y)` ends. -/
def snakeEnd (old new : List α) (x y : Nat) : Nat × Nat :=
  ((followSnake old new x y []).1, (followSnake old new x y []).2.1)

/-- The end point of a snake does not depend on the trace it carries. -/
theorem followSnake_key (old new : List α) (x y : Nat) (tr : Trace) :
    ((followSnake old new x y tr).1, (followSnake old new x y tr).2.1) = snakeEnd old new x y := by
  unfold snakeEnd
  generalize ([] : Trace) = tr'
  fun_induction followSnake old new x y tr generalizing tr' with
  | case1 x y tr hx hb ih =>
    rw [followSnake.eq_def old new x y tr']
    simp only [hx, ↓reduceDIte, hb, ↓reduceIte]
    exact ih _
  | case2 x y tr hx b hb hne =>
    rw [followSnake.eq_def old new x y tr']
    simp [hx, hb, hne]
  | case3 x y tr hx hb =>
    rw [followSnake.eq_def old new x y tr']
    simp [hx, hb]
  | case4 x y tr hx =>
    rw [followSnake.eq_def old new x y tr']
    simp [hx]

/-- `k` is visited -/
def hasKey (v : Visited) (k : Nat × Nat) : Prop := ∃ t, (k, t) ∈ v

theorem lookupV_isSome_iff (v : Visited) (k : Nat × Nat) : (lookupV v k).isSome = true ↔ hasKey v k := by
  constructor
  · intro h
    cases hl : lookupV v k with
    | none => simp [hl] at h
    | some t => exact ⟨t, lookupV_some hl⟩
  · intro ⟨t, ht⟩
    unfold lookupV
    simp only [Option.isSome_map, List.find?_isSome]
    exact ⟨(k, t), ht, by simp⟩

theorem lookupV_none_iff (v : Visited) (k : Nat × Nat) : lookupV v k = none ↔ ¬ hasKey v k := by
  rw [← lookupV_isSome_iff]
  cases lookupV v k <;> simp

/-- `r` extends `(v, nf)`: keys and frontier only grow, every new key is in the new frontier and every
new frontier node is a key. -/
structure Ext (v : Visited) (nf : List (Nat × Nat)) (r : Visited × List (Nat × Nat)) : Prop where
  keys : ∀ k, hasKey v k → hasKey r.1 k
  newKeys : ∀ k, hasKey r.1 k → hasKey v k ∨ k ∈ r.2
  front : ∀ k ∈ nf, k ∈ r.2
  newFront : ∀ k ∈ r.2, k ∈ nf ∨ hasKey r.1 k

theorem Ext.refl (v : Visited) (nf : List (Nat × Nat)) : Ext v nf (v, nf) :=
  ⟨fun _ h => h, fun _ h => Or.inl h, fun _ h => h, fun _ h => Or.inl h⟩

theorem Ext.trans {v : Visited} {nf : List (Nat × Nat)} {r s : Visited × List (Nat × Nat)}
    (h1 : Ext v nf r) (h2 : Ext r.1 r.2 s) : Ext v nf s := by
  refine ⟨fun k h => h2.keys k (h1.keys k h), fun k h => ?_, fun k h => h2.front k (h1.front k h),
    fun k h => ?_⟩
  · rcases h2.newKeys k h with h | h
    · exact (h1.newKeys k h).imp_right (h2.front k)
    · exact Or.inr h
  · rcases h2.newFront k h with h | h
    · exact (h1.newFront k h).imp_right (h2.keys k)
    · exact Or.inr h

theorem visit_spec (v : Visited) (nf : List (Nat × Nat)) (k : Nat × Nat) (t : Trace) :
    hasKey (visit v nf k t).1 k ∧ Ext v nf (visit v nf k t) := by
  unfold visit
  split
  next hk => exact ⟨(lookupV_isSome_iff v k).mp hk, Ext.refl v nf⟩
  · refine ⟨⟨t, List.mem_cons_self ..⟩, fun k' ⟨t', ht'⟩ => ⟨t', List.mem_cons_of_mem _ ht'⟩, ?_,
      fun k' hk' => List.mem_append_left _ hk', ?_⟩
    · intro k' ⟨t', ht'⟩
      rcases List.mem_cons.mp ht' with h | ht'
      · exact Or.inr (List.mem_append_right _ (List.mem_singleton.mpr (Prod.mk.inj h).1))
      · exact Or.inl ⟨t', ht'⟩
    · intro k' hk'
      rcases List.mem_append.mp hk' with hk' | hk'
      · exact Or.inl hk'
      · exact Or.inr ⟨t, List.mem_singleton.mp hk' ▸ List.mem_cons_self ..⟩

theorem expand_ext (old new : List α) (fr : List (Nat × Nat)) (v : Visited) (nf : List (Nat × Nat)) :
    Ext v nf (expand old new fr v nf) ∧ ∀ p ∈ fr, hasKey v p →
      hasKey (expand old new fr v nf).1 (snakeEnd old new (p.1 + 1) p.2) ∧
      hasKey (expand old new fr v nf).1 (snakeEnd old new p.1 (p.2 + 1)) := by
  fun_induction expand old new fr v nf with
  | case1 v nf => exact ⟨Ext.refl v nf, fun p hp => nomatch hp⟩
  -- a frontier node without entry is skipped (and is no key)
  | case2 x y fr v nf hl ih =>
    refine ⟨ih.1, fun p hp hk => ?_⟩
    rcases List.mem_cons.mp hp with rfl | hp
    · exact absurd hk ((lookupV_none_iff v _).mp hl)
    · exact ih.2 p hp hk
  -- `a`, `b`: the snakes behind the two successors of `(x, y)`; `r1`, `r2`: the state after visiting their ends
  | case3 x y fr v nf tr hl a b r1 r2 ih =>
    obtain ⟨a1, ea⟩ := visit_spec v nf (a.1, a.2.1) a.2.2
    obtain ⟨b1, eb⟩ := visit_spec r1.1 r1.2 (b.1, b.2.1) b.2.2
    have ka : (a.1, a.2.1) = snakeEnd old new (x + 1) y := followSnake_key old new (x + 1) y tr
    have kb : (b.1, b.2.1) = snakeEnd old new x (y + 1) := followSnake_key old new x (y + 1) tr
    refine ⟨(ea.trans eb).trans ih.1, fun p hp hk => ?_⟩
    rcases List.mem_cons.mp hp with rfl | hp
    · rw [← ka, ← kb]
      exact ⟨ih.1.keys _ (eb.keys _ a1), ih.1.keys _ b1⟩
    · exact ih.2 p hp ((ea.trans eb).keys p hk)

theorem expand_spec (old new : List α) (fr : List (Nat × Nat)) (v : Visited) (nf : List (Nat × Nat)) :
    (∀ k, hasKey v k → hasKey (expand old new fr v nf).1 k) ∧
    (∀ k, hasKey (expand old new fr v nf).1 k → hasKey v k ∨ k ∈ (expand old new fr v nf).2) ∧
    (∀ k ∈ nf, k ∈ (expand old new fr v nf).2) ∧
    (∀ k ∈ (expand old new fr v nf).2, k ∈ nf ∨ hasKey (expand old new fr v nf).1 k) ∧
    (∀ p ∈ fr, hasKey v p →
      hasKey (expand old new fr v nf).1 (snakeEnd old new (p.1 + 1) p.2) ∧
      hasKey (expand old new fr v nf).1 (snakeEnd old new p.1 (p.2 + 1))) :=
  have ⟨e, h⟩ := expand_ext old new fr v nf
  ⟨e.keys, e.newKeys, e.front, e.newFront, h⟩

section total
variable (old new : List α)

/-- inside the rectangle `[0, n] × [0, m]` -/
def Good (p : Nat × Nat) : Prop := p.1 ≤ old.length ∧ p.2 ≤ new.length
/-- distance to `(n, m)` -/
def rank (p : Nat × Nat) : Nat := (old.length - p.1) + (new.length - p.2)
/-- the successor that certainly makes progress inside the rectangle -/
def succN (p : Nat × Nat) : Nat × Nat :=
  if p.1 < old.length then snakeEnd old new (p.1 + 1) p.2 else snakeEnd old new p.1 (p.2 + 1)

theorem expand_succN {fr : List (Nat × Nat)} {v : Visited} (nf : List (Nat × Nat)) {p : Nat × Nat}
    (hp : p ∈ fr) (hk : hasKey v p) : hasKey (expand old new fr v nf).1 (succN old new p) := by
  have := (expand_ext old new fr v nf).2 p hp hk
  unfold succN
  split
  · exact this.1
  · exact this.2

theorem succN_good (p : Nat × Nat) (hg : Good old new p) (hne : p ≠ (old.length, new.length)) :
    Good old new (succN old new p) ∧ rank old new (succN old new p) < rank old new p := by
  obtain ⟨x, y⟩ := p
  have hx : x ≤ old.length := hg.1
  have hy : y ≤ new.length := hg.2
  unfold succN
  split
  · rename_i hlt
    obtain ⟨h1, h2, h3, h4⟩ := followSnake_bounds old new (x + 1) y []
    exact ⟨⟨h3 hlt, h4 hy⟩, Nat.add_lt_add_of_lt_of_le (Nat.sub_lt_sub_left hlt h1) (Nat.sub_le_sub_left h2 _)⟩
  · rename_i hlt
    have hym : y < new.length := by
      refine Nat.lt_of_le_of_ne hy fun h => hne ?_
      rw [h, Nat.le_antisymm hx (Nat.le_of_not_lt hlt)]
    obtain ⟨h1, h2, h3, h4⟩ := followSnake_bounds old new x (y + 1) []
    exact ⟨⟨h3 hx, h4 hym⟩, Nat.add_lt_add_of_le_of_lt (Nat.sub_le_sub_left h1 _) (Nat.sub_lt_sub_left hym h2)⟩

/-- While `(n, m)` is unvisited: from a visited node `g` inside the rectangle, following `succN` leads to a
visited node `h`, no further from `(n, m)` than `g`, whose `succN` is unvisited.  `r` is only the bound of
the induction (`succN` lowers `rank`). -/
theorem chain (v : Visited) (hnm : ¬ hasKey v (old.length, new.length)) :
    ∀ (r : Nat) (g : Nat × Nat), rank old new g ≤ r → hasKey v g → Good old new g →
      ∃ h, hasKey v h ∧ Good old new h ∧ rank old new h ≤ rank old new g ∧
        h ≠ (old.length, new.length) ∧ ¬ hasKey v (succN old new h) := by
  intro r
  induction r with
  | zero =>
    intro g hr hk hg
    have h0 := Nat.add_eq_zero_iff.mp (Nat.le_zero.mp hr)
    have : g = (old.length, new.length) :=
      Prod.ext (Nat.le_antisymm hg.1 (Nat.le_of_sub_eq_zero h0.1)) (Nat.le_antisymm hg.2 (Nat.le_of_sub_eq_zero h0.2))
    exact absurd (this ▸ hk) hnm
  | succ r ih =>
    intro g hr hk hg
    have hne : g ≠ (old.length, new.length) := fun h => hnm (h ▸ hk)
    by_cases hs : hasKey v (succN old new g)
    · obtain ⟨hg', hr'⟩ := succN_good old new g hg hne
      obtain ⟨h, h1, h2, h3, h4, h5⟩ := ih (succN old new g) (Nat.le_of_lt_succ (Nat.lt_of_lt_of_le hr' hr)) hs hg'
      exact ⟨h, h1, h2, Nat.le_trans h3 (Nat.le_of_lt hr'), h4, h5⟩
    · exact ⟨g, hk, hg, Nat.le_refl _, hne, hs⟩

/-- BFS invariant: frontier nodes are visited; a visited node inside the rectangle that is not in
the frontier has already been expanded (its progressing successor is visited). -/
def BInv (v : Visited) (fr : List (Nat × Nat)) : Prop :=
  (∀ p ∈ fr, hasKey v p) ∧
  (∀ p, hasKey v p → Good old new p → p ≠ (old.length, new.length) → p ∉ fr → hasKey v (succN old new p))

theorem bfs_total (f : Nat) (v : Visited) (fr : List (Nat × Nat)) : BInv old new v fr →
      (∃ g, hasKey v g ∧ Good old new g ∧ rank old new g < f) → ∃ tr, bfs old new f v fr = some tr := by
  fun_induction bfs old new f v fr with
  -- case1: out of fuel; case2: `(n, m)` is in the table; case3: one more round
  | case1 => intro _ ⟨g, _, _, h⟩; exact absurd h (Nat.not_lt_zero _)
  | case2 => intro _ _; exact ⟨_, rfl⟩
  | case3 f v fr hl r ih =>
    intro hinv ⟨g, hk, hg, hr⟩
    have hnm := (lookupV_none_iff v _).mp hl
    obtain ⟨h, h1, h2, h3, h4, h5⟩ := chain old new v hnm (rank old new g) g (Nat.le_refl _) hk hg
    have hfr : h ∈ fr := Classical.not_not.mp fun hnot => h5 (hinv.2 h h1 h2 h4 hnot)
    have ext := (expand_ext old new fr v []).1
    obtain ⟨hg', hr'⟩ := succN_good old new h h2 h4
    apply ih
    · refine ⟨?_, ?_⟩
      · intro p hp
        rcases ext.newFront p hp with h | h
        · simp at h
        · exact h
      · intro p hp hgp hnp hnf
        rcases ext.newKeys p hp with hv | hv
        · by_cases hpf : p ∈ fr
          · exact expand_succN old new [] hpf hv
          · exact ext.keys _ (hinv.2 p hv hgp hnp hpf)
        · exact absurd hv hnf
    · exact ⟨succN old new h, expand_succN old new [] hfr h1, hg', Nat.lt_of_lt_of_le hr' (Nat.le_trans h3 (Nat.le_of_lt_succ hr))⟩

end total

end SamVerif.Differ
