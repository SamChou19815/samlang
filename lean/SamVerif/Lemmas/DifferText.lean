import SamVerif.Lemmas.Differ
import SamVerif.Model.DifferText
/-! Lemmas on the text level of the list differ (C16). The range of a change is located between two
boundaries `bnd` of the layout; what the edits of the fused segment script do to the document is stated
with the cursor invariant `TYields`, the text-level `Yields`.  Then: the item chunks of the expected text
are the new list; `(line, column)` edits as offset edits; `flatten`, `off` and `splitLines`; and, used by
nothing else, what the model's `runTE` computes. -/
namespace SamVerif.Differ
variable {α : Type} [DecidableEq α]
set_option linter.unusedSectionVars false

/-- Layout of the old items in the document text: item `i` occupies `[st i, en i)`. -/
structure Lay (st en : Nat → Nat) : Prop where
  le : ∀ i, st i ≤ en i
  mono : ∀ i j, i < j → en i ≤ st j

/-! ## Boundaries

`bnd st en c` is the insertion point between item `c - 1` and item `c`.  The boundaries increase, item
`c` lies between boundary `c` and boundary `c + 1`, and the range of a change at position `p` lies
between boundary `p` and boundary `p + 1`: that is all the range theorems need. -/

theorem Lay.bnd_le_st {st en : Nat → Nat} (h : Lay st en) (c : Nat) : bnd st en c ≤ st c := by
  unfold bnd
  split
  · subst_vars; exact Nat.le_refl _
  · exact h.mono _ _ (by omega)

theorem bnd_succ (st en : Nat → Nat) (c : Nat) : bnd st en (c + 1) = en c := rfl

theorem Lay.bnd_mono {st en : Nat → Nat} (h : Lay st en) {a b : Nat} (hab : a ≤ b) :
    bnd st en a ≤ bnd st en b := by
  induction hab with
  | refl => exact Nat.le_refl _
  | step _ ih => exact Nat.le_trans ih (Nat.le_trans (h.bnd_le_st _) (h.le _))

theorem Lay.const (o : Nat) : Lay (fun _ => o) (fun _ => o) :=
  ⟨fun _ => Nat.le_refl o, fun _ _ _ => Nat.le_refl o⟩

theorem toNat_add_one {p : Int} (h : 0 ≤ p) : (p + 1).toNat = p.toNat + 1 := Int.toNat_add_nat h 1

theorem rangeOf_insert (st en : Nat → Nat) (p : Int) (items : List α) (ld : Bool) :
    rangeOf st en (p, Change.insert items ld) = (bnd st en (p + 1).toNat, bnd st en (p + 1).toNat) := by
  by_cases hp : p < 0
  · rw [rangeOf, if_pos hp, Int.toNat_eq_zero.mpr (Int.add_one_le_of_lt hp)]; rfl
  · rw [rangeOf, if_neg hp, toNat_add_one (Int.not_lt.mp hp)]; rfl

theorem rangeOf_ins (st en : Nat → Nat) (c : Nat) (items : List α) (ld : Bool) :
    rangeOf st en (Int.ofNat c - 1, Change.insert items ld) = (bnd st en c, bnd st en c) := by
  rw [rangeOf_insert, Int.sub_add_cancel]; rfl

theorem rangeOf_del (st en : Nat → Nat) (c : Nat) (e : α) :
    rangeOf st en (Int.ofNat c, Change.delete e) = (st c, en c) := rfl

theorem rangeOf_rep (st en : Nat → Nat) (c : Nat) (e b : α) :
    rangeOf st en (Int.ofNat c, Change.replace e b) = (st c, en c) := rfl

theorem rangeOf_const (o : Nat) (ch : Int × Change α) : rangeOf (fun _ => o) (fun _ => o) ch = (o, o) := by
  fun_cases rangeOf (fun _ => o) (fun _ => o) ch <;> rfl

theorem rangeOf_bnd {st en : Nat → Nat} (hl : Lay st en) (e : Int × Change α)
    (hnn : (∀ it ld, e.2 ≠ Change.insert it ld) → 0 ≤ e.1) :
    bnd st en e.1.toNat ≤ (rangeOf st en e).1 ∧ (rangeOf st en e).1 ≤ (rangeOf st en e).2 ∧
      (rangeOf st en e).2 = bnd st en (e.1 + 1).toNat := by
  -- case1: insert before everything; case2: insert behind old element `p`; case3: delete or replace of `p`
  fun_cases rangeOf st en e with
  | case1 p it ld hp =>
    rw [Int.toNat_eq_zero.mpr (Int.le_of_lt hp), Int.toNat_eq_zero.mpr (Int.add_one_le_of_lt hp)]
    exact ⟨Nat.le_refl _, Nat.le_refl _, rfl⟩
  | case2 p it ld hp =>
    rw [toNat_add_one (Int.not_lt.mp hp)]
    exact ⟨Nat.le_trans (hl.bnd_le_st _) (hl.le _), Nat.le_refl _, rfl⟩
  | case3 p ch hch =>
    rw [toNat_add_one (hnn hch)]
    exact ⟨hl.bnd_le_st _, hl.le _, rfl⟩

/-- One pair of consecutive-or-later changes: `Before` gives ordered, non-overlapping ranges in every
monotone layout. -/
theorem range_le_of_before (st en : Nat → Nat) (hmono : ∀ i j, i < j → en i ≤ st j)
    (hle : ∀ i, st i ≤ en i) (a b : Int × Change α)
    (ha : (∀ it ld, a.2 ≠ Change.insert it ld) → 0 ≤ a.1)
    (hb : (∀ it ld, b.2 ≠ Change.insert it ld) → 0 ≤ b.1)
    (hab : Before a b) : (rangeOf st en a).2 ≤ (rangeOf st en b).1 := by
  have hl : Lay st en := ⟨hle, hmono⟩
  rw [(rangeOf_bnd hl a ha).2.2]
  rcases hab with h | ⟨h, _, ⟨it, ld, hi⟩⟩
  · exact Nat.le_trans (hl.bnd_mono (Int.toNat_le_toNat (Int.add_one_le_of_lt h))) (rangeOf_bnd hl b hb).1
  · obtain ⟨pb, cb⟩ := b
    subst hi
    rw [rangeOf_insert, h]
    exact Nat.le_refl _

theorem rangeOf_inside {st en : Nat → Nat} (hl : Lay st en) (e : Int × Change α) {n : Nat}
    (h2 : e.1 < (n : Int)) (hnn : (∀ it ld, e.2 ≠ Change.insert it ld) → 0 ≤ e.1) :
    bnd st en 0 ≤ (rangeOf st en e).1 ∧ (rangeOf st en e).1 ≤ (rangeOf st en e).2 ∧
      (rangeOf st en e).2 ≤ bnd st en n := by
  obtain ⟨hlo, hmid, hhi⟩ := rangeOf_bnd hl e hnn
  have hn : (e.1 + 1).toNat ≤ n := Int.toNat_natCast n ▸ Int.toNat_le_toNat (Int.add_one_le_of_lt h2)
  exact ⟨Nat.le_trans (hl.bnd_mono (Nat.zero_le _)) hlo, hmid, hhi ▸ hl.bnd_mono hn⟩

/-! ## Document slices, one offset edit, chunks

The equations with which the proofs about `applyTE` and `flatChunks` below rewrite. -/

theorem dslice_append (doc : Text) (a b c : Nat) (hab : a ≤ b) (hbc : b ≤ c) :
    dslice doc a b ++ dslice doc b c = dslice doc a c := by
  rw [dslice, dslice, dslice, ← drop_drop_sub doc hab, ← Nat.sub_add_sub_cancel hbc hab, Nat.add_comm,
    List.take_add]

theorem dslice_self (doc : Text) (a : Nat) : dslice doc a a = [] := slice_self doc a

theorem dslice_drop (doc : Text) (a b : Nat) (hab : a ≤ b) : dslice doc a b ++ doc.drop b = doc.drop a :=
  slice_append_drop doc a b hab

theorem applyTE_cons_drop (doc : Text) {o s e : Nat} (hos : o ≤ s) (hse : s ≤ e) (t : Text)
    (E : List (Nat × Nat × Text)) :
    applyTE o (doc.drop o) ((s, e, t) :: E) = dslice doc o s ++ (t ++ applyTE e (doc.drop e) E) := by
  rw [applyTE, drop_drop_sub doc (Nat.le_trans hos hse), List.append_assoc]; rfl

theorem toOffEdits_cons (st en : Nat → Nat) (rnd : α → Text) (ch : Int × Change α) (s : Script α)
    (K : List (Nat × Nat × Text)) :
    toOffEdits st en rnd (ch :: s) ++ K =
      ((rangeOf st en ch).1, (rangeOf st en ch).2, changeText rnd ch.2) :: (toOffEdits st en rnd s ++ K) := rfl

theorem flat_cons (c : Chunk α) (cs : List (Chunk α)) : flatChunks (c :: cs) = c.2 ++ flatChunks cs := by
  simp [flatChunks]

theorem flat_append (a b : List (Chunk α)) : flatChunks (a ++ b) = flatChunks a ++ flatChunks b := by
  simp [flatChunks]

theorem flat_insChunks_cons (rnd : α → Text) (as : List α) :
    ∀ (a : α) (ld : Bool), flatChunks (insChunks rnd (a :: as) ld) =
      (if ld then sepNL else []) ++ joinSep sepNL ((a :: as).map rnd) := by
  induction as with
  | nil =>
    intro a ld
    cases ld <;> simp [insChunks, flatChunks, joinSep]
  | cons b bs ih =>
    intro a ld
    have h := ih b true
    simp only [↓reduceIte] at h
    have e1 : insChunks rnd (a :: b :: bs) ld =
        (if ld then [(none, sepNL)] else []) ++ (some a, rnd a) :: insChunks rnd (b :: bs) true := rfl
    rw [e1, flat_append, flat_cons, h]
    cases ld <;> simp [flatChunks, joinSep, List.append_assoc]

theorem flat_insChunks (rnd : α → Text) (items : List α) (ld : Bool) (h : items ≠ []) :
    flatChunks (insChunks rnd items ld) = changeText rnd (Change.insert items ld) := by
  cases items with
  | nil => exact absurd rfl h
  | cons a as => rw [flat_insChunks_cons]; rfl

/-! ## The fused segment script as text edits

At the text level fusion matters: a fused `replace` keeps the gap in front of the replaced item where
it is, so the proof follows `fuse` through a segment. -/

theorem fuse_del_cons (p : Int) (e : α) (q : Script α) :
    fuse ((p, Change.delete e) :: q) = (p, Change.delete e) :: fuse q := by
  cases q <;> simp [fuse]

theorem fuse_ins_cons_nofuse (p : Int) (items : List α) (ld : Bool) (q : Script α)
    (h : NoDelUpTo (p + 1) q) :
    fuse ((p, Change.insert items ld) :: q) = (p, Change.insert items ld) :: fuse q := by
  cases q with
  | nil => simp [fuse]
  | cons n q =>
    obtain ⟨i2, c⟩ := n
    cases c with
    | insert a b => simp [fuse]
    | replace a b => simp [fuse]
    | delete y =>
      simp only [NoDelUpTo] at h
      cases items with
      | nil => simp [fuse]
      | cons it rest =>
        rw [fuse]
        have : ¬ p = i2 - 1 := fun hp => by
          rw [hp, Int.sub_add_cancel] at h
          exact Int.lt_irrefl i2 h
        simp [this]

theorem fuse_ins_del (c : Nat) (it : α) (rest : List α) (ld : Bool) (e : α) (q : Script α) :
    fuse ((Int.ofNat c - 1, Change.insert (it :: rest) ld) :: (Int.ofNat c, Change.delete e) :: q) =
      (Int.ofNat c, Change.replace e it) :: fuse (insOpt (Int.ofNat (c + 1) - 1) rest true ++ q) := by
  rw [fuse]
  simp only [↓reduceIte]
  have : (Int.ofNat (c + 1) - 1) = Int.ofNat c := by simp
  rw [this]
  cases rest with
  | nil => simp [insOpt]
  | cons a r => simp [insOpt]

/-- The offset edits `E`, met with the cursor anywhere at or in front of offset `o`, copy the document up to
`o` and then yield `R` (the text-level `Yields`).  With the cursor free, a gap or a kept item is put in front
by `mono`, and an edit list sent behind another one is simply its continuation. -/
def TYields (doc : Text) (E : List (Nat × Nat × Text)) (o : Nat) (R : Text) : Prop :=
  ∀ o0, o0 ≤ o → applyTE o0 (doc.drop o0) E = dslice doc o0 o ++ R

section rules
variable {doc : Text} {E : List (Nat × Nat × Text)} {o : Nat} {R : Text}

theorem TYields.nil (doc : Text) (o : Nat) : TYields doc [] o (doc.drop o) :=
  fun o0 h0 => (dslice_drop doc o0 o h0).symm

theorem TYields.mono {o' : Nat} (h : TYields doc E o R) (ho : o' ≤ o) :
    TYields doc E o' (dslice doc o' o ++ R) := fun o0 h0 => by
  rw [h o0 (Nat.le_trans h0 ho), ← List.append_assoc, dslice_append doc o0 o' o h0 ho]

theorem TYields.edit {s e : Nat} (h : TYields doc E e R) (hos : o ≤ s) (hse : s ≤ e) (t : Text) :
    TYields doc ((s, e, t) :: E) o (dslice doc o s ++ (t ++ R)) := fun o0 h0 => by
  have := h e (Nat.le_refl e)
  rw [dslice_self] at this
  rw [applyTE_cons_drop doc (Nat.le_trans h0 hos) hse, this, ← dslice_append doc o0 o s h0 hos, List.append_assoc]
  rfl

end rules

/-- Text-level version of `yields_seg` (with the induction of `yields_delRun` inside, since each delete may
fuse with a pending insert); `K` is whatever edit list is sent behind the script's edits. -/
theorem tseg_yields (doc : Text) (st en : Nat → Nat) (hl : Lay st en) (rnd : α → Text) (old : List α)
    (K : List (Nat × Nat × Text)) (len : Nat) :
    ∀ (items : List α) (ld : Bool) (c : Nat) (rest : Script α) (R : Text),
      c + len ≤ old.length → NoDelUpTo (Int.ofNat (c + len)) rest →
      TYields doc (toOffEdits st en rnd (fuse rest) ++ K) (bnd st en (c + len)) R →
      TYields doc (toOffEdits st en rnd (fuse (insOpt (Int.ofNat c - 1) items ld ++ (delRun old c len ++ rest))) ++ K)
        (bnd st en c) (flatChunks (segChunks doc st en rnd items ld c len) ++ R) := by
  induction len with
  | zero =>
    intro items ld c rest R _ hnd h
    rw [delRun, List.nil_append, segChunks]
    unfold insOpt
    split
    · subst_vars; exact h
    · rename_i hi
      rw [List.singleton_append, fuse_ins_cons_nofuse _ _ _ _ (by rwa [Int.sub_add_cancel]), toOffEdits_cons,
        rangeOf_ins, flat_insChunks rnd items ld hi]
      have := h.edit (Nat.le_refl _) (Nat.le_refl _) (changeText rnd (Change.insert items ld))
      rwa [dslice_self] at this
  | succ len ih =>
    intro items ld c rest R hn hnd h
    have hc : c < old.length := Nat.lt_of_lt_of_le (Nat.lt_add_of_pos_right (Nat.succ_pos len)) hn
    have hlen : c + 1 + len = c + (len + 1) := by rw [Nat.add_assoc, Nat.add_comm 1]
    -- the edit of item `c` is preceded by the gap in front of it and leaves the cursor at `en c`, the
    -- boundary of `c + 1`
    have ih' := fun items ld => (ih items ld (c + 1) rest R (Nat.le_trans (Nat.le_of_eq hlen) hn)
      (by rw [hlen]; exact hnd) (by rw [hlen]; exact h)).edit (hl.bnd_le_st c) (hl.le c)
    rw [delRun, List.getElem?_eq_getElem hc]
    cases items with
    | nil =>
      rw [insOpt, if_pos rfl, List.nil_append, List.cons_append, fuse_del_cons, toOffEdits_cons, rangeOf_del,
        segChunks, flat_cons, List.append_assoc]
      have := ih' [] ld []
      rwa [insOpt, if_pos rfl] at this
    | cons it items =>
      rw [insOpt, if_neg (List.cons_ne_nil _ _), List.singleton_append, List.cons_append, fuse_ins_del,
        toOffEdits_cons, rangeOf_rep, segChunks, flat_cons, flat_cons, List.append_assoc, List.append_assoc]
      exact ih' items true (rnd it)

theorem ttrace_yields (doc : Text) (st en : Nat → Nat) (hl : Lay st en) (rnd : α → Text)
    (old new : List α) (K : List (Nat × Nat × Text)) (RK : Text)
    (hK : TYields doc K (bnd st en old.length) RK) :
    ∀ (tr : Trace) (c first : Nat), ValidFrom old new c first tr → c ≤ old.length →
      TYields doc (toOffEdits st en rnd (fuse (segs old new (Int.ofNat c - 1) first c tr)) ++ K) (bnd st en c)
        (flatChunks (expChunksBody doc st en rnd old new c first tr) ++ RK) := by
  refine ValidFrom.ind ?_ ?_
  · intro c first hc
    have hsum : c + (old.length - c) = old.length := Nat.add_sub_cancel' hc
    have := tseg_yields doc st en hl rnd old K (old.length - c) (slice new first new.length) false c [] RK
      (Nat.le_of_eq hsum) trivial (by rw [hsum, fuse]; exact hK)
    rwa [List.append_nil] at this
  · intro c first x y tr hcx _ hx _ _ hv' ih _
    have hsum : c + (x - c) = x := Nat.add_sub_cancel' hcx
    have hxx : Int.ofNat x < ((x + 1 : Nat) : Int) := Int.ofNat_lt.mpr (Nat.lt_succ_self x)
    have hpx : Int.ofNat x = Int.ofNat (x + 1) - 1 := by simp
    -- the kept item `x` and the gap in front of it are copied
    have hrest := ((hpx ▸ ih hx).mono (hl.le x)).mono (hl.bnd_le_st x)
    rw [segs, expChunksBody, flat_append, flat_cons, flat_cons, List.append_assoc, List.append_assoc,
      List.append_assoc]
    exact tseg_yields doc st en hl rnd old K (x - c) (slice new first y) false c _ _
      (Nat.le_trans (Nat.le_of_eq hsum) (Nat.le_of_lt hx)) (by rw [hsum]; exact nodel_segs tr hv' hx hxx hxx)
      (by rw [hsum]; exact hrest)

theorem expChunks_split (doc : Text) (st en : Nat → Nat) (rnd : α → Text) (old new : List α) (tr : Trace) :
    ∀ (c first : Nat), expChunks doc st en rnd old new c first tr =
      expChunksBody doc st en rnd old new c first tr ++ [(none, doc.drop (bnd st en old.length))] := by
  induction tr with
  | nil => intro c first; simp [expChunks, expChunksBody]
  | cons p tr ih =>
    intro c first
    obtain ⟨x, y⟩ := p
    simp only [expChunks, expChunksBody, ih, List.append_assoc, List.cons_append]

theorem computeWith_yields (doc : Text) (st en : Nat → Nat) (hl : Lay st en) (rnd : α → Text)
    (old new : List α) (tr : Trace) (hv : ValidTrace old new tr) :
    TYields doc (toOffEdits st en rnd (computeWith old new tr)) (bnd st en 0)
      (flatChunks (expChunks doc st en rnd old new 0 0 tr)) := by
  have := ttrace_yields doc st en hl rnd old new [] _ (TYields.nil doc _) tr 0 0 hv (Nat.zero_le _)
  rw [List.append_nil] at this
  rw [computeWith_eq hv, expChunks_split, flat_append, flat_cons]
  simpa [flatChunks] using this

/-! ## The items of the chunk sequence

Read in order, the item chunks of the expected text are the new list (the second half of `text_lift`). -/

theorem items_insChunks (rnd : α → Text) (items : List α) :
    ∀ ld, (insChunks rnd items ld).filterMap (·.1) = items := by
  induction items with
  | nil => intro ld; simp [insChunks]
  | cons a as ih => intro ld; cases ld <;> simp [insChunks, ih]

theorem items_segChunks (doc : Text) (st en : Nat → Nat) (rnd : α → Text) (len : Nat) :
    ∀ (items : List α) (ld : Bool) (c : Nat),
      (segChunks doc st en rnd items ld c len).filterMap (·.1) = items := by
  induction len with
  | zero => intro items ld c; simp [segChunks, items_insChunks]
  | succ len ih =>
    intro items ld c
    cases items with
    | nil => simp [segChunks, ih]
    | cons it rest => simp [segChunks, ih]

theorem items_expChunks (doc : Text) (st en : Nat → Nat) (rnd : α → Text) (old new : List α) :
    ∀ (tr : Trace) (c first : Nat), ValidFrom old new c first tr →
      (expChunks doc st en rnd old new c first tr).filterMap (·.1) = new.drop first := by
  refine ValidFrom.ind ?_ ?_
  · intro c first
    simp only [expChunks, List.filterMap_append, items_segChunks, slice_length, List.filterMap_cons,
      List.filterMap_nil, List.append_nil]
  · intro c first x y tr _ hfy _ hy hox _ ih
    simp only [expChunks, List.filterMap_append, items_segChunks, List.filterMap_cons, hox]
    rw [ih, ← slice_append_drop new first y hfy, List.drop_eq_getElem_cons hy]

/-! ## `(line, column)` edits as offset edits

`applyEdits` maps positions to offsets with `off`; doing so to the edits of `importEdits` / `toplevelEdits` gives
`toOffEdits` over the layout of offsets, so the theorems on `toOffEdits` apply to documents of lines. -/

theorem importEdits_off (doc : Doc) (locs : List (Pos × Pos)) (rnd : α → Text) (s : Script α) :
    (importEdits locs rnd s).map (fun ed => (off doc ed.start, off doc ed.stop, ed.text)) =
      toOffEdits (fun i => off doc (locStart locs i)) (fun i => off doc (locStop locs i)) rnd s := by
  simp only [importEdits, toOffEdits, List.map_map]
  apply List.map_congr_left
  intro ch _
  obtain ⟨p, c⟩ := ch
  cases c with
  | insert it ld =>
    simp only [Function.comp, rangeOfPos, rangeOf]
    split <;> rfl
  | delete x => rfl
  | replace x y => rfl

theorem toplevelEdits_off_empty (doc : Doc) (locsI : List (Pos × Pos)) (rnd : α → Text) (s : Script α) :
    (toplevelEdits locsI [] rnd s).map (fun ed => (off doc ed.start, off doc ed.stop, ed.text)) =
      toOffEdits
        (fun _ => off doc (if locsI.isEmpty then ((0, 0) : Pos) else locStop locsI (locsI.length - 1)))
        (fun _ => off doc (if locsI.isEmpty then ((0, 0) : Pos) else locStop locsI (locsI.length - 1))) rnd s := by
  simp only [toplevelEdits, toOffEdits, List.map_map, rangeOf_const]
  rfl

theorem rangeOfPos_ins (locs : List (Pos × Pos)) (c : Nat) (items : List α) (ld : Bool) :
    rangeOfPos locs (Int.ofNat c - 1, Change.insert items ld) =
      if c = 0 then (locStart locs 0, locStart locs 0) else (locStop locs (c - 1), locStop locs (c - 1)) := by
  cases c with
  | zero => rfl
  | succ c =>
    have h : Int.ofNat (c + 1) - 1 = Int.ofNat c := Int.add_sub_cancel (c : Int) 1
    have h0 : ¬ Int.ofNat c < 0 := Int.not_lt.mpr (Int.natCast_nonneg c)
    rw [h, rangeOfPos, if_neg h0, if_neg (Nat.succ_ne_zero c)]
    rfl

theorem applyEdits_point (doc : Doc) (p : Pos) (t : Text) :
    applyEdits doc [⟨p, p, t⟩] = (flatten doc).take (off doc p) ++ t ++ (flatten doc).drop (off doc p) := rfl

/-! ## Lines and offsets

`flatten`, `off` and `splitLines` line by line: what `flatten_splitLines`, `off_line` and
`full_document_edit_text` (`Props/C16.lean`) rest on. -/

theorem splitLines_ne_nil (t : Text) : splitLines t ≠ [] := by
  fun_cases splitLines t <;> simp

theorem flatten_cons_cons (a b : Text) (rest : Doc) :
    flatten (a :: b :: rest) = a ++ sepNL ++ flatten (b :: rest) := by
  simp [flatten, joinSep]

theorem foldl_len_add (xs : Doc) (a : Nat) :
    xs.foldl (fun a l => a + l.length + 1) a = a + xs.foldl (fun a l => a + l.length + 1) 0 := by
  induction xs generalizing a with
  | nil => simp
  | cons x xs ih =>
    simp only [List.foldl_cons]
    rw [ih (a + x.length + 1), ih (0 + x.length + 1)]
    simp only [Nat.zero_add, Nat.add_assoc]

theorem off_succ (a : Text) (doc : Doc) (l c : Nat) :
    off (a :: doc) (l + 1, c) = a.length + 1 + off doc (l, c) := by
  simp only [off, List.take_succ_cons, List.foldl_cons]
  rw [foldl_len_add]
  simp only [Nat.zero_add, Nat.add_assoc]

theorem flatten_length_le_off (doc : Doc) :
    ∀ (l c : Nat), doc.length ≤ l → (flatten doc).length ≤ off doc (l, c) := by
  induction doc with
  | nil => intro l c _; simp [flatten, joinSep]
  | cons a doc ih =>
    intro l c hl
    cases l with
    | zero => simp at hl
    | succ l =>
      rw [off_succ]
      cases doc with
      | nil => exact Nat.le_trans (Nat.le_succ a.length) (Nat.le_add_right _ _)
      | cons b rest =>
        rw [flatten_cons_cons, List.length_append]
        exact Nat.add_le_add (Nat.le_of_eq List.length_append) (ih l c (Nat.le_of_succ_le_succ hl))

/-! ## `applyTE` / `runTE` on appended edit lists

What the model's `runTE` computes; the composition theorems go through `ttrace_yields` and use none of it. -/

theorem applyTE_append (E K : List (Nat × Nat × Text)) :
    ∀ (pos : Nat) (rest : Text),
      applyTE pos rest (E ++ K) =
        (runTE pos rest E).1 ++ applyTE (runTE pos rest E).2.1 (runTE pos rest E).2.2 K := by
  induction E with
  | nil => intro pos rest; simp [runTE]
  | cons ed E ih =>
    intro pos rest
    obtain ⟨s, e, t⟩ := ed
    simp only [List.cons_append, applyTE, runTE]
    rw [ih]
    simp [List.append_assoc]

theorem applyTE_run (E : List (Nat × Nat × Text)) (pos : Nat) (rest : Text) :
    applyTE pos rest E = (runTE pos rest E).1 ++ (runTE pos rest E).2.2 := by
  have := applyTE_append E [] pos rest
  rwa [List.append_nil] at this

theorem runTE_wf (doc : Text) (B : Nat) (E : List (Nat × Nat × Text)) :
    ∀ (pos : Nat), pos ≤ B → (∀ e ∈ E, pos ≤ e.1 ∧ e.1 ≤ e.2.1 ∧ e.2.1 ≤ B) →
      E.Pairwise (fun a b => a.2.1 ≤ b.1) →
      (runTE pos (doc.drop pos) E).2.2 = doc.drop (runTE pos (doc.drop pos) E).2.1 ∧
        pos ≤ (runTE pos (doc.drop pos) E).2.1 ∧ (runTE pos (doc.drop pos) E).2.1 ≤ B := by
  induction E with
  | nil => intro pos hB _ _; simp [runTE, hB]
  | cons ed E ih =>
    intro pos hB hb hp
    obtain ⟨s, e, t⟩ := ed
    obtain ⟨h1, h2⟩ := List.pairwise_cons.mp hp
    obtain ⟨hps, hse, heB⟩ := hb (s, e, t) (List.mem_cons_self ..)
    have hpe : pos ≤ e := Nat.le_trans hps hse
    simp only [runTE, drop_drop_sub doc hpe]
    have := ih e heB (fun x hx => ⟨h1 x hx, (hb x (List.mem_cons_of_mem _ hx)).2⟩) h2
    exact ⟨this.1, Nat.le_trans hpe this.2.1, this.2.2⟩

end SamVerif.Differ

