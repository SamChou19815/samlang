import SamVerif.Model.ScopeSig
import SamVerif.Lemmas.Scope
/-! Folds of `HashMap::insert`: the last entry with a key wins, and with distinct keys the order does not matter.
For the hoisting of toplevel names (`Lemmas/ScopeOrder.lean`) and the signature map (`Props/C13.lean`). -/
namespace SamVerif.Sig
open SamVerif.Scope (insertKV lookupKV lookupKV_insertKV)

variable {γ κ ν : Type} [DecidableEq κ]

/-- a fold of inserts is "last declaration with that key wins" -/
theorem lookup_foldl_insert (key : γ → κ) (val : γ → ν) (l : List γ) (acc : List (κ × ν)) (k : κ) :
    lookupKV k (l.foldl (fun acc t => insertKV (key t) (val t) acc) acc) =
      match l.reverse.find? (fun t => key t = k) with
      | some t => some (val t)
      | none => lookupKV k acc := by
  induction l generalizing acc with
  | nil => simp
  | cons t l ih =>
    simp only [List.foldl_cons, ih, List.reverse_cons, List.find?_append]
    cases h : l.reverse.find? (fun t => key t = k) with
    | some u => simp
    | none =>
      by_cases hk : key t = k <;> simp [hk, lookupKV_insertKV]

theorem find_unique (key : γ → κ) {l : List γ} (hnd : (l.map key).Nodup) {t : γ} (ht : t ∈ l) :
    l.find? (fun x => key x = key t) = some t := by
  induction l with
  | nil => cases ht
  | cons a l ih =>
    simp only [List.map_cons, List.nodup_cons] at hnd
    rcases List.mem_cons.mp ht with rfl | h
    · simp
    · have : key a ≠ key t := fun e => hnd.1 (e ▸ List.mem_map_of_mem h)
      simp [this, ih hnd.2 h]

/-- with pairwise distinct keys, a fold of inserts does not depend on the order -/
theorem lookup_foldl_insert_perm (key : γ → κ) (val : γ → ν) {l l' : List γ} (hp : l.Perm l')
    (hnd : (l.map key).Nodup) (acc : List (κ × ν)) (k : κ) :
    lookupKV k (l.foldl (fun acc t => insertKV (key t) (val t) acc) acc) =
      lookupKV k (l'.foldl (fun acc t => insertKV (key t) (val t) acc) acc) := by
  rw [lookup_foldl_insert, lookup_foldl_insert]
  have hnd' : (l'.map key).Nodup := (hp.map key).nodup_iff.mp hnd
  have hr : (l.reverse.map key).Nodup := by rw [List.map_reverse]; exact (List.reverse_perm _).nodup_iff.mpr hnd
  have hr' : (l'.reverse.map key).Nodup := by rw [List.map_reverse]; exact (List.reverse_perm _).nodup_iff.mpr hnd'
  by_cases h : ∃ t ∈ l, key t = k
  · obtain ⟨t, ht, rfl⟩ := h
    rw [find_unique key hr (by simpa using ht), find_unique key hr' (by simpa using hp.mem_iff.mp ht)]
  · have h1 : l.reverse.find? (fun t => key t = k) = none := by
      simp only [List.find?_eq_none, List.mem_reverse]
      intro t ht; simpa using fun e => h ⟨t, ht, e⟩
    have h2 : l'.reverse.find? (fun t => key t = k) = none := by
      simp only [List.find?_eq_none, List.mem_reverse]
      intro t ht; simpa using fun e => h ⟨t, hp.mem_iff.mpr ht, e⟩
    rw [h1, h2]

end SamVerif.Sig
