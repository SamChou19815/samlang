import SamVerif.Model.Fmt
/-!
Helper lemmas for C08 (`Props/C08.lean`) over `Model/Fmt.lean`. The fuelled parser functions are
wrapped into relations with an explicit sufficient budget (`PLevel n k ts e r`: for every budget
≥ `n`, `parseLevel · k ts` returns `(e, r)`), for which the compositional rules of a
recursive-descent parser hold. `main` is the loop invariant of precedence climbing: `printE e ++ rest`
is read as `e`, continuing the loop of `e`'s own level with `e` as accumulator, within `B e` plus
the budget of the continuation. `Lemmas/FmtFull.lean` is the same development for the full model;
the per-node facts about the printer's table that are proved there for every expression are here
the hypothesis `RT e`. After `main` and the budget bound `B_le` comes `frame`, the stability of
the five parser functions under a larger budget and an appended continuation (behind
`parseTop_mono`, `paren_top`, `mono_all`, `ext_all` and C13's `Lemmas/C13Paren.lean`). The part on
string literals is independent of the parser: `closedFrom` characterises the lexer's string scan,
and escaping inverts unescaping on every lexed literal (for `roundtrip_str`).
-/
namespace SamVerif.Fmt

def PTop (n : Nat) (ts : List Tok) (e : Expr) (r : List Tok) : Prop :=
  ∀ f, n ≤ f → parseTop f ts = some (e, r)
def PBase (n : Nat) (ts : List Tok) (e : Expr) (r : List Tok) : Prop :=
  ∀ f, n ≤ f → parseBase f ts = some (e, r)
def PUn (n : Nat) (ts : List Tok) (e : Expr) (r : List Tok) : Prop :=
  ∀ f, n ≤ f → parseUnary f ts = some (e, r)
def PLevel (n k : Nat) (ts : List Tok) (e : Expr) (r : List Tok) : Prop :=
  ∀ f, n ≤ f → parseLevel f k ts = some (e, r)
def PLoop (n k : Nat) (acc : Expr) (ts : List Tok) (e : Expr) (r : List Tok) : Prop :=
  ∀ f, n ≤ f → parseLoop f k acc ts = some (e, r)

theorem PTop.mono {n n' ts e r} (h : PTop n ts e r) (hn : n ≤ n') : PTop n' ts e r :=
  fun f hf => h f (by omega)
theorem PBase.mono {n n' ts e r} (h : PBase n ts e r) (hn : n ≤ n') : PBase n' ts e r :=
  fun f hf => h f (by omega)
theorem PLevel.mono {n n' k ts e r} (h : PLevel n k ts e r) (hn : n ≤ n') : PLevel n' k ts e r :=
  fun f hf => h f (by omega)
theorem PLoop.mono {n n' k a ts e r} (h : PLoop n k a ts e r) (hn : n ≤ n') : PLoop n' k a ts e r :=
  fun f hf => h f (by omega)

/-- the form in which one unfolding of a fuelled function gives a rule of the budgeted relations. -/
theorem of_succ {α : Type} {p : Nat → Option α} {n : Nat} {x : α}
    (h : ∀ f, n ≤ f → p (f + 1) = some x) : ∀ f, n + 1 ≤ f → p f = some x
  | f + 1, hf => h f (Nat.le_of_succ_le_succ hf)

theorem of_succ2 {α β γ : Type} {p1 : Nat → Option α} {p2 : Nat → Option β} {p : Nat → Option γ}
    {n1 n2 : Nat} {x1 : α} {x2 : β} {x : γ} (h1 : ∀ f, n1 ≤ f → p1 f = some x1)
    (h2 : ∀ f, n2 ≤ f → p2 f = some x2)
    (h : ∀ f, p1 f = some x1 → p2 f = some x2 → p (f + 1) = some x) :
    ∀ f, max n1 n2 + 1 ≤ f → p f = some x
  | f + 1, hf => h f (h1 f (by omega)) (h2 f (by omega))

def notKw (ts : List Tok) : Prop := ∀ k r, ts ≠ .kwIf k :: r ∧ ts ≠ .kwMatch k :: r
def startsBase (ts : List Tok) : Prop := ∀ r, ts ≠ .bang :: r ∧ ts ≠ .op .minus :: r

theorem ptop_if (k : Nat) (r : List Tok) : PTop 1 (.kwIf k :: r) (.ifElse k) r := by
  refine of_succ fun f' _ => ?_
  simp [parseTop]
theorem ptop_match (k : Nat) (r : List Tok) : PTop 1 (.kwMatch k :: r) (.matchE k) r := by
  refine of_succ fun f' _ => ?_
  simp [parseTop]

theorem ptop_level {n ts e r} (h : PLevel n 0 ts e r) (hk : notKw ts) : PTop (n + 1) ts e r := by
  refine of_succ fun f' hf' => ?_
  rw [parseTop]
  · exact h f' hf'
  · intro k ts' he; exact (hk k ts').2 he
  · intro k ts' he; exact (hk k ts').1 he

theorem pbase_atom (a : Nat) (r : List Tok) : PBase 1 (.atom a :: r) (.atom a) r := by
  refine of_succ fun f' _ => ?_
  simp [parseBase]

theorem pbase_paren {n ts e r} (h : PTop n ts e (.rp :: r)) : PBase (n + 1) (.lp :: ts) e r := by
  refine of_succ fun f' hf' => ?_
  simp [parseBase, h f' hf']

theorem pbase_lam {n ts body r} (k : Nat) (h : PTop n ts body r) :
    PBase (n + 1) (.lam k :: ts) (.lambda k body) r := by
  refine of_succ fun f' hf' => ?_
  simp [parseBase, h f' hf']

theorem pun_not {n ts e r} (h : PLevel n 6 ts e r) : PUn (n + 1) (.bang :: ts) (.unary .not e) r := by
  refine of_succ fun f' hf' => ?_
  simp [parseUnary, h f' hf']

theorem pun_neg {n ts e r} (h : PLevel n 6 ts e r) :
    PUn (n + 1) (.op .minus :: ts) (.unary .neg e) r := by
  refine of_succ fun f' hf' => ?_
  simp [parseUnary, h f' hf']

theorem pun_other {n ts e r} (h : PLevel n 6 ts e r) (hs : startsBase ts) : PUn (n + 1) ts e r := by
  refine of_succ fun f' hf' => ?_
  rw [parseUnary]
  · exact h f' hf'
  · intro ts' he; exact (hs ts').1 he
  · intro ts' he; exact (hs ts').2 he

theorem plevel6 {n1 n2 k ts x e r1 r} (hk : 6 ≤ k) (h1 : PBase n1 ts x r1)
    (h2 : PLoop n2 6 x r1 e r) : PLevel (max n1 n2 + 1) k ts e r :=
  of_succ2 h1 h2 fun f e1 e2 => by simp [parseLevel, hk, e1, e2]

theorem plevel5 {n ts e r} (h : PUn n ts e r) : PLevel (n + 1) 5 ts e r := by
  refine of_succ fun f' hf' => ?_
  simp [parseLevel, h f' hf']

theorem plevel_step {n1 n2 k ts x e r1 r} (hk : k < 5) (h1 : PLevel n1 (k + 1) ts x r1)
    (h2 : PLoop n2 k x r1 e r) : PLevel (max n1 n2 + 1) k ts e r := by
  refine of_succ2 h1 h2 fun f e1 e2 => ?_
  have a : ¬ (6 ≤ k) := by omega
  have b : ¬ (k = 5) := by omega
  simp [parseLevel, a, b, e1, e2]

/-- the loop level that would consume the token, if any. -/
def bl : Tok → Option Nat
  | .op o => some o.plevel
  | .post _ _ => some 6
  | _ => none

/-- the leading token of `ts` is not consumed by the loop of any level ≥ `k`. -/
def stopsAbove (k : Nat) (ts : List Tok) : Prop :=
  ∀ t rest b, ts = t :: rest → bl t = some b → b < k

theorem plevel_le4 (o : BinOp) : o.plevel ≤ 4 := by cases o <;> decide

theorem bl_le6 {t : Tok} {b : Nat} (h : bl t = some b) : b ≤ 6 := by
  cases t with
  | op o => have := plevel_le4 o; simp [bl] at h; omega
  | post p fld => simp [bl] at h; omega
  | _ => simp [bl] at h

theorem ploop_stop {k : Nat} {e : Expr} {ts : List Tok}
    (h : ∀ t rest, ts = t :: rest → bl t ≠ some k) : PLoop 1 k e ts e ts := by
  refine of_succ fun f' _ => ?_
  cases ts with
  | nil => simp [parseLoop]
  | cons t ts =>
    have ht := h t ts rfl
    cases t with
    | op o =>
      have : ¬ o.plevel = k := by simpa [bl] using ht
      simp [parseLoop, this]
    | post p fld =>
      have : ¬ k = 6 := by intro e; apply ht; simp [bl, e]
      simp [parseLoop, this]
    | _ => simp [parseLoop]

theorem ploop_stop_of {k k' : Nat} {e : Expr} {ts : List Tok} (h : stopsAbove k ts) (hk : k ≤ k') :
    PLoop 1 k' e ts e ts :=
  ploop_stop (fun t rest ht hb => by have := h t rest k' ht hb; omega)

theorem ploop_step {n1 n2 k o acc x e ts r1 r} (ho : BinOp.plevel o = k)
    (h1 : PLevel n1 (k + 1) ts x r1) (h2 : PLoop n2 k (.binary o acc x) r1 e r) :
    PLoop (max n1 n2 + 1) k acc (.op o :: ts) e r :=
  of_succ2 h1 h2 fun f e1 e2 => by simp [parseLoop, ho, e1, e2]

theorem ploop_post {n acc p fld e ts r} (hlt : fld = true → startsLt ts = false)
    (h : PLoop n 6 (.post acc p fld) ts e r) : PLoop (n + 1) 6 acc (.post p fld :: ts) e r := by
  refine of_succ fun f' hf' => ?_
  have : (fld && startsLt ts) = false := by
    cases fld <;> simp_all
  simp [parseLoop, h f' hf', this]

/-- what follows does not turn a final member name into the start of type arguments. -/
def okAfter (e : Expr) (rest : List Tok) : Prop := lastField e = true → startsLt rest = false

theorem startsLt_of_stops0 {rest : List Tok} (h : stopsAbove 0 rest) : startsLt rest = false := by
  cases rest with
  | nil => rfl
  | cons t r =>
    cases t <;> try rfl
    rename_i o
    have := h (.op o) r o.plevel rfl rfl
    omega

theorem startsLt_rp (T : List Tok) : startsLt (.rp :: T) = false := rfl

theorem stopsAbove_mono {k k' : Nat} {ts : List Tok} (h : stopsAbove k ts) (hk : k ≤ k') :
    stopsAbove k' ts := fun t rest b ht hb => Nat.lt_of_lt_of_le (h t rest b ht hb) hk

theorem stopsAbove_of_none {k : Nat} {t : Tok} (T : List Tok) (h : bl t = none) :
    stopsAbove k (t :: T) := by
  intro t' rest b he hb; cases he; rw [h] at hb; cases hb

theorem stopsAbove_rp (k : Nat) (t : List Tok) : stopsAbove k (.rp :: t) := stopsAbove_of_none t rfl

theorem stopsAbove_nil (k : Nat) : stopsAbove k [] := by
  intro t' rest b h; cases h

theorem stopsAbove_op {k : Nat} {o : BinOp} {t : List Tok} (h : o.plevel < k) :
    stopsAbove k (.op o :: t) := by
  intro t' rest b he hb; cases he; simp [bl] at hb; omega

theorem stopsAbove_7 (ts : List Tok) : stopsAbove 7 ts := by
  intro t rest b _ hb; have := bl_le6 hb; omega

/-- a result obtained at a tighter level is also the result at every looser level whose loops
all stop at the remaining input (crossing the unary level needs a non-unary first token). -/
theorem lift {n j : Nat} (hj : j ≤ 6) {ts : List Tok} {x : Expr} {r : List Tok}
    (h : PLevel n j ts x r) (hb : j = 6 → startsBase ts) {k : Nat} (hk : k ≤ j)
    (hs : stopsAbove k r) : PLevel (n + 2 * (j - k)) k ts x r := by
  -- downwards from `j`, by induction on the number `d` of levels crossed
  suffices H : ∀ d k, k + d = j → stopsAbove k r → PLevel (n + 2 * d) k ts x r from
    H (j - k) k (by omega) hs
  intro d
  induction d with
  | zero => intro k hk _; have : k = j := by omega
            subst this; exact h
  | succ d ih =>
    intro k hk hs
    have h1 : PLevel (n + 2 * d) (k + 1) ts x r := ih (k + 1) (by omega) (stopsAbove_mono hs (by omega))
    by_cases h5 : k = 5
    · subst h5
      have : j = 6 := by omega
      have hd : d = 0 := by omega
      subst hd
      exact (plevel5 (pun_other h1 (hb this))).mono (by omega)
    · exact (plevel_step (by omega) h1 (ploop_stop_of hs (Nat.le_refl k))).mono (by omega)

theorem plevel_of_base {n k : Nat} {ts : List Tok} {e : Expr} {r : List Tok} (hb : PBase n ts e r)
    (hsb : startsBase ts) (hk : k ≤ 6) (hs : stopsAbove k r) : PLevel (n + 14) k ts e r := by
  have h6 := plevel6 (Nat.le_refl 6) hb (ploop_stop_of (e := e) hs hk)
  exact (lift (Nat.le_refl 6) h6 (fun _ => hsb) hk hs).mono (by omega)

theorem paren_append (ts T : List Tok) : paren ts ++ T = .lp :: (ts ++ .rp :: T) := by
  simp [paren]

theorem shortcutOk_lt (r : Expr) : shortcutOk .lt r = false := by
  cases r <;> simp [shortcutOk]

theorem printE_binary (o : BinOp) (l r : Expr) :
    printE (.binary o l r) =
      (if lParen o l then paren (printE l) else printE l) ++
        .op o :: (if rParen o l r then paren (printE r) else printE r) := by
  simp only [printE, lParen, rParen, sub]
  by_cases h0 : o = .lt ∧ endsMember l = true
  · obtain ⟨rfl, hm⟩ := h0
    by_cases h1 : l.prec = 4 + BinOp.lt.pprec
    · simp [hm, h1]
    · simp [hm, h1, shortcutOk_lt]
  · by_cases h1 : l.prec = 4 + o.pprec
    · simp [h0, h1]
    · by_cases h2 : r.prec = 4 + o.pprec ∧ shortcutOk o r = true
      · simp [h0, h1, h2]
      · simp [h0, h1, h2]

theorem endsMember_of_lastField (e : Expr) (h : lastField e = true) : endsMember e = true := by
  -- the arms of `lastField` that can be `true`: a member access (case4), the bare operand of a
  -- unary (case6), the bare right operand of a binary (case8), a lambda body (case9)
  fun_induction lastField e with
  | case4 e p fld => simpa [endsMember] using h
  | case6 u a hp ih =>
    simp only [endsMember, Bool.and_eq_true, decide_eq_true_eq]
    refine ⟨?_, ih h⟩
    simp [needParen] at hp; omega
  | case8 o l r hp ih => exact ih h
  | case9 k b ih => exact ih h
  | _ => cases h

theorem lvl_le6 (e : Expr) : e.lvl ≤ 6 := by
  cases e with
  | binary o _ _ => have := plevel_le4 o; simp only [Expr.lvl]; omega
  | _ => simp [Expr.lvl]

theorem prec_le12 (e : Expr) : e.prec ≤ 12 := by
  cases e with
  | binary o _ _ => cases o <;> simp [Expr.prec, BinOp.pprec]
  | _ => simp [Expr.prec]

def headBase (ts : List Tok) : Prop := ∃ t r, ts = t :: r ∧ (t = .lp ∨ ∃ a, t = .atom a)
def headOk (ts : List Tok) : Prop :=
  ∃ t r, ts = t :: r ∧ (t = .lp ∨ (∃ a, t = .atom a) ∨ t = .bang ∨ t = .op .minus)

theorem headBase_append {ts : List Tok} (h : headBase ts) (T : List Tok) : headBase (ts ++ T) := by
  obtain ⟨t, r, rfl, ht⟩ := h; exact ⟨t, r ++ T, rfl, ht⟩
theorem headOk_append {ts : List Tok} (h : headOk ts) (T : List Tok) : headOk (ts ++ T) := by
  obtain ⟨t, r, rfl, ht⟩ := h; exact ⟨t, r ++ T, rfl, ht⟩
theorem headOk_of_base {ts : List Tok} (h : headBase ts) : headOk ts := by
  obtain ⟨t, r, rfl, ht⟩ := h
  refine ⟨t, r, rfl, ?_⟩
  rcases ht with h | h
  · exact .inl h
  · exact .inr (.inl h)
theorem headBase_paren (ts : List Tok) : headBase (paren ts) := ⟨.lp, ts ++ [.rp], rfl, .inl rfl⟩

theorem startsBase_of_headBase {ts : List Tok} (h : headBase ts) : startsBase ts := by
  obtain ⟨t, r, rfl, ht⟩ := h
  rcases ht with rfl | ⟨a, rfl⟩ <;> exact fun _ => ⟨nofun, nofun⟩
theorem notKw_of_headOk {ts : List Tok} (h : headOk ts) : notKw ts := by
  obtain ⟨t, r, rfl, ht⟩ := h
  rcases ht with rfl | ⟨a, rfl⟩ | rfl | rfl <;> exact fun _ _ => ⟨nofun, nofun⟩

theorem head_base (e : Expr) (h : RT e = true) (ho : e.operandOk = true) (hl : e.lvl = 6) :
    headBase (printE e) := by
  induction e with
  | atom a => exact ⟨.atom a, [], rfl, .inr ⟨a, rfl⟩⟩
  | post e p fld ih =>
    simp only [RT, Bool.and_eq_true, Bool.or_eq_true, decide_eq_true_eq] at h
    simp only [printE, sub]
    by_cases hp : needParen 1 false e = true
    · simp only [hp, if_true]; exact headBase_append (headBase_paren _) _
    · simp only [hp]
      rcases h.2 with h2 | h2
      · exact absurd h2 hp
      · exact headBase_append (ih h.1 h2.1 (by have := lvl_le6 e; omega)) _
  | unary u e _ => simp [Expr.lvl] at hl
  | binary o l r _ _ => simp [Expr.lvl] at hl; have := plevel_le4 o; omega
  | ifElse k => simp [Expr.operandOk] at ho
  | matchE k => simp [Expr.operandOk] at ho
  | lambda k b _ => simp [Expr.operandOk] at ho

theorem head_ok (e : Expr) (h : RT e = true) (ho : e.operandOk = true) : headOk (printE e) := by
  induction e with
  | atom a => exact headOk_of_base (head_base _ h ho rfl)
  | post e p fld _ => exact headOk_of_base (head_base _ h ho rfl)
  | unary u e _ =>
    cases u
    · exact ⟨.bang, _, rfl, .inr (.inr (.inl rfl))⟩
    · exact ⟨.op .minus, _, rfl, .inr (.inr (.inr rfl))⟩
  | binary o l r ihl _ =>
    simp only [RT, Bool.and_eq_true, Bool.or_eq_true, decide_eq_true_eq] at h
    rw [printE_binary]
    by_cases hp : lParen o l = true
    · simp only [hp, if_true]; exact headOk_append (headOk_of_base (headBase_paren _)) _
    · simp only [hp]
      rcases h.1.1.2 with h2 | h2
      · exact absurd h2 hp
      · exact headOk_append (ihl h.1.1.1.1 h2.1) _
  | ifElse k => simp [Expr.operandOk] at ho
  | matchE k => simp [Expr.operandOk] at ho
  | lambda k b _ => simp [Expr.operandOk] at ho

/-- recursion budget sufficient for the printed form of `e` (linear in the number of tokens). The
increments are round upper bounds, counted as for `FmtFull.B` (`Lemmas/FmtFull.lean`): reading an
operand costs at most 40 (`operand_paren`), so a node with one operand pays 60 with its own rules
and `binary` 120. -/
def B : Expr → Nat
  | .atom _ => 4
  | .post e _ _ => B e + 60
  | .unary _ e => B e + 60
  | .binary _ l r => B l + B r + 120
  | .ifElse _ => 4
  | .matchE _ => 4
  | .lambda _ b => B b + 60

/-- conclusion of the main lemma for one expression, by the place where it can stand: (1) not an
operand: read by `parseTop`; (2) a unary: read at level 5; (3) any other operand: read at its own
level, continuing that level's loop with `e` as accumulator. -/
def MainConcl (e : Expr) : Prop :=
  (e.operandOk = false → ∀ rest, stopsAbove 0 rest → PTop (B e) (printE e ++ rest) e rest) ∧
  (e.operandOk = true → e.lvl = 5 → ∀ rest, stopsAbove 6 rest → okAfter e rest →
    PLevel (B e) 5 (printE e ++ rest) e rest) ∧
  (e.operandOk = true → e.lvl ≠ 5 → ∀ rest x r1 m, stopsAbove (e.lvl + 1) rest → okAfter e rest →
    PLoop m e.lvl e rest x r1 → PLevel (B e + m) e.lvl (printE e ++ rest) x r1)

theorem MainConcl.top {e : Expr} (hm : MainConcl e) : e.operandOk = false → ∀ rest,
    stopsAbove 0 rest → PTop (B e) (printE e ++ rest) e rest := hm.1
theorem MainConcl.lvl5 {e : Expr} (hm : MainConcl e) : e.operandOk = true → e.lvl = 5 → ∀ rest,
    stopsAbove 6 rest → okAfter e rest → PLevel (B e) 5 (printE e ++ rest) e rest := hm.2.1
theorem MainConcl.loop {e : Expr} (hm : MainConcl e) : e.operandOk = true → e.lvl ≠ 5 →
    ∀ rest x r1 m, stopsAbove (e.lvl + 1) rest → okAfter e rest →
      PLoop m e.lvl e rest x r1 → PLevel (B e + m) e.lvl (printE e ++ rest) x r1 := hm.2.2

theorem MainConcl.of_lvl6 {e : Expr} (ho : e.operandOk = true) (hl : e.lvl = 6)
    (h : ∀ rest x r1 m, okAfter e rest → PLoop m 6 e rest x r1 →
      PLevel (B e + m) 6 (printE e ++ rest) x r1) : MainConcl e := by
  refine ⟨fun h0 => (nomatch ho.symm.trans h0), fun _ h5 => by omega,
    fun _ _ rest x r1 m _ hok hloop => ?_⟩
  rw [hl] at hloop ⊢
  exact h rest x r1 m hok hloop

theorem MainConcl.of_top {e : Expr} (ho : e.operandOk = false)
    (h : ∀ rest, stopsAbove 0 rest → PTop (B e) (printE e ++ rest) e rest) : MainConcl e :=
  ⟨fun _ => h, fun h0 => (nomatch ho.symm.trans h0), fun h0 => (nomatch ho.symm.trans h0)⟩

theorem MainConcl.loop6 {e : Expr} (hm : MainConcl e) (ho : e.operandOk = true) (hl : e.lvl = 6)
    {rest : List Tok} {x : Expr} {r1 : List Tok} {m : Nat} (hok : okAfter e rest)
    (hL : PLoop m 6 e rest x r1) : PLevel (B e + m) 6 (printE e ++ rest) x r1 := by
  have := hm.loop ho (by omega) rest x r1 m (by rw [hl]; exact stopsAbove_7 _) hok
    (by rw [hl]; exact hL)
  rwa [hl] at this

/-- from the loop-invariant form to the plain form: at every level `k` not tighter than `e`'s
own, with the loops of all levels ≥ `k` stopping at `rest`. -/
theorem main_at {e : Expr} (hm : MainConcl e) (hrt : RT e = true) (ho : e.operandOk = true)
    {k : Nat} (hk : k ≤ e.lvl) {rest : List Tok} (hs : stopsAbove k rest) (hok : okAfter e rest) :
    PLevel (B e + 16) k (printE e ++ rest) e rest := by
  have h6 := lvl_le6 e
  by_cases h5 : e.lvl = 5
  · have := hm.lvl5 ho h5 rest (stopsAbove_mono hs (by omega)) hok
    exact (lift (by omega) this (by omega) (by omega) hs).mono (by omega)
  · have hl : PLoop 1 e.lvl e rest e rest := ploop_stop_of hs hk
    have := hm.loop ho h5 rest e rest 1 (stopsAbove_mono hs (by omega)) hok hl
    refine (lift h6 this (fun h => ?_) hk hs).mono (by omega)
    exact startsBase_of_headBase (headBase_append (head_base e hrt ho h) rest)

/-- the plain form at the top: any printed expression, before a rest at which all loops stop. -/
theorem main_top {e : Expr} (hm : MainConcl e) (hrt : RT e = true) {rest : List Tok}
    (hs : stopsAbove 0 rest) : PTop (B e + 20) (printE e ++ rest) e rest := by
  by_cases ho : e.operandOk = true
  · have h0 := main_at hm hrt ho (Nat.zero_le _) hs (fun _ => startsLt_of_stops0 hs)
    exact (ptop_level h0 (notKw_of_headOk (headOk_append (head_ok e hrt ho) rest))).mono (by omega)
  · exact (hm.top (by simpa using ho) rest hs).mono (by omega)

/-- a parenthesised expression is a base expression, read at every level whose loops stop after it. -/
theorem operand_paren {s : Expr} (hm : MainConcl s) (hrt : RT s = true) {k : Nat} (hk6 : k ≤ 6)
    {T : List Tok} (hs : stopsAbove k T) : PLevel (B s + 40) k (paren (printE s) ++ T) s T := by
  rw [paren_append]
  have h0 := main_top hm hrt (stopsAbove_rp 0 T)
  exact (plevel_of_base (pbase_paren h0) (fun _ => ⟨nofun, nofun⟩) hk6 hs).mono (by omega)

/-- an operand position of the printer: `a` in parentheses (`c`, by `operand_paren`) or bare and
then an operand of level `k` or tighter (by `main_at`) is read at level `k`. -/
theorem operand_read {a : Expr} (hm : MainConcl a) (hrt : RT a = true) {c : Bool} {k : Nat}
    (hk : k ≤ 6) (hc : c = true ∨ (a.operandOk = true ∧ k ≤ a.lvl)) {T : List Tok}
    (hs : stopsAbove k T) (hok : c = false → okAfter a T) :
    PLevel (B a + 40) k ((if c then paren (printE a) else printE a) ++ T) a T := by
  cases c
  · obtain h | h := hc
    · cases h
    · exact (main_at hm hrt h.1 h.2 hs (hok rfl)).mono (by omega)
  · exact operand_paren hm hrt hk hs

/-- **Loop invariant of precedence climbing** for printed expressions. -/
theorem main (e : Expr) (h : RT e = true) : MainConcl e := by
  induction e with
  | atom a =>
    refine .of_lvl6 rfl rfl fun rest x r1 m _ hloop => ?_
    simp only [printE, List.singleton_append]
    exact (plevel6 (Nat.le_refl 6) (pbase_atom a rest) hloop).mono (by simp only [B]; omega)
  | ifElse k => exact .of_top rfl fun rest _ => (ptop_if k rest).mono (by simp [B])
  | matchE k => exact .of_top rfl fun rest _ => (ptop_match k rest).mono (by simp [B])
  | lambda k body ih =>
    simp only [RT] at h
    refine .of_top rfl fun rest hs => ?_
    have hnp : needParen 12 false body = false := by
      have := prec_le12 body; simp [needParen]; omega
    simp only [printE, sub, hnp, List.cons_append]
    have h0 := plevel_of_base (pbase_lam k (main_top (ih h) h hs)) (fun _ => ⟨nofun, nofun⟩)
      (Nat.zero_le 6) hs
    exact (ptop_level h0 fun _ _ => ⟨nofun, nofun⟩).mono (by simp only [B]; omega)
  | post e p fld ih =>
    simp only [RT, Bool.and_eq_true, Bool.or_eq_true, decide_eq_true_eq] at h
    have hme := ih h.1
    refine .of_lvl6 rfl rfl fun rest x r1 m hok hloop => ?_
    have hL : PLoop (m + 1) 6 e (.post p fld :: rest) x r1 :=
      ploop_post (fun hf => hok (by simp [lastField, hf])) hloop
    simp only [printE, sub, List.append_assoc, List.singleton_append]
    by_cases hp : needParen 1 false e = true
    · simp only [hp, if_true, paren_append]
      have hb := pbase_paren (main_top hme h.1 (stopsAbove_rp 0 (.post p fld :: rest)))
      exact (plevel6 (Nat.le_refl 6) hb hL).mono (by simp only [B]; omega)
    · simp only [hp]
      rcases h.2 with h2 | h2
      · exact absurd h2 hp
      · have hl6 : e.lvl = 6 := by have := lvl_le6 e; omega
        exact (hme.loop6 h2.1 hl6 (fun _ => rfl) hL).mono (by simp only [B]; omega)
  | unary u a iha =>
    simp only [RT, Bool.and_eq_true, Bool.or_eq_true, decide_eq_true_eq] at h
    refine ⟨fun ho => by simp [Expr.operandOk] at ho, fun _ _ rest hs hok => ?_,
      fun _ h5 => by simp [Expr.lvl] at h5⟩
    have hb : PLevel (B a + 40) 6 (sub 2 true a (printE a) ++ rest) a rest :=
      operand_read (iha h.1) h.1 (Nat.le_refl 6) h.2 hs fun hp hf => hok (by simp [lastField, hp, hf])
    simp only [printE, List.cons_append]
    cases u with
    | not => exact (plevel5 (pun_not hb)).mono (by simp only [B]; omega)
    | neg => exact (plevel5 (pun_neg hb)).mono (by simp only [B]; omega)
  | binary o l r ihl ihr =>
    simp only [RT, Bool.and_eq_true, Bool.or_eq_true, decide_eq_true_eq, Bool.not_eq_true',
      Bool.and_eq_false_iff, beq_eq_false_iff_ne, ne_eq, Bool.not_eq_false'] at h
    obtain ⟨⟨⟨⟨hl, hr⟩, hlb⟩, hrb⟩, hlt⟩ := h
    have hml := ihl hl
    have hj4 : o.plevel ≤ 4 := plevel_le4 o
    refine ⟨fun ho => by simp [Expr.operandOk] at ho,
      fun _ h5 => by simp [Expr.lvl] at h5; omega, fun _ _ rest x r1 m hs hok hloop => ?_⟩
    simp only [Expr.lvl] at hs hloop ⊢
    rw [printE_binary, List.append_assoc, List.cons_append]
    have hR := operand_read (ihr hr) hr (c := rParen o l r) (k := o.plevel + 1) (by omega) hrb hs
      fun hp hf => hok (by simp [lastField, hp, hf])
    have hL := ploop_step (acc := l) rfl hR hloop
    have hso : stopsAbove (o.plevel + 1)
        (.op o :: ((if rParen o l r then paren (printE r) else printE r) ++ rest)) :=
      stopsAbove_op (by omega)
    -- a bare left operand may be followed by `o`: `RT` excludes a final member name before `<`
    have hokl : lParen o l = false → okAfter l
        (.op o :: ((if rParen o l r then paren (printE r) else printE r) ++ rest)) := by
      intro hp hf
      rcases hlt with h1 | h1
      · rcases h1 with h1 | h1
        · cases o with
          | lt => exact absurd rfl h1
          | _ => rfl
        · rw [hp] at h1; cases h1
      · rw [hf] at h1; cases h1
    -- a bare `l` on `o`'s own level (left associativity) is no operand of the strict level: its
    -- own loop goes on with `o r`; any other `l` is read at the strict level and the loop steps
    by_cases heq : lParen o l = false ∧ l.lvl = o.plevel
    · simp only [heq.1, Bool.false_eq_true, if_false]
      have h2 := hlb.resolve_left (by simp [heq.1])
      rw [← heq.2] at hL ⊢
      exact (hml.loop h2.1 (by omega) _ x r1 _ (heq.2 ▸ hso) (hokl heq.1) hL).mono
        (by simp only [B]; omega)
    · refine (plevel_step (by omega) (operand_read hml hl (c := lParen o l) (by omega) ?_ hso
        hokl) hL).mono (by simp only [B]; omega)
      by_cases hp : lParen o l = true
      · exact .inl hp
      · have h2 := hlb.resolve_left hp
        exact .inr ⟨h2.1, by have : l.lvl ≠ o.plevel := fun e => heq ⟨by simpa using hp, e⟩; omega⟩

/-! ### the budget of `parseE` suffices -/

theorem length_ite_paren (c : Bool) (ts : List Tok) :
    ts.length ≤ (if c then paren ts else ts).length := by
  cases c <;> simp [paren] <;> omega

theorem length_sub (p : Nat) (b : Bool) (e : Expr) (ts : List Tok) :
    ts.length ≤ (sub p b e ts).length :=
  length_ite_paren (needParen p b e) ts

theorem B_le (e : Expr) : B e ≤ 120 * (printE e).length := by
  induction e with
  | atom a => simp [B, printE]
  | ifElse k => simp [B, printE]
  | matchE k => simp [B, printE]
  | lambda k b ih =>
    have := length_sub 12 false b (printE b)
    simp only [B, printE, List.length_cons]; omega
  | post e p ih =>
    have := length_sub 1 false e (printE e)
    simp only [B, printE, List.length_append, List.length_cons, List.length_nil]; omega
  | unary u e ih =>
    have := length_sub 2 true e (printE e)
    simp only [B, printE, List.length_cons]; omega
  | binary o l r ihl ihr =>
    rw [printE_binary]
    have h1 := length_ite_paren (lParen o l) (printE l)
    have h2 := length_ite_paren (rParen o l r) (printE r)
    simp only [B, List.length_append, List.length_cons]; omega

theorem startsLt_append {T : List Tok} (hT : startsLt T = false) (ts : List Tok) :
    startsLt (ts ++ T) = startsLt ts := by
  cases ts with
  | nil => exact hT
  | cons t ts' =>
    cases t <;> try rfl
    rename_i o; cases o <;> rfl

theorem empty_none : ∀ f, parseTop f [] = none ∧ (∀ k, parseLevel f k [] = none) ∧
    parseUnary f [] = none ∧ parseBase f [] = none := by
  intro f
  induction f with
  | zero => simp [parseTop, parseLevel, parseUnary, parseBase]
  | succ f ih =>
    obtain ⟨h1, h2, h3, h4⟩ := ih
    refine ⟨?_, ?_, ?_, ?_⟩
    · rw [parseTop]; exact h2 0
      all_goals (intro _ _ he; cases he)
    · intro k
      rw [parseLevel]
      by_cases hk : k ≥ 6
      · simp [hk, h4]
      · by_cases h5 : k = 5
        · simp [h5, h3]
        · simp [hk, h5, h2]
    · rw [parseUnary]; exact h2 6
      all_goals (intro _ he; cases he)
    · simp [parseBase]

theorem head_ne_append {α : Type} {t0 : α} {ts : List α} (hne : ts ≠ [])
    (h : ∀ r, ts = t0 :: r → False) (T r : List α) : ts ++ T ≠ t0 :: r := by
  cases ts with
  | nil => exact absurd rfl hne
  | cons t ts' => intro he; cases he; exact h _ rfl

theorem ne_nil_of_some {α β : Type} {p : List α → Option β} (hp : p [] = none) {ts : List α} {x : β}
    (h : p ts = some x) : ts ≠ [] := by
  rintro rfl; rw [hp] at h; cases h

/-- One frame property for all five parser functions: `T = []` is monotonicity in the budget
(`parseTop_mono`), `T = [)]` one more closing parenthesis (`paren_top`), `T = ) :: T'` what lets a
parenthesised operand stand in any context (`Lemmas/C13Paren.lean`). -/
structure Frame (T : List Tok) (f : Nat) : Prop where
  top : ∀ {ts e r}, parseTop f ts = some (e, r) → PTop f (ts ++ T) e (r ++ T)
  base : ∀ {ts e r}, parseBase f ts = some (e, r) → PBase f (ts ++ T) e (r ++ T)
  unary : ∀ {ts e r}, parseUnary f ts = some (e, r) → PUn f (ts ++ T) e (r ++ T)
  level : ∀ {k ts e r}, parseLevel f k ts = some (e, r) → PLevel f k (ts ++ T) e (r ++ T)
  loop : ∀ {k a ts e r}, parseLoop f k a ts = some (e, r) → PLoop f k a (ts ++ T) e (r ++ T)

theorem frame {T : List Tok} (hT : stopsAbove 0 T) (F : Nat) : Frame T F := by
  induction F using Nat.strongRecOn with
  | _ F ih =>
  have hlt : startsLt T = false := startsLt_of_stops0 hT
  refine ⟨?_, ?_, ?_, ?_, ?_⟩
  · intro ts e r
    fun_cases parseTop F ts
    -- `match` (case2), `if` (case3), any other token: level 0 (case4)
    case case2 n k ts =>
      intro h; cases h
      exact (ptop_match k _).mono (Nat.succ_le_succ (Nat.zero_le n))
    case case3 n k ts =>
      intro h; cases h
      exact (ptop_if k _).mono (Nat.succ_le_succ (Nat.zero_le n))
    case case4 f hm hi =>
      intro h
      have hne := ne_nil_of_some ((empty_none f).2.1 0) h
      exact ptop_level ((ih f (Nat.lt_succ_self f)).level h)
        fun k r => ⟨head_ne_append hne (hi k) T r, head_ne_append hne (hm k) T r⟩
    all_goals nofun
  · intro ts e r
    fun_cases parseBase F ts
    -- atom (case2), lambda (case3), `( e )` (case5)
    case case2 n a ts =>
      intro h; cases h
      exact (pbase_atom a _).mono (Nat.succ_le_succ (Nat.zero_le n))
    case case3 f k ts body r0 x =>
      intro h; cases h
      exact pbase_lam k ((ih f (Nat.lt_succ_self f)).top x)
    case case5 f ts e' r0 x =>
      intro h; cases h
      exact pbase_paren ((ih f (Nat.lt_succ_self f)).top x)
    all_goals nofun
  · intro ts e r
    fun_cases parseUnary F ts
    -- `!` (case2), `-` (case4), neither (case6)
    case case2 f ts body r0 x =>
      intro h; cases h
      exact pun_not ((ih f (Nat.lt_succ_self f)).level x)
    case case4 f ts body r0 x =>
      intro h; cases h
      exact pun_neg ((ih f (Nat.lt_succ_self f)).level x)
    case case6 f hb hm =>
      intro h
      have hne := ne_nil_of_some ((empty_none f).2.1 6) h
      exact pun_other ((ih f (Nat.lt_succ_self f)).level h)
        fun r => ⟨head_ne_append hne hb T r, head_ne_append hne hm T r⟩
    all_goals nofun
  · intro k ts e r
    fun_cases parseLevel F k ts
    -- `k ≥ 6`: base and postfix loop (case3), `k = 5`: unary (case4),
    -- `k < 5`: next level and loop (case6)
    case case3 f x r0 hk hx =>
      have IH := ih f (Nat.lt_succ_self f)
      intro h
      exact (plevel6 hk (IH.base hx) (IH.loop h)).mono (by omega)
    case case4 f _ =>
      intro h
      exact plevel5 ((ih f (Nat.lt_succ_self f)).unary h)
    case case6 f x r0 hk h5 hx =>
      have IH := ih f (Nat.lt_succ_self f)
      intro h
      exact (plevel_step (by omega) (IH.level hx) (IH.loop h)).mono (by omega)
    all_goals nofun
  · intro k a ts e r
    fun_cases parseLoop F k a ts
    -- operator of level `k`: step (case3), of another level: stop (case4); postfix item at `k = 6`:
    -- step (case6), else stop (case7); any other token or the end of `ts`, where `T` begins: stop
    -- (case8)
    case case3 f o ts x r0 hx =>
      have IH := ih f (Nat.lt_succ_self f)
      intro h
      exact (ploop_step rfl (IH.level hx) (IH.loop h)).mono (by omega)
    case case4 f o ts hne =>
      intro h; cases h
      exact (ploop_stop fun t rest he hb => by cases he; exact hne (Option.some.inj hb)).mono
        (Nat.succ_le_succ (Nat.zero_le f))
    case case6 f p fld ts hc =>
      intro h
      refine ploop_post (fun hf => ?_) ((ih f (Nat.lt_succ_self f)).loop h)
      show startsLt (ts ++ T) = false
      rw [startsLt_append hlt]; simpa [hf] using hc
    case case7 f p fld ts hk =>
      intro h; cases h
      exact (ploop_stop fun t rest he hb => by cases he; exact hk (Option.some.inj hb).symm).mono
        (Nat.succ_le_succ (Nat.zero_le f))
    case case8 n h1 h2 =>
      intro h; cases h
      refine (ploop_stop fun t rest he hb => ?_).mono (Nat.succ_le_succ (Nat.zero_le n))
      cases ts with
      | nil => exact absurd (hT t rest k he hb) (Nat.not_lt_zero k)
      | cons t' ts' =>
        cases he
        cases t with
        | op o => exact h1 _ _ rfl
        | post p fld => exact h2 _ _ _ rfl
        | _ => cases hb
    all_goals nofun

theorem parseTop_mono {f f' : Nat} {ts : List Tok} {r : Expr × List Tok}
    (h : parseTop f ts = some r) (hf : f ≤ f') : parseTop f' ts = some r := by
  simpa using (frame (stopsAbove_nil 0) f).top h f' hf

theorem paren_top {f : Nat} {ts : List Tok} {e : Expr} (h : parseTop f ts = some (e, [])) :
    PTop (f + 16) (paren ts) e [] := by
  have h1 : PTop f (ts ++ [.rp]) e [.rp] := (frame (stopsAbove_rp 0 []) f).top h
  have h0 := plevel_of_base (pbase_paren h1) (fun _ => ⟨nofun, nofun⟩) (Nat.zero_le 6)
    (stopsAbove_nil 0)
  exact (ptop_level h0 fun _ _ => ⟨nofun, nofun⟩).mono (by omega)

theorem parseFuel_some {f : Nat} {ts : List Tok} {e : Expr} (h : parseFuel f ts = some e) :
    parseTop f ts = some (e, []) := by
  unfold parseFuel at h
  split at h
  · rename_i e' heq; cases h; exact heq
  · cases h

def MonoAt (f : Nat) : Prop :=
  (∀ ts r, parseTop f ts = some r → parseTop (f + 1) ts = some r) ∧
  (∀ ts r, parseBase f ts = some r → parseBase (f + 1) ts = some r) ∧
  (∀ ts r, parseUnary f ts = some r → parseUnary (f + 1) ts = some r) ∧
  (∀ k ts r, parseLevel f k ts = some r → parseLevel (f + 1) k ts = some r) ∧
  (∀ k e ts r, parseLoop f k e ts = some r → parseLoop (f + 1) k e ts = some r)

theorem mono_all : ∀ f, MonoAt f := fun f =>
  have F := frame (stopsAbove_nil 0) f
  have hf := Nat.le_succ f
  ⟨fun _ _ h => by simpa using F.top h _ hf, fun _ _ h => by simpa using F.base h _ hf,
    fun _ _ h => by simpa using F.unary h _ hf, fun _ _ _ h => by simpa using F.level h _ hf,
    fun _ _ _ _ h => by simpa using F.loop h _ hf⟩

def ExtAt (f : Nat) : Prop :=
  (∀ ts e r, parseTop f ts = some (e, r) → parseTop f (ts ++ [.rp]) = some (e, r ++ [.rp])) ∧
  (∀ ts e r, parseBase f ts = some (e, r) → parseBase f (ts ++ [.rp]) = some (e, r ++ [.rp])) ∧
  (∀ ts e r, parseUnary f ts = some (e, r) → parseUnary f (ts ++ [.rp]) = some (e, r ++ [.rp])) ∧
  (∀ k ts e r, parseLevel f k ts = some (e, r) → parseLevel f k (ts ++ [.rp]) = some (e, r ++ [.rp])) ∧
  (∀ k a ts e r, parseLoop f k a ts = some (e, r) → parseLoop f k a (ts ++ [.rp]) = some (e, r ++ [.rp]))

theorem ext_all : ∀ f, ExtAt f := fun f =>
  have F := frame (stopsAbove_rp 0 []) f
  have hf := Nat.le_refl f
  ⟨fun _ _ _ h => F.top h f hf, fun _ _ _ h => F.base h f hf, fun _ _ _ h => F.unary h f hf,
    fun _ _ _ _ h => F.level h f hf, fun _ _ _ _ _ h => F.loop h f hf⟩

/-! ## String literals -/

/-- `s` can stand between the quotes of a string literal: it has no line break and every `"` in
it is preceded by an odd number of backslashes, given that `acc` (reversed) precedes it. -/
def closedFrom : List Char → List Char → Bool
  | _, [] => true
  | acc, c :: rest =>
    if c = '"' ∧ countBackslashes acc % 2 = 0 then false
    else if c = '\n' then false
    else closedFrom (c :: acc) rest

theorem lexStrGo_closed (s : List Char) : ∀ (acc rest : List Char), closedFrom acc s = true →
    countBackslashes (s.reverse ++ acc) % 2 = 0 →
    lexStrGo acc (s ++ '"' :: rest) = some (acc.reverse ++ s, rest) := by
  intro acc rest
  -- the arms of `closedFrom`: end of `s` (case1), an unescaped `"` (case2) or a line break (case3),
  -- where `closedFrom` is `false`, any other character (case4)
  fun_induction closedFrom acc s with
  | case1 acc =>
    intro _ hb
    simp only [List.reverse_nil, List.nil_append] at hb
    simp [lexStrGo, hb]
  | case2 | case3 => nofun
  | case4 acc c s h1 h2 ih =>
    intro hc hb
    simp only [List.cons_append, lexStrGo, h1, h2, if_false]
    rw [ih hc (by simpa using hb)]
    simp

theorem lexStrGo_some (inp : List Char) : ∀ (acc c rest : List Char),
    lexStrGo acc inp = some (c, rest) →
    ∃ s, c = acc.reverse ++ s ∧ inp = s ++ '"' :: rest ∧ closedFrom acc s = true ∧
      countBackslashes (s.reverse ++ acc) % 2 = 0 := by
  intro acc c rest
  -- the arms of `lexStrGo`: end of input (case1) and a line break (case3) fail, an unescaped `"`
  -- closes the literal (case2), any other character is scanned over (case4)
  fun_induction lexStrGo acc inp with
  | case1 => nofun
  | case2 acc ch inp h1 =>
    intro h
    simp only [Option.some.injEq, Prod.mk.injEq] at h
    exact ⟨[], by simp [h.1], by simp [h1.1, h.2], by simp [closedFrom], by simpa using h1.2⟩
  | case3 => nofun
  | case4 acc ch inp h1 h2 ih =>
    intro h
    obtain ⟨s, hc, hi, hcl, hb⟩ := ih h
    refine ⟨ch :: s, by simp [hc], by simp [hi], ?_, by simpa using hb⟩
    simp only [closedFrom, h1, h2, if_false]
    exact hcl

theorem hasEscapedQuote_tail (c : Char) (rest : List Char)
    (h : hasEscapedQuote (c :: rest) = false) : hasEscapedQuote rest = false := by
  unfold hasEscapedQuote at h
  split at h
  · cases h
  · rename_i heq; cases heq; exact h
  · rename_i heq; cases heq

theorem escapeQuotes_cons {c : Char} (hc : c ≠ '"') (rest : List Char) :
    escapeQuotes (c :: rest) = c :: escapeQuotes rest := by
  rw [escapeQuotes]
  exact hc

theorem unescapeQuotes_cons {c d : Char} (h : ¬ (c = '\\' ∧ d = '"')) (rest : List Char) :
    unescapeQuotes (c :: d :: rest) = c :: unescapeQuotes (d :: rest) := by
  rw [unescapeQuotes]
  intro r h1 h2; cases h2; exact h ⟨h1, rfl⟩

theorem unescape_id : ∀ (s : List Char), hasEscapedQuote s = false → unescapeQuotes s = s
  | [], _ => by simp [unescapeQuotes]
  | [c], _ => by simp [unescapeQuotes]
  | c :: d :: rest, h => by
    have hcd : ¬ (c = '\\' ∧ d = '"') := by
      rintro ⟨rfl, rfl⟩; simp [hasEscapedQuote] at h
    rw [unescapeQuotes_cons hcd, unescape_id (d :: rest) (hasEscapedQuote_tail c _ h)]


/-! ### escaping inverts unescaping on every lexed literal (after fix b0a5193) -/

/-- every `"` is directly preceded by a backslash (`prev`: the character before the list is a
backslash). -/
def quotesEscaped : Bool → List Char → Bool
  | _, [] => true
  | prev, c :: rest => if c = '"' then prev && quotesEscaped false rest else quotesEscaped (c = '\\') rest

theorem quotesEscaped_true_of_false (s : List Char) (h : quotesEscaped false s = true) :
    quotesEscaped true s = true := by
  cases s with
  | nil => rfl
  | cons c rest =>
    simp only [quotesEscaped] at h ⊢
    by_cases hc : c = '"'
    · simp [hc] at h
    · simpa [hc] using h

theorem quotesEscaped_false_of_true (s : List Char) (h : quotesEscaped true s = true)
    (hs : ∀ r, s ≠ '"' :: r) : quotesEscaped false s = true := by
  cases s with
  | nil => rfl
  | cons c rest =>
    have hc : c ≠ '"' := fun e => hs rest (by rw [e])
    simp only [quotesEscaped, hc, if_false] at h ⊢
    exact h

theorem closed_quotesEscaped (s : List Char) : ∀ acc, closedFrom acc s = true →
    quotesEscaped (decide (countBackslashes acc % 2 = 1)) s = true := by
  intro acc
  -- The statement feeds `quotesEscaped` the parity of the backslashes before `s`; `quotesEscaped`
  -- itself sets its flag after every backslash, whatever the parity. So after a backslash the goal
  -- has the flag set while the induction hypothesis has the parity, and where that is even
  -- `quotesEscaped_true_of_false` bridges the two. Arms of `closedFrom` as in `lexStrGo_closed`;
  -- in case4 the character is `"`, a backslash, or any other.
  fun_induction closedFrom acc s with
  | case1 => intro _; rfl
  | case2 | case3 => nofun
  | case4 acc c rest h1 h2 ih =>
    intro h
    have ih' := ih h
    simp only [quotesEscaped]
    by_cases hq : c = '"'
    · subst hq
      have hodd : countBackslashes acc % 2 = 1 := by
        have : ¬ countBackslashes acc % 2 = 0 := fun e => h1 ⟨rfl, e⟩
        omega
      have h0 : countBackslashes ('"' :: acc) = 0 := by simp [countBackslashes]
      simp only [h0] at ih'
      simpa [hodd] using ih'
    · simp only [hq, if_false]
      by_cases hb : c = '\\'
      · subst hb
        simp only [decide_true]
        by_cases hpar : countBackslashes ('\\' :: acc) % 2 = 1
        · simpa [hpar] using ih'
        · exact quotesEscaped_true_of_false _ (by simpa [hpar] using ih')
      · have h0 : countBackslashes (c :: acc) = 0 := by
          unfold countBackslashes
          split
          · rename_i heq; cases heq; exact absurd rfl hb
          · rfl
        simp only [h0] at ih'
        simpa [hb] using ih'

/-- Along `unescapeQuotes`, two characters at a time: on `\"` unescaping drops the backslash and
escaping restores it; otherwise `c` is no quote and is copied by both, and the flag for the tail
`d :: rest` is `false` again (`quotesEscaped_false_of_true` when `c` is a backslash, since `d` is
then no quote). -/
theorem escape_unescape : ∀ (s : List Char), quotesEscaped false s = true →
    escapeQuotes (unescapeQuotes s) = s
  | [], _ => by simp [unescapeQuotes, escapeQuotes]
  | [c], h => by
    have hc : c ≠ '"' := by
      intro e; subst e; simp [quotesEscaped] at h
    simp [unescapeQuotes, escapeQuotes_cons hc, escapeQuotes]
  | c :: d :: rest, h => by
    by_cases hcd : c = '\\' ∧ d = '"'
    · obtain ⟨rfl, rfl⟩ := hcd
      have hr : quotesEscaped false rest = true := by
        simp [quotesEscaped] at h; exact h
      have ih := escape_unescape rest hr
      simp only [unescapeQuotes, escapeQuotes, ih]
    · have hc : c ≠ '"' := by
        intro e; subst e; simp [quotesEscaped] at h
      have h' : quotesEscaped (c = '\\') (d :: rest) = true := by
        simpa [quotesEscaped, hc] using h
      have hr : quotesEscaped false (d :: rest) = true := by
        by_cases hb : c = '\\'
        · refine quotesEscaped_false_of_true _ (by simpa [hb] using h') ?_
          intro r e; cases e; exact hcd ⟨hb, rfl⟩
        · simpa [hb] using h'
      rw [unescapeQuotes_cons hcd, escapeQuotes_cons hc, escape_unescape (d :: rest) hr]
end SamVerif.Fmt
