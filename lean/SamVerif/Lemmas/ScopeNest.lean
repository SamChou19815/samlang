import SamVerif.Lemmas.ScopeVisit
/-!
Nesting of scope events. On event lists alone, `depthAfter` tracks the nesting depth and `closedAt j` says that
a list neither defines into nor pops what lies below its own `j` scopes (`closed_of_depth` connects the two).
On the machine, a closed list leaves the part of the scope stack below its own scopes as it is (`run_closed`),
and every traversal fragment is well nested (`visit_depth`).
-/
namespace SamVerif.Scope

variable {α : Type}

/-- Nesting tracker: depth after the events, `none` if a `pop` would close a scope that was not
opened inside the event list. -/
def depthAfter : Nat → List (Ev α) → Option Nat
  | d, [] => some d
  | d, .push :: es => depthAfter (d + 1) es
  | 0, .pop _ _ :: _ => none
  | d + 1, .pop _ _ :: es => depthAfter d es
  | d, .define _ _ :: es => depthAfter d es
  | d, .use _ _ _ :: es => depthAfter d es

/-- Events that open and close only their own scopes. -/
def WellNested (es : List (Ev α)) : Prop := depthAfter 0 es = some 0

/-- Starting with `j` scopes of their own on the stack, the events neither define into nor pop what
lies below those scopes. -/
def closedAt : Nat → List (Ev α) → Bool
  | _, [] => true
  | j, .push :: t => closedAt (j + 1) t
  | j, .pop _ _ :: t => decide (1 ≤ j) && closedAt (j - 1) t
  | j, .define _ _ :: t => decide (1 ≤ j) && closedAt j t
  | j, .use _ _ _ :: t => closedAt j t

/-- Number of own scopes after the events, starting with `j` (a `pop` at 0 stays at 0). -/
def endDepth : Nat → List (Ev α) → Nat
  | j, [] => j
  | j, .push :: t => endDepth (j + 1) t
  | j, .pop _ _ :: t => endDepth (j - 1) t
  | j, _ :: t => endDepth j t

theorem depth_append {a : List (Ev α)} {d d' : Nat} (h : depthAfter d a = some d') (b : List (Ev α)) :
    depthAfter d (a ++ b) = depthAfter d' b := by
  induction a generalizing d with
  | nil => cases h; rfl
  | cons e es ih =>
    cases e with
    | pop k l =>
      cases d with
      | zero => cases h
      | succ d => exact ih h
    | _ => exact ih h

theorem closedAt_append (j : Nat) (a b : List (Ev α)) :
    closedAt j (a ++ b) = (closedAt j a && closedAt (endDepth j a) b) := by
  induction a generalizing j with
  | nil => simp [closedAt, endDepth]
  | cons ev t ih => cases ev <;> simp [closedAt, endDepth, ih, Bool.and_assoc]

theorem endDepth_append (j : Nat) (a b : List (Ev α)) :
    endDepth j (a ++ b) = endDepth (endDepth j a) b := by
  induction a generalizing j with
  | nil => simp [endDepth]
  | cons ev t ih => cases ev <;> simp [endDepth, ih]

/-- A list that `depthAfter d` accepts pops at most `d` of the scopes it finds. So with `j + d + 1` scopes of
its own it never touches what lies below them (`closedAt`), and `endDepth` computes what `depthAfter` does. -/
theorem closed_of_depth : ∀ {es : List (Ev α)} {d d' : Nat} (j : Nat), depthAfter d es = some d' →
    endDepth (j + d) es = j + d' ∧ closedAt (j + d + 1) es = true
  | [], _, _, _, h => by cases h; exact ⟨rfl, rfl⟩
  | .push :: es, d, _, j, h => closed_of_depth (es := es) (d := d + 1) j h
  | .pop _ _ :: _, 0, _, _, h => by cases h
  | .pop _ _ :: es, d + 1, _, j, h => closed_of_depth (es := es) (d := d) j h
  | .define _ _ :: es, _, _, j, h => closed_of_depth (es := es) j h
  | .use _ _ _ :: es, _, _, j, h => closed_of_depth (es := es) j h

theorem endDepth_neutral {es : List (Ev α)} (h : ∀ d, depthAfter d es = some d) (j : Nat) :
    endDepth j es = j := (closed_of_depth j (h 0)).1

theorem closedAt_neutral {es : List (Ev α)} (h : ∀ d, depthAfter d es = some d) (j : Nat) :
    closedAt (j + 1) es = true := (closed_of_depth j (h 0)).2

theorem depth_flatMap {γ : Type} (f : γ → List (Ev α)) (h : ∀ x d, depthAfter d (f x) = some d)
    (l : List γ) (d : Nat) : depthAfter d (l.flatMap f) = some d := by
  induction l with
  | nil => rfl
  | cons x l ih => rw [List.flatMap_cons, depth_append (h x d)]; exact ih

theorem depth_map_define {γ : Type} (n : γ → α) (loc : γ → Nat) (l : List γ) (d : Nat) :
    depthAfter d (l.map fun x => Ev.define (n x) (loc x)) = some d := by
  induction l with
  | nil => rfl
  | cons x l ih => exact ih

theorem closed_scope {a : List (Ev α)} (ha : WellNested a) (k : PopKind) (l : Nat) :
    closedAt 0 ([.push] ++ a ++ [.pop k l]) = true ∧ endDepth 0 ([.push] ++ a ++ [.pop k l]) = 0 := by
  have h0 := (closed_of_depth 0 ha).2
  have h1 := (closed_of_depth 1 ha).1
  simp only [Nat.zero_add, Nat.add_zero] at h0 h1
  simp [closedAt_append, endDepth_append, closedAt, endDepth, h0, h1]

variable [DecidableEq α]

theorem run_append (a b : List (Ev α)) (st : St α) : run (a ++ b) st = run b (run a st) :=
  List.foldl_append

theorem recordCapture_length (n : α) (l k : Nat) (cs : List (Scope α)) :
    (recordCapture n l k cs).length = cs.length := by
  induction k generalizing cs with
  | zero => rfl
  | succ k ih => cases cs <;> simp [recordCapture, ih]

theorem insertLocal_length (n : α) (l : Nat) (ls : List (Scope α)) :
    (insertLocal n l ls).length = ls.length := by cases ls <;> rfl

/-- What `define_id` reports, given the previous binding of the name and whether this definition site was
reported before: the error, and the entry of `invalid_defines`. -/
def rebindDiag (n : α) (loc : Nat) : Option Nat → Bool → List (Err α) × List Nat
  | some prev, false => ([.alreadyBound loc n prev], [loc])
  | _, _ => ([], [])

theorem defineId_eq (st : St α) (n : α) (loc : Nat) :
    defineId st n loc =
      { st with
        locals := insertLocal n loc st.locals
        errors := st.errors ++ (rebindDiag n loc (previousDef n st.locals) (st.invalid.contains loc)).1
        invalid := st.invalid ++ (rebindDiag n loc (previousDef n st.locals) (st.invalid.contains loc)).2
        defLocs := st.defLocs ++ [loc] } := by
  unfold defineId
  cases previousDef n st.locals with
  | none => simp [rebindDiag]
  | some prev => cases st.invalid.contains loc <;> simp [rebindDiag]

theorem defineId_locals (st : St α) (n : α) (l : Nat) :
    (defineId st n l).locals = insertLocal n l st.locals := by rw [defineId_eq]

theorem defineId_captured (st : St α) (n : α) (l : Nat) : (defineId st n l).captured = st.captured := by
  rw [defineId_eq]

theorem useId_locals (st : St α) (n : α) (l : Nat) (ft : Bool) : (useId st n l ft).locals = st.locals := by
  unfold useId; split <;> rfl

theorem useId_captured_length (st : St α) (n : α) (l : Nat) (ft : Bool) :
    (useId st n l ft).captured.length = st.captured.length := by
  unfold useId; split
  · cases ft <;> simp [recordCapture_length]
  · rfl

/-- One capture table per scope. -/
def WF (st : St α) : Prop := st.captured.length = st.locals.length

theorem step_pop {st : St α} {s : Scope α} {ls : List (Scope α)} (h : st.locals = s :: ls) (hw : WF st)
    (k : PopKind) (l : Nat) : (step st (.pop k l)).locals = ls := by
  obtain ⟨locals, captured, u, i, ud, d, sd, lc, e, uf⟩ := st
  cases h
  cases captured with
  | nil => cases hw
  | cons c cs => cases k <;> rfl

theorem step_wf {st : St α} (hw : WF st) (ev : Ev α) : WF (step st ev) := by
  cases ev with
  | push => exact congrArg (· + 1) hw
  | pop k l =>
    obtain ⟨locals, captured, u, i, ud, d, sd, lc, e, uf⟩ := st
    cases locals <;> cases captured
    · exact hw
    · cases hw
    · cases hw
    · cases k <;> exact Nat.succ.inj hw
  | define n l =>
    exact (congrArg List.length (defineId_captured st n l)).trans
      (hw.trans ((insertLocal_length n l _).symm.trans (congrArg List.length (defineId_locals st n l)).symm))
  | use n l ft =>
    exact (useId_captured_length st n l ft).trans (hw.trans (congrArg List.length (useId_locals st n l ft)).symm)

theorem run_wf {st : St α} (hw : WF st) (es : List (Ev α)) : WF (run es st) := by
  induction es generalizing st with
  | nil => exact hw
  | cons ev es ih => exact ih (step_wf hw ev)

theorem run_closed : ∀ {es : List (Ev α)} {j : Nat} {st : St α} {pre rest : List (Scope α)},
    closedAt j es = true → st.locals = pre ++ rest → pre.length = j → WF st →
    ∃ pre', (run es st).locals = pre' ++ rest ∧ pre'.length = endDepth j es
  | [], _, _, pre, _, _, h, hl, _ => ⟨pre, h, hl⟩
  | .push :: es, _, st, pre, _, hc, h, hl, hw =>
    run_closed (es := es) (st := step st .push) (pre := [] :: pre) hc
      (congrArg ([] :: ·) h) (congrArg (· + 1) hl) (step_wf hw _)
  | .pop k l :: es, _, st, pre, _, hc, h, hl, hw => by
    subst hl
    simp only [closedAt, Bool.and_eq_true, decide_eq_true_eq] at hc
    cases pre with
    | nil => cases hc.1
    | cons p pre0 => exact run_closed (es := es) hc.2 (step_pop h hw k l) rfl (step_wf hw _)
  | .define n l :: es, _, st, pre, _, hc, h, hl, hw => by
    subst hl
    simp only [closedAt, Bool.and_eq_true, decide_eq_true_eq] at hc
    cases pre with
    | nil => cases hc.1
    | cons p pre0 =>
      have h1 : (step st (.define n l)).locals = (insertKV n l p :: pre0) ++ _ :=
        (defineId_locals st n l).trans (congrArg _ h)
      exact run_closed (es := es) hc.2 h1 rfl (step_wf hw _)
  | .use n l ft :: es, _, st, _, _, hc, h, hl, hw =>
    run_closed (es := es) (st := step st (.use n l ft)) hc ((useId_locals st n l ft).trans h) hl (step_wf hw _)

theorem run_restores {es : List (Ev α)} (hc : closedAt 0 es = true) (he : endDepth 0 es = 0)
    {st : St α} (hw : WF st) : (run es st).locals = st.locals := by
  obtain ⟨pre', h1, h2⟩ := run_closed (pre := []) hc rfl rfl hw
  rw [he] at h2
  rwa [List.eq_nil_of_length_eq_zero h2] at h1

theorem scope_restores {a : List (Ev α)} (ha : WellNested a) (k : PopKind) (l : Nat) {st : St α} (hw : WF st) :
    (run ([.push] ++ a ++ [.pop k l]) st).locals = st.locals :=
  run_restores (closed_scope ha k l).1 (closed_scope ha k l).2 hw

/-- `evs` runs between depth `a` and depth `b` above some frame `s :: rest` and never touches `rest`
(nor pops below the frame). -/
def Bal (a b : Nat) (evs : List (Ev α)) : Prop :=
  ∀ (st : St α) (pre : List (Scope α)) (s : Scope α) (rest : List (Scope α)),
    st.locals = pre ++ s :: rest → pre.length = a → WF st →
    ∃ pre' s', (run evs st).locals = pre' ++ s' :: rest ∧ pre'.length = b ∧ WF (run evs st)

theorem bal_of_depth {es : List (Ev α)} {d d' : Nat} (h : depthAfter d es = some d') : Bal d d' es := by
  intro st pre s rest hl hp hw
  have hc := (closed_of_depth 0 h).2
  have he := (closed_of_depth 1 h).1
  rw [Nat.zero_add] at hc
  rw [Nat.add_comm 1 d] at he
  obtain ⟨pre', h1, h2⟩ :=
    run_closed (pre := pre ++ [s]) (rest := rest) hc (by simp [hl]) (by simp [hp]) hw
  -- `pre'` has `d' + 1` scopes: the last of them is the frame
  rw [he] at h2
  rcases List.eq_nil_or_concat pre' with rfl | ⟨pre'', s', rfl⟩
  · rw [List.length_nil] at h2; omega
  · exact ⟨pre'', s', by simpa using h1, by simp at h2; omega, run_wf hw es⟩

theorem uses_depth : ∀ (n : Node α) (d : Nat), depthAfter d (uses n) = some d := by
  intro n
  induction n using uses.induct (motive_1 := fun ks => ∀ d, depthAfter d (usesList ks) = some d) with
  -- a named `pId`; any other node (`h`: not a named `pId`), which passes to its children; `[]`; `k :: ks`
  | case1 => intro d; rfl
  | case2 loc ks tag name h ih => rw [uses]; exact ih; exact h
  | case3 => rfl
  | case4 k ks hk hks => rw [usesList, depth_append (hk _)]; exact hks _

theorem usesList_depth (ks : List (Node α)) (d : Nat) : depthAfter d (usesList ks) = some d := by
  -- a `seq` node hands on to its children, so the statement about a list is the one about that node
  simpa only [uses] using uses_depth (.mk .seq none 0 ks) d

theorem visit_depth (n : Node α) : ∀ d, depthAfter d (visit n) = some d := by
  induction n using visit_induct (Q := fun ks => ∀ d, depthAfter d (visitList ks) = some d) with
  | var | pId => intro d; rfl
  | ifGuard loc name p g e1 e2 hg hp h1 h2 =>
    intro d
    simp only [visit, List.append_assoc]
    rw [depth_append (hg d), List.singleton_append, depthAfter, depth_append (hp _), depth_append (h1 _)]
    exact h2 d
  | decl loc name p a e he ha hp =>
    intro d
    simp only [visit, List.append_assoc]
    rw [depth_append (he d), depth_append (ha d)]
    exact hp d
  | arm loc name p b hp hb =>
    intro d
    simp only [visit, List.append_assoc]
    rw [List.singleton_append, depthAfter, depth_append (hp _), depth_append (hb _)]
    rfl
  | lambda loc name ks ih | block loc name ks ih =>
    intro d
    simp only [visit, List.append_assoc]
    rw [List.singleton_append, depthAfter, depth_append (ih _)]
    rfl
  | param loc n ks ih | tyUse loc n ks ih => intro d; simp only [visit, depthAfter]; exact ih d
  | pOr loc name first rest ih =>
    intro d
    rw [visit, depth_append (ih d)]
    exact usesList_depth rest d
  | pass loc tag name ks h ih => rw [visit_pass h]; exact ih
  -- in the two list cases the `d` of `Q` is introduced already
  | nil => rfl
  | cons k ks hk hks => rw [visitList, depth_append (hk _)]; exact hks _

theorem visitList_depth (ks : List (Node α)) (d : Nat) : depthAfter d (visitList ks) = some d := by
  simpa only [visit] using visit_depth (.mk .seq none 0 ks) d

theorem wellNested_visit_append (p e : Node α) : WellNested (visit p ++ visit e) :=
  (depth_append (visit_depth p 0) _).trans (visit_depth e 0)

end SamVerif.Scope
