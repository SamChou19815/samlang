import SamVerif.Lemmas.CpeProg
/-! C01 / K4b as the one-function case of K4c: the simulations (`exec_drop`, `exec_subst`) and the
bridges from the decision to their preconditions (`okUnused_of_reads`, `okConst_of_calls`) for one
self-recursive function, from those of `Lemmas/CpeProg`. -/
namespace SamVerif.CpeSem
open SamVerif.TailRec
open SamVerif.Opt (Op)
open SamVerif.CpeProg (PBody okU okC clean dropParam substParam hideOf)

/-- A self-recursive function is the program whose only function it is (`progOf`): a self call is a
call of `self`, the interpreters agree (`exec_toP`), and the rewrites, the summary and the shapes
commute with the embedding, so what is proved of programs holds of the one function. -/
def toP (self : Nat) : CBody → PBody
  | .ret e => .ret e
  | .bin x op e1 e2 k => .bin x op e1 e2 (toP self k)
  | .print es k => .print es (toP self k)
  | .ite c t e => .ite c (toP self t) (toP self e)
  | .call x args k => .call x self args (toP self k)

def progOf (self : Nat) (params : List Name) (body : CBody) : CpeProg.Prog :=
  [{ name := self, params := params, body := toP self body }]

/-- In the one-function program `lookup` finds the function again, so a call of `self` enters `body`
as a self call does; every other statement is interpreted alike. -/
theorem exec_toP (ev : Op → Int → Int → Option Int) (self : Nat) (params : List Name) (body : CBody)
    (fuel : Nat) (env : Env) (out : List (List Int)) (b : CBody) :
    CpeProg.exec ev (progOf self params body) fuel env out (toP self b) =
      exec ev params body fuel env out b := by
  fun_induction exec ev params body fuel env out b <;>
    simp_all [CpeProg.exec, toP, progOf, CpeProg.lookup]

/-- Argument lists of the self calls (`CpeProg.callsOf self` on the embedding, `callsOf_toP`). -/
def selfCalls : CBody → List (List Expr)
  | .ret _ => []
  | .bin _ _ _ _ k => selfCalls k
  | .print _ k => selfCalls k
  | .ite _ t e => selfCalls t ++ selfCalls e
  | .call _ args k => args :: selfCalls k

section
variable (self : Nat) (b : CBody)

theorem dropArgs_toP (i : Nat) : CpeProg.dropArgs self i (toP self b) = toP self (dropArg i b) := by
  induction b <;> simp only [toP, dropArg, CpeProg.dropArgs, if_true, *]

theorem substVar_toP (p : Name) (n : Int) : CpeProg.substVar p n (toP self b) = toP self (substVar p n b) := by
  induction b <;> simp only [toP, substVar, CpeProg.substVar, *]

theorem atomsOf_toP : CpeProg.atomsOf (toP self b) = atomsOf self b := by
  induction b <;> simp only [toP, atomsOf, CpeProg.atomsOf, *]

theorem readsOf_toP (params : List Name) : CpeProg.readsOf self params (toP self b) = readsOf self params b := by
  rw [CpeProg.readsOf, atomsOf_toP]; rfl

theorem assignsP_toP (p : Name) : CpeProg.assignsP p (toP self b) = assigns p b := by
  induction b <;> simp only [toP, assigns, CpeProg.assignsP, *]

theorem callsArityG_toP (k : Nat) : CpeProg.callsArityG self k (toP self b) = callsArity k b := by
  induction b <;> simp only [toP, callsArity, CpeProg.callsArityG, bne_self_eq_false, Bool.false_or, *]

theorem callsOf_toP : CpeProg.callsOf self (toP self b) = selfCalls b := by
  induction b <;> simp only [toP, selfCalls, CpeProg.callsOf, if_true, *]

theorem clean_some (p : Name) (e : Expr) : clean (some p) e ↔ e ≠ .var p := by
  simp [clean]

theorem okU_toP (p : Name) (i k : Nat) : okU self i k (some p) (toP self b) ↔ okUnused p i k b := by
  induction b <;>
    simp only [toP, okUnused, okU, clean_some, and_assoc, if_true, ne_eq, Option.some.injEq, @eq_comm _ p, *]
  -- left: `call`, where `okU` speaks of the arguments `a` found in the other positions and `okUnused` of `.var p` there
  exact and_congr_right fun _ => and_congr_right fun _ => and_congr_left fun _ =>
    ⟨fun h j hj e => h j _ hj e rfl, fun h j a hj e ea => h j hj (ea ▸ e)⟩

theorem okC_toP (p : Name) (i k : Nat) (n : Int) : okC self i k n (some p) (toP self b) ↔ okConst p i n k b := by
  induction b <;>
    simp only [toP, okConst, okC, and_assoc, forall_const, ne_eq, Option.some.injEq, @eq_comm _ p, *]

theorem dropParam_progOf (i : Nat) (params : List Name) (body : CBody) :
    dropParam self i (progOf self params body) = progOf self (params.eraseIdx i) (dropArg i body) := by
  simp [progOf, dropParam, dropArgs_toP]

theorem substParam_progOf (i : Nat) (p : Name) (n : Int) (params : List Name) (body : CBody) :
    substParam self i p n (progOf self params body) =
      progOf self (params.eraseIdx i) (dropArg i (substVar p n body)) := by
  simp [progOf, substParam, dropArgs_toP, substVar_toP]

end

/-- Simulation: the function with parameter `i` removed (from the signature and from every self
call) runs exactly like the original, on environments that agree except on `p`. -/
theorem exec_drop (ev : Op → Int → Int → Option Int) (params : List Name) (body : CBody)
    (p : Name) (i : Nat) (hp : params[i]? = some p) (hnd : params.Nodup)
    (hbody : okUnused p i params.length body) :
    ∀ (fuel : Nat) (b : CBody) (e1 e2 : Env) (out : List (List Int)), Agree p e1 e2 →
      okUnused p i params.length b →
      exec ev params body fuel e1 out b =
        exec ev (params.eraseIdx i) (dropArg i body) fuel e2 out (dropArg i b) := by
  intro fuel b e1 e2 out ha hk
  -- the statement names no function: any name does for the embedding, `0` is taken
  rw [← exec_toP ev 0, ← exec_toP ev 0, ← dropArgs_toP, ← dropParam_progOf]
  exact CpeProg.exec_dropParam ev (progOf 0 params body) 0 i ⟨0, params, toP 0 body⟩ p rfl hp hnd
    (by simpa [progOf, CpeProg.hideOf_self, okU_toP] using hbody) fuel _ _ e1 e2 out (CpeProg.agreeH_of_agree ha)
    ((okU_toP 0 b p i _).mpr hk)

/-- The decision `Unused` (plus the MIR's well-formedness) gives the semantic precondition. -/
theorem okUnused_of_reads (self : Nat) (hself : self ≠ 999) (params : List Name) (p : Name) (i : Nat)
    (hp : params[i]? = some p) (hnd : params.Nodup) :
    ∀ (b : CBody), p ∉ readsOf self params b → assigns p b = false →
      callsArity params.length b = true → okUnused p i params.length b := by
  intro b hr ha hc
  rw [← readsOf_toP] at hr
  rw [← assignsP_toP self] at ha
  rw [← callsArityG_toP self] at hc
  exact (okU_toP self b p i _).mp (CpeProg.okU_of_reads self hself params p i hp hnd _ hr ha hc)

/-- Simulation: the function with the constant parameter substituted and removed runs exactly like
the original whenever the parameter holds the constant. -/
theorem exec_subst (ev : Op → Int → Int → Option Int) (params : List Name) (body : CBody)
    (p : Name) (i : Nat) (n : Int) (hp : params[i]? = some p) (hnd : params.Nodup)
    (hbody : okConst p i n params.length body) :
    ∀ (fuel : Nat) (b : CBody) (e1 e2 : Env) (out : List (List Int)), Agree p e1 e2 → e1 p = n →
      okConst p i n params.length b →
      exec ev params body fuel e1 out b =
        exec ev (params.eraseIdx i) (dropArg i (substVar p n body)) fuel e2 out
          (dropArg i (substVar p n b)) := by
  intro fuel b e1 e2 out ha hn hk
  rw [← exec_toP ev 0, ← exec_toP ev 0, ← dropArgs_toP, ← substVar_toP, ← substParam_progOf]
  exact (CpeProg.exec_substParam ev (progOf 0 params body) 0 i ⟨0, params, toP 0 body⟩ p n rfl hp hnd
    (by simpa [progOf, CpeProg.hideOf_self, okC_toP] using hbody) fuel).1 _ e1 e2 out ha hn ((okC_toP 0 b p i _ n).mpr hk)

/-- The decision `Int32Constant(n)` (every self call passes the literal) gives the semantic precondition. -/
theorem okConst_of_calls (p : Name) (i : Nat) (n : Int) (k : Nat) (hi : i < k) : ∀ (b : CBody),
    (∀ args ∈ selfCalls b, ∀ a, (args.map exprArg)[i]? = some a → a = .i32 n) →
    assigns p b = false → callsArity k b = true → okConst p i n k b := by
  intro b h ha hc
  rw [← callsOf_toP 0] at h
  rw [← assignsP_toP 0] at ha
  rw [← callsArityG_toP 0] at hc
  exact (okC_toP 0 b p i k n).mp
    (CpeProg.okC_of_calls 0 i k n (some p) hi _ h (fun q hq => by cases hq; exact ha) hc)

end SamVerif.CpeSem
