import SamVerif.Model.Backends
/-! What the C04 property files share about `Model/Backends.lean`: 32-bit wrapping, UTF-8, and the
equations of the recursive string and `Vec` models on each form of input, so that the proofs
rewrite with them and do not unfold. -/
namespace SamVerif.Backends

theorem wrap32_id {x : Int} (h : InRange x) : wrap32 x = x := by
  unfold InRange at h; unfold wrap32; omega

theorem wrap32_inRange (x : Int) : InRange (wrap32 x) := by
  unfold InRange wrap32; omega

theorem i31wrap_id {x : Int} (h : InI31 x) : i31wrap x = x := by
  unfold InI31 at h; unfold i31wrap; omega

theorem i31wrap_in (x : Int) : InI31 (i31wrap x) := by
  unfold InI31 i31wrap; omega

theorem agree_int (r : Int) : Agree (.int r) (some r) := ⟨r, rfl, rfl⟩

theorem agree_int_iff (r s : Int) : Agree (.int r) (some s) ↔ r = s := by
  constructor
  · rintro ⟨x, h1, h2⟩; cases h1; cases h2; rfl
  · rintro rfl; exact agree_int r

theorem agree_wrap {r : Int} (h : InRange r) : Agree (.int r) (some (wrap32 r)) :=
  (wrap32_id h).symm ▸ agree_int r

theorem fdiv_eq_tdiv_iff (a b : Int) (hb : b ≠ 0) :
    Int.fdiv a b = Int.tdiv a b ↔ (a % b = 0 ∨ (0 < a ∧ 0 < b) ∨ (a < 0 ∧ b < 0)) := by
  rw [Int.fdiv_eq_tdiv, ← Int.dvd_iff_emod_eq_zero]
  by_cases hd : b ∣ a
  · rw [if_pos hd, Int.sub_zero]; exact iff_of_true rfl (.inl hd)
  · have ha : a ≠ 0 := fun e => hd (e ▸ Int.dvd_zero b)
    rw [if_neg hd, or_iff_right hd]
    rcases Int.lt_or_gt_of_ne hb with hn | hp
    · rw [Int.sign_eq_neg_one_of_neg hn, if_neg (Int.not_le.mpr hn), if_neg (Int.not_le.mpr hn)]
      split <;> omega
    · rw [Int.sign_eq_one_of_pos hp, if_pos (Int.le_of_lt hp), if_pos (Int.le_of_lt hp)]
      split <;> omega

theorem byteToU8_id (b : Nat) (h : b < 256) : byteToU8 b = b := by
  unfold byteToU8; split <;> omega

theorem isCont_cont (d : Nat) (h : d < 64) : isCont (128 + d) = true := by
  simp only [isCont, Bool.and_eq_true, decide_eq_true_eq]; omega

theorem div_digit (n k : Nat) : n / (k * 64) * (k * 64) + n / k % 64 * k = n / k * k := by
  rw [← Nat.div_div_eq_div_mul, Nat.mul_comm k 64, ← Nat.mul_assoc, ← Nat.add_mul, Nat.div_add_mod']

/-- the four forms of a UTF-8 sequence, in terms of the base-64 digits of the code point -/
theorem utf8_cases (v : Nat) (hv : v < 2097152) :
    (v < 128 ∧ utf8 v = [v]) ∨
    (∃ a b, a < 32 ∧ b < 64 ∧ utf8 v = [192 + a, 128 + b] ∧ a * 64 + b = v) ∨
    (∃ a b c, a < 16 ∧ b < 64 ∧ c < 64 ∧ utf8 v = [224 + a, 128 + b, 128 + c] ∧
      a * 4096 + b * 64 + c = v) ∨
    (∃ a b c d, a < 8 ∧ b < 64 ∧ c < 64 ∧ d < 64 ∧
      utf8 v = [240 + a, 128 + b, 128 + c, 128 + d] ∧ a * 262144 + b * 4096 + c * 64 + d = v) := by
  have m : ∀ n, n % 64 < 64 := fun n => Nat.mod_lt n (by decide)
  have e1 : v / 4096 * 4096 + v / 64 % 64 * 64 = v / 64 * 64 := div_digit v 64
  have e2 : v / 262144 * 262144 + v / 4096 % 64 * 4096 = v / 4096 * 4096 := div_digit v 4096
  fun_cases utf8 v
  case case1 h1 => exact .inl ⟨h1, rfl⟩
  case case2 h2 =>
    exact .inr (.inl ⟨v / 64, v % 64, Nat.div_lt_of_lt_mul (n := 64) (k := 32) h2, m v, rfl,
      Nat.div_add_mod' v 64⟩)
  case case3 h3 =>
    exact .inr (.inr (.inl ⟨v / 4096, v / 64 % 64, v % 64,
      Nat.div_lt_of_lt_mul (n := 4096) (k := 16) h3, m _, m v, rfl, by rw [e1, Nat.div_add_mod']⟩))
  case case4 =>
    exact .inr (.inr (.inr ⟨v / 262144, v / 4096 % 64, v / 64 % 64, v % 64,
      Nat.div_lt_of_lt_mul (n := 262144) (k := 8) hv, m _, m _, m v, rfl,
      by rw [e2, e1, Nat.div_add_mod']⟩))

theorem map_byteToU8_id (l : List Nat) (h : ∀ b ∈ l, b < 256) : l.map byteToU8 = l := by
  induction l with
  | nil => rfl
  | cons b r ih =>
    rw [List.map_cons, byteToU8_id b (h b List.mem_cons_self),
      ih (fun x hx => h x (List.mem_cons_of_mem _ hx))]

theorem utf8Decode_one (a : Nat) (rest : List Nat) (ha : a < 128) :
    utf8Decode (a :: rest) = a :: utf8Decode rest :=
  (utf8Decode.eq_2 a rest).trans (if_pos ha)

theorem utf8Decode_two (a b : Nat) (rest : List Nat) (ha : a < 32) (hb : b < 64) :
    utf8Decode ((192 + a) :: (128 + b) :: rest) = (a * 64 + b) :: utf8Decode rest := by
  have h : ¬ 192 + a < 128 ∧ 192 ≤ 192 + a ∧ 192 + a < 224 := by omega
  rw [utf8Decode, if_neg h.1, if_pos ⟨h.2.1, h.2.2, isCont_cont b hb⟩]
  simp only [List.getD_cons_zero, List.drop_succ_cons, List.drop_zero, Nat.add_sub_cancel_left]

theorem utf8Decode_three (a b c : Nat) (rest : List Nat) (ha : a < 16) (hb : b < 64) (hc : c < 64) :
    utf8Decode ((224 + a) :: (128 + b) :: (128 + c) :: rest) =
      (a * 4096 + b * 64 + c) :: utf8Decode rest := by
  have h : ¬ 224 + a < 128 ∧ ¬ 224 + a < 224 ∧ 224 ≤ 224 + a ∧ 224 + a < 240 := by omega
  rw [utf8Decode, if_neg h.1, if_neg (fun x => h.2.1 x.2.1),
    if_pos ⟨h.2.2.1, h.2.2.2, isCont_cont b hb, isCont_cont c hc⟩]
  simp only [List.getD_cons_zero, List.getD_cons_succ, List.drop_succ_cons, List.drop_zero,
    Nat.add_sub_cancel_left]

theorem utf8Decode_four (a b c d : Nat) (rest : List Nat) (ha : a < 8) (hb : b < 64) (hc : c < 64)
    (hd : d < 64) :
    utf8Decode ((240 + a) :: (128 + b) :: (128 + c) :: (128 + d) :: rest) =
      (a * 262144 + b * 4096 + c * 64 + d) :: utf8Decode rest := by
  have h : ¬ 240 + a < 128 ∧ ¬ 240 + a < 224 ∧ ¬ 240 + a < 240 ∧ 240 ≤ 240 + a ∧ 240 + a < 248 := by
    omega
  rw [utf8Decode, if_neg h.1, if_neg (fun x => h.2.1 x.2.1), if_neg (fun x => h.2.2.1 x.2.1),
    if_pos ⟨h.2.2.2.1, h.2.2.2.2, isCont_cont b hb, isCont_cont c hc, isCont_cont d hd⟩]
  simp only [List.getD_cons_zero, List.getD_cons_succ, List.drop_succ_cons, List.drop_zero,
    Nat.add_sub_cancel_left]

theorem utf8Decode_utf8 (v : Nat) (hv : v < 2097152) (rest : List Nat) :
    utf8Decode ((utf8 v).map byteToU8 ++ rest) = v :: utf8Decode rest := by
  -- all bytes are below 256, so the sign extension and its undoing leave them as they are
  rcases utf8_cases v hv with ⟨h, e⟩ | ⟨a, b, ha, hb, e, rfl⟩ | ⟨a, b, c, ha, hb, hc, e, rfl⟩ |
    ⟨a, b, c, d, ha, hb, hc, hd, e, rfl⟩ <;>
    rw [e, map_byteToU8_id _ (by
      simp only [List.mem_cons, List.not_mem_nil, or_false, forall_eq_or_imp, forall_eq]; omega)]
  · exact utf8Decode_one v rest h
  · exact utf8Decode_two a b rest ha hb
  · exact utf8Decode_three a b c rest ha hb hc
  · exact utf8Decode_four a b c d rest ha hb hc hd

theorem closesAtEnd_add_two (raw : Text) (bs : Nat) :
    closesAtEnd (bs + 2) raw = closesAtEnd bs raw := by
  induction raw generalizing bs with
  | nil => simp only [closesAtEnd, Nat.add_mod_right]
  | cons c r ih => simp only [closesAtEnd, Nat.add_mod_right, Nat.add_right_comm bs 2 1, ih]

theorem closesAtEnd_esc (e : Nat) (r : Text) :
    closesAtEnd 0 (92 :: e :: r) = (e != 10 && closesAtEnd 0 r) := by
  rw [closesAtEnd, if_neg (by decide), if_neg (by decide), if_pos rfl, closesAtEnd]
  by_cases h10 : e = 10
  · rw [if_pos h10, h10]; rfl
  rw [if_neg h10, bne_iff_ne.mpr h10, Bool.true_and]
  by_cases h34 : e = 34
  · rw [if_pos h34]; rfl
  by_cases h92 : e = 92
  · rw [if_neg h34, if_pos h92]; exact closesAtEnd_add_two r 0
  · rw [if_neg h34, if_neg h92]

theorem validEscapes_esc (e : Nat) (r : Text) :
    validEscapes false (92 :: e :: r) =
      ((e == 92 || lexEscapes.contains e) && validEscapes false r) := by
  rw [validEscapes, if_pos rfl, validEscapes]
  by_cases h92 : e = 92
  · rw [if_pos h92, h92]; rfl
  · rw [if_neg h92, beq_false_of_ne h92]; rfl

theorem closesAtEnd_plain (c : Nat) (r : Text) (h : c ≠ 92) :
    closesAtEnd 0 (c :: r) = (c != 10 && c != 34 && closesAtEnd 0 r) := by
  rw [closesAtEnd]
  by_cases h10 : c = 10
  · rw [if_pos h10, h10]; rfl
  rw [if_neg h10, bne_iff_ne.mpr h10, Bool.true_and]
  by_cases h34 : c = 34
  · rw [if_pos h34, h34]; rfl
  · rw [if_neg h34, if_neg h, bne_iff_ne.mpr h34, Bool.true_and]

theorem validEscapes_plain (c : Nat) (r : Text) (h : c ≠ 92) :
    validEscapes false (c :: r) = validEscapes false r := by
  rw [validEscapes, if_neg h]; rfl

theorem unescapeQuotes_cons (c : Nat) (r : Text) (h : c = 92 → r.head? ≠ some 34) :
    unescapeQuotes (c :: r) = c :: unescapeQuotes r := by
  rw [unescapeQuotes]
  intro r' hc hr; exact h hc (hr ▸ rfl)

theorem unescapeQuotes_sublist (raw : Text) : (unescapeQuotes raw).Sublist raw := by
  induction raw using unescapeQuotes.induct with
  | case1 r ih => rw [unescapeQuotes]; exact (ih.cons_cons 34).cons 92
  | case2 c r hne ih =>
    rw [unescapeQuotes]
    · exact ih.cons_cons c
    · exact hne
  | case3 => exact .slnil

theorem wasmUnescape_esc (e ch : Nat) (r : Text) (h : escChar e = some ch) :
    wasmUnescape (92 :: e :: r) = ch :: wasmUnescape r := by
  rw [wasmUnescape, h]

theorem wasmUnescape_plain (c : Nat) (r : Text) (h : c ≠ 92) :
    wasmUnescape (c :: r) = c :: wasmUnescape r := by
  rw [wasmUnescape]
  · intro e; exact absurd e h
  · intro e r' e1 _; exact absurd e1 h

theorem tsCook_plain_cons (c : Nat) (rest : Text) (h1 : c ≠ 92) (h2 : c ≠ 96) (h3 : c ≠ 13)
    (h4 : c = 36 → rest.head? ≠ some 123) :
    tsCook (c :: rest) = (tsCook rest).map (utf16 c ++ ·) := by
  rw [tsCook]
  · exact h2
  · intro tail h hr; exact h4 h (hr ▸ rfl)
  all_goals intros; contradiction

theorem tsCook_backslash (c : Nat) (rest : Text) (h13 : c ≠ 13) (h120 : c ≠ 120) :
    tsCook (92 :: c :: rest) =
      if c = 110 then (tsCook rest).map (10 :: ·)
      else if c = 116 then (tsCook rest).map (9 :: ·)
      else if c = 118 then (tsCook rest).map (11 :: ·)
      else if c = 98 then (tsCook rest).map (8 :: ·)
      else if c = 102 then (tsCook rest).map (12 :: ·)
      else if c = 114 then (tsCook rest).map (13 :: ·)
      else if c = 48 then
        if (rest.head?.map isDigit).getD false then none else (tsCook rest).map (0 :: ·)
      else if isDigit c || c = 120 || c = 117 then none
      else if c = 10 || c = 13 || c = 8232 || c = 8233 then tsCook rest
      else (tsCook rest).map (utf16 c ++ ·) := by
  rw [tsCook] <;> intros <;> contradiction

theorem tsCook_r (rest : Text) : tsCook (92 :: 114 :: rest) = (tsCook rest).map (13 :: ·) :=
  tsCook_backslash 114 rest (by decide) (by decide)

theorem tsCook_escaped (c : Nat) (rest : Text) (hc : c = 96 ∨ c = 36) :
    tsCook (92 :: c :: rest) = (tsCook rest).map (utf16 c ++ ·) := by
  rcases hc with rfl | rfl <;> exact tsCook_backslash _ rest (by decide) (by decide)

theorem tsCook_nul (rest : Text) (h : (rest.head?.map isDigit).getD false = false) :
    tsCook (92 :: 48 :: rest) = (tsCook rest).map (0 :: ·) := by
  rw [tsCook_backslash 48 rest (by decide) (by decide), h]; rfl

theorem tsCook_hex00 (rest : Text) : tsCook (92 :: 120 :: 48 :: 48 :: rest) = (tsCook rest).map (0 :: ·) := by
  rw [tsCook]; rfl

theorem tsEscape_nil : tsEscape [] = [] := by rw [tsEscape]

theorem tsEscape_nul_digit (r : Text) (h : (r.head?.map isDigit).getD false = true) :
    tsEscape (92 :: 48 :: r) = 92 :: 120 :: 48 :: 48 :: tsEscape r := by
  rw [tsEscape, if_pos ⟨rfl, h⟩]; rfl

theorem tsEscape_nul_other (r : Text) (h : (r.head?.map isDigit).getD false = false) :
    tsEscape (92 :: 48 :: r) = 92 :: 48 :: tsEscape r := by
  rw [tsEscape, if_neg (fun x => Bool.false_ne_true (h.symm.trans x.2))]

theorem tsEscape_esc (e : Nat) (r : Text) (h : e ≠ 48) :
    tsEscape (92 :: e :: r) = 92 :: e :: tsEscape r := by
  rw [tsEscape]; simp [h]

theorem tsEscape_cons (c : Nat) (r : Text) (h1 : c ≠ 92) :
    tsEscape (c :: r) = match tsRewriteOf c r.head? with
      | some rep => rep ++ tsEscape r
      | none => c :: tsEscape r := by
  rw [tsEscape]
  · rfl
  · intro h _; exact h1 h
  · intro n r' h _; exact h1 h

theorem tsEscape_rewrite (c : Nat) (r : Text) (rep : List Nat) (h1 : c ≠ 92)
    (h : tsRewriteOf c r.head? = some rep) : tsEscape (c :: r) = rep ++ tsEscape r := by
  rw [tsEscape_cons c r h1, h]

theorem tsEscape_backtick (r : Text) : tsEscape (96 :: r) = 92 :: 96 :: tsEscape r :=
  tsEscape_rewrite 96 r [92, 96] (by decide) rfl

theorem tsEscape_subst (r : Text) : tsEscape (36 :: 123 :: r) = 92 :: 36 :: tsEscape (123 :: r) :=
  tsEscape_rewrite 36 (123 :: r) [92, 36] (by decide) rfl

theorem tsEscape_cr (r : Text) : tsEscape (13 :: r) = 92 :: 114 :: tsEscape r :=
  tsEscape_rewrite 13 r [92, 114] (by decide) rfl

theorem tsEscape_plain (c : Nat) (r : Text) (h1 : c ≠ 92) (h2 : c ≠ 96) (h3 : c ≠ 13)
    (h4 : c = 36 → r.head? ≠ some 123) : tsEscape (c :: r) = c :: tsEscape r := by
  have hnone : tsRewriteOf c r.head? = none := by
    simp only [tsRewriteOf, tsRewrites, List.findSome?_cons, List.findSome?_nil]
    have e1 : ¬ (96 = c) := fun e => h2 e.symm
    have e3 : ¬ (13 = c) := fun e => h3 e.symm
    by_cases h36 : c = 36
    · subst h36
      have := h4 rfl
      have e4 : ¬ (some 123 = r.head?) := fun hh => this hh.symm
      simp [e4]
    · have e2 : ¬ (36 = c) := fun e => h36 e.symm
      simp [e1, e2, e3]
  rw [tsEscape_cons c r h1, hnone]

theorem tsRewriteOf_head (c : Nat) (n : Option Nat) (rep : List Nat) (h : tsRewriteOf c n = some rep) :
    rep.head? = some 92 := by
  obtain ⟨⟨ch, g, rep'⟩, hm, hf⟩ := List.exists_of_findSome?_eq_some h
  have ht : ∀ e ∈ tsRewrites, e.2.2.head? = some 92 := by decide
  dsimp only at hf
  split at hf
  · cases hf; exact ht _ hm
  · cases hf

theorem tsEscape_head (s : Text) : (tsEscape s).head? = s.head? ∨ (tsEscape s).head? = some 92 := by
  fun_cases tsEscape s
  -- the two cases that replace text, `\0` before a digit and a row of the table, put a backslash first
  case case3 => exact .inr rfl
  case case5 rep hrep =>
    rw [List.head?_append, tsRewriteOf_head _ _ _ hrep]; exact .inr rfl
  all_goals exact .inl rfl

def VRes.isFail : VRes → Bool
  | .fail _ => true
  | _ => false

theorem tsVecRun_cons (t : List Int) (op : VOp) (ops : List VOp) :
    tsVecRun t (op :: ops) = (tsVecStep t op).2 ::
      (if (tsVecStep t op).2.isFail then [] else tsVecRun (tsVecStep t op).1 ops) := by
  rw [tsVecRun]
  rcases tsVecStep t op with ⟨t', _ | _ | _⟩ <;> rfl

theorem wasmVecRun_cons (box : Int → Int) (w : WVec) (op : VOp) (ops : List VOp) :
    wasmVecRun box w (op :: ops) = (wasmVecStep box w op).2 ::
      (if (wasmVecStep box w op).2.isFail then [] else
        wasmVecRun box (wasmVecStep box w op).1 ops) := by
  rw [wasmVecRun]
  rcases wasmVecStep box w op with ⟨w', _ | _ | _⟩ <;> rfl

end SamVerif.Backends
