import SamVerif.Props.C15b
/-! Axiom audit of the C15 theorems that build on builder-C08's printer/parser model (separate, so
that a transient edit of C08's files cannot fail the C15 proof gate). -/
open SamVerif.FmtFull
#print axioms renamed_roundtrip
#print axioms regroup_relabel_commute
#print axioms rename_back_restores_formatted
