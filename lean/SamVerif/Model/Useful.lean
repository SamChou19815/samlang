/-
Model of `crates/samlang-checker/src/pattern_matching.rs` (usefulness / exhaustiveness analysis,
Maranget's matrix algorithm with or-pattern expansion) and of the source-pattern → abstract-pattern
normalisation in `crates/samlang-checker/src/main_checker.rs:1082-1512`, function by function.
Core Lean only (no Mathlib) so that the line-protocol driver `drv-c07` links natively.

Conventions
* `PStr` names are natural numbers; the protocol assigns ids in the byte order of the names, so the
  derived `Ord` of `VariantPatternConstructor` (pattern_matching.rs:12) is the order on `(cls, name)`.
* `HashMap<Option<VariantPatternConstructor>, usize>` (root constructors) is an association list with
  unique keys, "last insert wins"; where Rust sorts it (`sorted_by_key`) the model sorts it.
* The recursions `useful_internal` / `incomplete_counterexample_internal` are not structurally
  recursive; the executable functions take fuel and return `none` when it runs out.
  `Lemmas/UsefulTerm.lean` proves that the fuel `usefulFuel P q` resp. `cexFuel P n` always suffices
  (termination).
* Where Rust would panic (`p_row.first().unwrap()` on an empty row, `assert!(variants_grouped.len()==1)`,
  `split_remaining.pop().unwrap()`) the model is total (it skips the row / takes the first class / takes
  what is there); `patTy` describes the inputs on which the panics cannot happen
  (`Lemmas/Useful.lean`: shapes are preserved), and the driver answers `illtyped` outside them.
-/
namespace SamVerif.Useful

/-- `VariantPatternConstructor` (pattern_matching.rs:12-17); `cls` stands for (module, class). -/
structure Ctor where
  cls : Nat
  name : Nat
  deriving DecidableEq, Repr, Inhabited

/-- `AbstractPatternNodeInner` (pattern_matching.rs:19-28). -/
inductive Pat where
  | struct (c : Option Ctor) (args : List Pat)
  | wild
  | or (ps : List Pat)
  deriving Repr, Inhabited

abbrev Row := List Pat        -- `PatternVector`
abbrev Matrix := List Row     -- `PatternMatrix`

/-- `PatternMatchingContext::variant_signature_incomplete_names` is determined by the list of
(variant name, arity) of each enum class (typing_context.rs:380-401). -/
abbrev Cx := Nat → List (Nat × Nat)

def wilds (n : Nat) : List Pat := List.replicate n .wild

/-! ### `convert_into_specialized_matrix(_row)` (pattern_matching.rs:200-248) -/

mutual
/-- One row whose first element is `p` and whose remaining elements are `rest`. -/
def specHead (variant : Option Ctor) (n : Nat) (rest : Row) : Pat → List Row
  | .struct c rs =>
    match c, variant with
    | some a, some b => if a = b then [rs ++ rest] else []   -- different constructors: skip
    | _, _ => [rs ++ rest]
  | .wild => [wilds n ++ rest]
  | .or ps => specHeads variant n rest ps
def specHeads (variant : Option Ctor) (n : Nat) (rest : Row) : List Pat → List Row
  | [] => []
  | p :: ps => specHead variant n rest p ++ specHeads variant n rest ps
end

def specRow (variant : Option Ctor) (n : Nat) : Row → List Row
  | [] => []            -- Rust: `first().unwrap()` panics; unreachable on shaped matrices
  | p :: rest => specHead variant n rest p

def specialize (P : Matrix) (variant : Option Ctor) (n : Nat) : Matrix :=
  P.flatMap (specRow variant n)

/-! ### `default_matrix` (pattern_matching.rs:271-291).
The Rust work-list pushes or-alternatives to the *front* of the queue, so its rows come out in a
different order; no caller depends on row order (rows are only ever tested by `any`/`all`). -/

mutual
def defaultHead (rest : Row) : Pat → List Row
  | .struct _ _ => []
  | .wild => [rest]
  | .or ps => defaultHeads rest ps
def defaultHeads (rest : Row) : List Pat → List Row
  | [] => []
  | p :: ps => defaultHead rest p ++ defaultHeads rest ps
end

def defaultRow : Row → List Row
  | [] => []            -- Rust: `first().unwrap()` panics; unreachable on shaped matrices
  | p :: rest => defaultHead rest p

def defaultMatrix (P : Matrix) : Matrix := P.flatMap defaultRow

/-! ### `find_roots_constructors` (pattern_matching.rs:250-269) -/

mutual
def headCtors : Pat → List (Option Ctor × Nat)
  | .struct c rs => [(c, rs.length)]
  | .wild => []
  | .or ps => headCtorsL ps
def headCtorsL : List Pat → List (Option Ctor × Nat)
  | [] => []
  | p :: ps => headCtors p ++ headCtorsL ps
end

def rowHeadCtors : Row → List (Option Ctor × Nat)
  | [] => []
  | p :: _ => headCtors p

def rawRoots (P : Matrix) : List (Option Ctor × Nat) := P.flatMap rowHeadCtors

/-- `HashMap::insert`: the last inserted arity of a key wins. -/
def insertRoot (m : List (Option Ctor × Nat)) (kv : Option Ctor × Nat) : List (Option Ctor × Nat) :=
  kv :: m.filter (fun x => x.1 ≠ kv.1)

def rootCtors (P : Matrix) : List (Option Ctor × Nat) := (rawRoots P).foldl insertRoot []

/-! ### `signature_incomplete_names` (pattern_matching.rs:293-325) -/

def sigIncomplete (cx : Cx) (roots : List (Option Ctor × Nat)) : Option (List (Ctor × Nat)) :=
  if roots.any (fun r => r.1.isNone) then none
  else match roots with
    | [] => some []
    | (none, _) :: _ => none     -- not reachable (covered by the first test)
    | (some c, _) :: _ =>
      -- Rust asserts that all root constructors belong to one class (`variants_grouped.len() == 1`)
      let names := roots.filterMap (fun r => r.1.map (·.name))
      let result := ((cx c.cls).filter (fun nv => !names.contains nv.1)).map
        (fun nv => (({ cls := c.cls, name := nv.1 } : Ctor), nv.2))
      if result.isEmpty then none else some result

/-- `assert!(variants_grouped.len() == 1)`: would this call panic? -/
def rootsOneClass : List (Option Ctor × Nat) → Bool
  | [] => true
  | (none, _) :: _ => true
  | (some c, _) :: rest => rest.all (fun r => match r.1 with | some d => d.cls = c.cls | none => true)

/-! ### `useful_internal` (pattern_matching.rs:164-198) -/

/-- `Iterator::any` over a fuelled callee: stops at the first `true`. -/
def anyO {α : Type} (f : α → Option Bool) : List α → Option Bool
  | [] => some false
  | x :: xs =>
    match f x with
    | none => none
    | some true => some true
    | some false => anyO f xs

def usefulF (cx : Cx) : Nat → Matrix → Row → Option Bool
  | 0, _, _ => none
  | fuel + 1, P, q =>
    if P.isEmpty then some true else
    match q with
    | [] => some false
    | .struct c rs :: rest => usefulF cx fuel (specialize P c rs.length) (rs ++ rest)
    | .wild :: rest =>
      let roots := rootCtors P
      match sigIncomplete cx roots with
      | none =>
        anyO (fun cn => usefulF cx fuel (specialize P cn.1 cn.2) (wilds cn.2 ++ rest)) roots
      | some _ => usefulF cx fuel (defaultMatrix P) rest
    | .or ps :: rest => anyO (fun r => usefulF cx fuel P (r :: rest)) ps

/-! ### `incomplete_counterexample_internal` (pattern_matching.rs:327-378) -/

def ctorKeyLt : Option Ctor → Option Ctor → Bool
  | none, none => false
  | none, some _ => true
  | some _, none => false
  | some a, some b => a.cls < b.cls || (a.cls = b.cls && a.name < b.name)

def insertByKey (kv : Option Ctor × Nat) : List (Option Ctor × Nat) → List (Option Ctor × Nat)
  | [] => [kv]
  | x :: xs => if ctorKeyLt kv.1 x.1 then kv :: x :: xs else x :: insertByKey kv xs

/-- `sorted_by_key(|(k, _)| *k)` -/
def sortByKey (l : List (Option Ctor × Nat)) : List (Option Ctor × Nat) :=
  l.foldr insertByKey []

/-- `incomplete_names.into_iter().min()` on `(VariantPatternConstructor, usize)`. -/
def minCtor : List (Ctor × Nat) → Option (Ctor × Nat)
  | [] => none
  | x :: xs =>
    match minCtor xs with
    | none => some x
    | some y =>
      if ctorKeyLt (some x.1) (some y.1) || (x.1 = y.1 && x.2 ≤ y.2) then some x else some y

/-- first `Some` of a fuelled callee over a list (`for … { if let Some(v) = … { return … } } None`). -/
def firstO {α β : Type} (f : α → Option (Option β)) : List α → Option (Option β)
  | [] => some none
  | x :: xs =>
    match f x with
    | none => none
    | some (some r) => some (some r)
    | some none => firstO f xs

def cexF (cx : Cx) : Nat → Matrix → Nat → Option (Option Row)
  | 0, _, _ => none
  | fuel + 1, P, n =>
    if n = 0 then (if P.isEmpty then some (some []) else some none) else
    let roots := rootCtors P
    match sigIncomplete cx roots with
    | some incompleteNames =>
      match cexF cx fuel (defaultMatrix P) (n - 1) with
      | none => none
      | some none => some none
      | some (some v) =>
        let head := match minCtor incompleteNames with
          | some (variant, size) => Pat.struct (some variant) (wilds size)
          | none => Pat.wild
        some (some (head :: v))
    | none =>
      firstO (fun cn =>
        match cexF cx fuel (specialize P cn.1 cn.2) (cn.2 + n - 1) with
        | none => none
        | some none => some none
        | some (some v) => some (some (Pat.struct cn.1 (v.take cn.2) :: v.drop cn.2)))
        (sortByKey roots)

/-- `is_additional_pattern_useful` (pattern_matching.rs:137-148) -/
def isAdditionalPatternUsefulF (cx : Cx) (fuel : Nat) (existing : List Pat) (p : Pat) : Option Bool :=
  usefulF cx fuel (existing.map fun e => [e]) [p]

/-- `toplevel_elements_to_description` + `incomplete_counterexample` (pattern_matching.rs:66-73,150-160):
a one-column matrix, answer is the single pattern of the vector. -/
def incompleteCounterexampleF (cx : Cx) (fuel : Nat) (existing : List Pat) : Option (Option Pat) :=
  match cexF cx fuel (existing.map fun e => [e]) 1 with
  | none => none
  | some none => some none
  | some (some [p]) => some (some p)
  | some (some ps) => some (some (.struct none ps))

/-! ### Fuel that always suffices

Weights (a row weighs the product of `1 + patW p`, a constructor pattern the product over its
arguments, an or-pattern the sum over its alternatives, a wildcard nothing) and the largest
constructor arity; `Lemmas/UsefulTerm.lean` proves that `usefulFuel` / `cexFuel` are enough
(`useful_fuel_bound`, `cex_fuel_bound` in `Props/C07.lean`), so the drivers run with exactly this
fuel. -/

mutual
def patW : Pat → Nat
  | .wild => 0
  | .struct _ args => rowW args
  | .or ps => sumW ps
def rowW : List Pat → Nat
  | [] => 1
  | p :: ps => (1 + patW p) * rowW ps
def sumW : List Pat → Nat
  | [] => 0
  | p :: ps => (1 + patW p) + sumW ps
end

def matW : Matrix → Nat
  | [] => 0
  | r :: P => rowW r + matW P

mutual
def arP : Pat → Nat
  | .wild => 0
  | .struct _ args => max args.length (arL args)
  | .or ps => arL ps
def arL : List Pat → Nat
  | [] => 0
  | p :: ps => max (arP p) (arL ps)
end

def arM : Matrix → Nat
  | [] => 0
  | r :: P => max (arL r) (arM P)

def usefulFuel (P : Matrix) (q : Row) : Nat :=
  (matW P + rowW q) * (max (arM P) (arL q) + 1) + q.length + 1

def cexFuel (P : Matrix) (n : Nat) : Nat := matW P * (arM P + 1) + n + 1

/-- `is_additional_pattern_useful` / `incomplete_counterexample` without a fuel argument -/
def isAdditionalPatternUseful (cx : Cx) (existing : List Pat) (p : Pat) : Option Bool :=
  isAdditionalPatternUsefulF cx (usefulFuel (existing.map fun e => [e]) [p]) existing p

def incompleteCounterexample (cx : Cx) (existing : List Pat) : Option (Option Pat) :=
  incompleteCounterexampleF cx (cexFuel (existing.map fun e => [e]) 1) existing

/-! ## Values, matching, types -/

/-- Run-time values as far as patterns can see them: a variant value, a struct/tuple value
(`con none`), or a value of a type that patterns cannot inspect (int, bool, Str, functions, …). -/
inductive Val where
  | con (c : Option Ctor) (args : List Val)
  | prim (k : Nat)
  deriving Repr, Inhabited

mutual
def pmatch : Pat → Val → Bool
  | .wild, _ => true
  | .or ps, v => pmatchAny ps v
  | .struct c ps, .con c' vs => decide (c = c') && pmatchAll ps vs
  | .struct _ _, .prim _ => false
def pmatchAny : List Pat → Val → Bool
  | [], _ => false
  | p :: ps, v => pmatch p v || pmatchAny ps v
def pmatchAll : List Pat → List Val → Bool
  | [], [] => true
  | p :: ps, v :: vs => pmatch p v && pmatchAll ps vs
  | [], _ :: _ => false
  | _ :: _, [] => false
end

/-- Type definitions, indexed by a type id (a *monomorphic instance*: `Option<int>` and
`Option<Option<int>>` are two ids with the same class). -/
inductive Def where
  | enum (cls : Nat) (variants : List (Nat × List Nat))   -- (variant name, field type ids)
  | struct (fields : List (Nat × Nat))                     -- (field name, type id)
  | prim
  deriving Repr, Inhabited

abbrev Sig := Nat → Def

def findVariant (vs : List (Nat × List Nat)) (name : Nat) : Option (List Nat) :=
  match vs with
  | [] => none
  | (n, tys) :: rest => if n = name then some tys else findVariant rest name

/-- Field types of constructor `c` at type `t` (`none`: `c` is not a constructor of `t`). -/
def ctorFields (sig : Sig) (t : Nat) (c : Option Ctor) : Option (List Nat) :=
  match sig t, c with
  | .enum cls vs, some k => if k.cls = cls then findVariant vs k.name else none
  | .struct fs, none => some (fs.map (·.2))
  | _, _ => none

mutual
def patTy (sig : Sig) : Pat → Nat → Bool
  | .wild, _ => true
  | .or ps, t => patTyAll sig ps t
  | .struct c ps, t =>
    match ctorFields sig t c with
    | some tys => patTys sig ps tys
    | none => false
def patTyAll (sig : Sig) : List Pat → Nat → Bool
  | [], _ => true
  | p :: ps, t => patTy sig p t && patTyAll sig ps t
def patTys (sig : Sig) : List Pat → List Nat → Bool
  | [], [] => true
  | p :: ps, t :: ts => patTy sig p t && patTys sig ps ts
  | [], _ :: _ => false
  | _ :: _, [] => false
end

mutual
def hasTy (sig : Sig) : Val → Nat → Bool
  | .prim _, t => match sig t with | .prim => true | _ => false
  | .con c ws, t =>
    match ctorFields sig t c with
    | some tys => hasTys sig ws tys
    | none => false
def hasTys (sig : Sig) : List Val → List Nat → Bool
  | [], [] => true
  | v :: vs, t :: ts => hasTy sig v t && hasTys sig vs ts
  | [], _ :: _ => false
  | _ :: _, [] => false
end

def matrixTy (sig : Sig) (P : Matrix) (ts : List Nat) : Bool := P.all (fun r => patTys sig r ts)

/-- The checker's context agrees with the signature. -/
def CxOk (sig : Sig) (cx : Cx) : Prop :=
  ∀ t cls vs, sig t = .enum cls vs → cx cls = vs.map (fun v => (v.1, v.2.length))

/-- Every type has a value (the hypothesis under which exhaustiveness checking is exact). -/
def Inhabited' (sig : Sig) : Prop := ∀ t, ∃ v, hasTy sig v t = true

/-! ### A decidable certificate for `Inhabited'` on a finite type table

`rank` assigns a natural number to every type id such that every field of a struct has a smaller
rank than the struct and every enum has *one* variant all of whose fields have a smaller rank
(`Lemmas/Useful.lean`: `inhabited_of_rank`, `inhabited_of_rankCheck`). -/

def sigOfTable (defs : List Def) : Sig := fun t => defs.getD t .prim

def rankOkAt (sig : Sig) (rank : Nat → Nat) (t : Nat) : Bool :=
  match sig t with
  | .prim => true
  | .struct fs => fs.all (fun f => rank f.2 < rank t)
  | .enum _ vs => vs.any (fun v =>
      (match findVariant vs v.1 with
        | some tys => tys.all (fun ty => rank ty < rank t)
        | none => false))

def rankCheck (defs : List Def) (rank : List Nat) : Bool :=
  (List.range defs.length).all (rankOkAt (sigOfTable defs) (fun t => rank.getD t 0))

/-! ### Generic classes and their instantiation

`resolve_detailed_struct_definitions_opt` / `resolve_detailed_enum_definitions_opt`
(typing_context.rs:1040-1100) substitute the type arguments of the scrutinee's nominal type for the
class's type parameters in every field type.  The usefulness model works on *instances*
(`Sig : type id → Def`); `monoCheck` decides that a table of instances is exactly what this
substitution produces from the generic class declarations, so the instantiation itself is inside the
model (the protocol sends both; the driver answers `mono=1`).  Any number of type parameters. -/

inductive GTy where
  | int
  | tparam (i : Nat)
  | cls (c : Nat) (args : List GTy)
  deriving Repr, Inhabited

mutual
def GTy.beq : GTy → GTy → Bool
  | .int, .int => true
  | .tparam i, .tparam j => i = j
  | .cls c as, .cls d bs => c = d && GTy.beqL as bs
  | _, _ => false
def GTy.beqL : List GTy → List GTy → Bool
  | [], [] => true
  | a :: as, b :: bs => GTy.beq a b && GTy.beqL as bs
  | _, _ => false
end

mutual
/-- `subst_type` with the map {Tᵢ ↦ argsᵢ} -/
def substTy (args : List GTy) : GTy → GTy
  | .int => .int
  | .tparam i => args.getD i .int
  | .cls c as => .cls c (substTyL args as)
def substTyL (args : List GTy) : List GTy → List GTy
  | [] => []
  | a :: as => substTy args a :: substTyL args as
end

inductive GDef where
  | enum (variants : List (Nat × List GTy))
  | struct (fields : List (Nat × GTy))
  deriving Repr, Inhabited

/-- field types of one instance agree with the substituted generic field types -/
def fieldsAgree (tyOf : List GTy) (arg : List GTy) : List Nat → List GTy → Bool
  | [], [] => true
  | i :: is, g :: gs => (match tyOf[i]? with | some t => GTy.beq t (substTy arg g) | none => false) &&
      fieldsAgree tyOf arg is gs
  | _, _ => false

def variantsAgree (tyOf : List GTy) (arg : List GTy) : List (Nat × List Nat) → List (Nat × List GTy) → Bool
  | [], [] => true
  | (n, is) :: vs, (m, gs) :: gvs => n = m && fieldsAgree tyOf arg is gs && variantsAgree tyOf arg vs gvs
  | _, _ => false

def monoEntry (classes : List GDef) (tyOf : List GTy) : GTy → Def → Bool
  | .int, .prim => true
  | .cls c arg, .enum cls vs =>
    c = cls && (match classes[c]? with | some (.enum gvs) => variantsAgree tyOf arg vs gvs | _ => false)
  | .cls c arg, .struct fs =>
    (match classes[c]? with
      | some (.struct gfs) => fs.map (·.1) = gfs.map (·.1) && fieldsAgree tyOf arg (fs.map (·.2)) (gfs.map (·.2))
      | _ => false)
  | _, _ => false

def monoCheckGo (classes : List GDef) (tyOf : List GTy) : List GTy → List Def → Bool
  | [], [] => true
  | t :: ts, d :: ds => monoEntry classes tyOf t d && monoCheckGo classes tyOf ts ds
  | _, _ => false

/-- the table `defs` (with `tyOf[i]` the closed type of id `i`) is the instantiation of `classes` -/
def monoCheck (classes : List GDef) (tyOf : List GTy) (defs : List Def) : Bool :=
  monoCheckGo classes tyOf tyOf defs

/-! ### Which declaration is the scrutinee's type resolved to: type parameters in scope

A scrutinee may have a type parameter as its static type (`x: T` with `T : EnumClass`); patterns are
then checked against the class `T` is bounded by (typing_context.rs:137-143 `nominal_type_upper_bound`
→ `resolve_to_potentially_in_scope_type_parameter_bound`, 126-135: the FIRST parameter of that name
in `available_type_parameters`).  The list is built in `type_check_module` (main_checker.rs:1869-1880):
for a method, the class's type parameters followed by the method's own; for a static function, the
function's own parameters only (the class's parameters are not in scope there, so a function may
reuse their names). -/

/-- (name, bound: type id of the bounding class instance, `none` = unbounded) -/
abbrev TParams := List (Nat × Option Nat)

def scopeOf (isMethod : Bool) (classParams memberParams : TParams) : TParams :=
  if isMethod then classParams ++ memberParams else memberParams

/-- `none`: no such parameter in scope; `some none`: in scope, unbounded; `some (some t)`: bounded by `t` -/
def resolveTParam : TParams → Nat → Option (Option Nat)
  | [], _ => none
  | (n, b) :: rest, name => if n = name then some b else resolveTParam rest name

/-- the static type of a scrutinee: a type instance, or a type parameter -/
inductive STy where
  | inst (t : Nat)
  | tparam (name : Nat)
  deriving Repr, Inhabited

/-- the type id patterns are checked against (`none`: nothing resolvable — not a struct, not an enum) -/
def scrutineeType (scope : TParams) : STy → Option Nat
  | .inst t => some t
  | .tparam name => (resolveTParam scope name).bind id

/-- a method's own type parameter that reuses the name of a class type parameter: `NameAlreadyBound` -/
def tparamCollision (isMethod : Bool) (classParams memberParams : TParams) : Bool :=
  isMethod && memberParams.any (fun m => classParams.any (fun c => c.1 = m.1))

/-! ### Decidable forms of the remaining hypotheses, for a finite type table

`cxOf` is the checker context the driver derives from the table; `cxOkCheck` / `nodupCheck` decide
`CxOk` / `SigNodup` for it (`Lemmas/UsefulNorm.lean`), so that together with `rankCheck` and `swf`
every hypothesis of `checker_match_decided` is checked by computation on each replayed case. -/

/-- `variant_signature_incomplete_names`' view of the table: variants of the first instance of the class -/
def cxOf (defs : List Def) : Cx := fun cls =>
  match defs.find? (fun d => match d with | .enum c _ => c = cls | _ => false) with
  | some (.enum _ vs) => vs.map (fun v => (v.1, v.2.length))
  | _ => []


def cxOkCheck (defs : List Def) : Bool :=
  (List.range defs.length).all fun t =>
    match sigOfTable defs t with
    | .enum cls vs => decide (cxOf defs cls = vs.map (fun v => (v.1, v.2.length)))
    | _ => true

def nodupNatL : List Nat → Bool
  | [] => true
  | x :: xs => !xs.contains x && nodupNatL xs

def nodupCheck (defs : List Def) : Bool :=
  (List.range defs.length).all fun t =>
    match sigOfTable defs t with
    | .enum _ vs => nodupNatL (vs.map (·.1))
    | _ => true

/-! ## Source patterns and their normalisation (main_checker.rs:1082-1512)

`check_matching_pattern` returns the checked pattern and the abstract node, and reports errors.
The model keeps the abstract node, *whether* an error was reported, and the bindings of the checked
pattern (`MatchingPattern::bindings`, samlang-ast source.rs:342-371: name ↦ type, a `BTreeMap`, an
or-pattern contributes the bindings of its first alternative), which decide the or-pattern
binding-consistency errors (main_checker.rs:1462-1500). -/

inductive SPat where
  | tuple (ps : List SPat)
  | object (names : List Nat) (ps : List SPat)    -- `{ f as p, … }` (`{ f }` is `f as <id f>`)
  | variant (tag : Nat) (args : List SPat)        -- `Tag` and `Tag()` both have no arguments
  | id (name : Nat)
  | wild
  | or (ps : List SPat)
  deriving Repr, Inhabited

/-- `bad_pattern_default` (main_checker.rs:1082-1088); `nothing()` is `Or([])`. -/
def badDefault (wildOnBad : Bool) : Pat := if wildOnBad then .wild else .or []

/-- `AbstractPatternNode::or` (pattern_matching.rs:107-115) -/
def mkOr : List Pat → Pat
  | [] => .or []
  | [p] => p
  | ps => .or ps

def fieldIndex (fs : List (Nat × Nat)) (name : Nat) : Option (Nat × Nat) :=   -- (index, type)
  let rec go : List (Nat × Nat) → Nat → Option (Nat × Nat)
    | [], _ => none
    | (n, t) :: rest, i => if n = name then some (i, t) else go rest (i + 1)
  go fs 0

/-- the name id the protocol reserves for the enclosing function's parameter (the scrutinee `x`) -/
def paramName : Nat := 0

/-- bindings of a checked pattern: name ↦ type (`none` = `any`) -/
abbrev Binds := List (Nat × Option Nat)

/-- `BTreeMap::insert` -/
def bindInsert (m : Binds) (name : Nat) (ty : Option Nat) : Binds :=
  (name, ty) :: m.filter (fun x => x.1 ≠ name)

def bindMerge (m later : Binds) : Binds := later.foldr (fun x acc => bindInsert acc x.1 x.2) m

/-- the same name is bound by two elements of one tuple / object / variant pattern: the SSA pass
reports `NameAlreadyBound` (ssa_analysis.rs; or-alternatives are separate scopes) -/
def bindsOverlap (a b : Binds) : Bool := a.any (fun x => b.any (fun y => y.1 = x.1))

/-- `assignability_check` on the types that can occur here: `any` meets everything, two type
instances are assignable iff they are the same instance (type_system.rs:87-131). -/
def tyCompat : Option Nat → Option Nat → Bool
  | some a, some b => a = b
  | _, _ => true

/-- main_checker.rs:1476-1496 for one later alternative: same names, pairwise assignable types -/
def bindsConsistent (expected actual : Binds) : Bool :=
  expected.all (fun e => actual.any (fun a => a.1 = e.1)) &&
  actual.all (fun a => expected.any (fun e => e.1 = a.1)) &&
  expected.all (fun e => actual.all (fun a => a.1 ≠ e.1 || tyCompat a.2 e.2))

structure Norm where
  pat : Pat
  err : Bool        -- some diagnostic was reported while checking the pattern
  panic : Bool := false   -- `abstract_pattern_nodes[*field_order]` out of bounds (main_checker.rs:1326)
  binds : Binds := []
  deriving Repr, Inhabited

structure NormL where
  pats : List Pat
  err : Bool
  panic : Bool
  binds : Binds             -- merged bindings (tuple / object elements)
  each : List Binds := []   -- bindings per element (or-alternatives)
  deriving Repr, Inhabited

/-- `ty = none` is the `Type::Any` the checker continues with after an error. -/
def sigAt (sig : Sig) : Option Nat → Def
  | some t => sig t
  | none => .prim

mutual
def normalize (sig : Sig) (wildOnBad : Bool) : SPat → Option Nat → Norm
  | .id name, ty =>
    -- an identifier that shadows the enclosing function's parameter: `NameAlreadyBound` (SSA pass)
    { pat := .wild, err := decide (name = paramName), binds := [(name, ty)] }
  | .wild, _ => { pat := .wild, err := false }
  | .tuple ps, ty =>
    match sigAt sig ty with
    | .struct fs =>
      let r := normTuple sig wildOnBad ps (fs.map (fun f => f.2))
      -- fewer elements than fields: error + wildcards (main_checker.rs:1247-1256);
      -- more elements: `ElementMissing` errors, the surplus nodes are dropped (see `normTuple`)
      let pad := wilds (fs.length - ps.length)
      { pat := .struct none (r.pats ++ pad), err := r.err || decide (ps.length ≠ fs.length),
        panic := r.panic, binds := r.binds }
    | _ =>
      -- NotAStruct; `any_typed_invalid_matching_pattern` still binds the identifiers at type `any`
      let r := normTuple sig wildOnBad ps []
      { pat := badDefault wildOnBad, err := true, binds := r.binds }
  | .object names es, ty =>
    match sigAt sig ty with
    | .struct fs =>
      let r := normObject sig wildOnBad fs es names (wilds fs.length)
      let missing := fs.any (fun f => !names.contains f.1)   -- NonExhaustiveStructBinding
      { pat := .struct none r.pats, err := r.err || missing, panic := r.panic, binds := r.binds }
    | _ =>
      let r := normTuple sig wildOnBad es []
      { pat := badDefault wildOnBad, err := true, binds := r.binds }
  | .variant tag ps, ty =>
    match sigAt sig ty with
    | .enum cls vs =>
      match findVariant vs tag with
      | none =>
        let r := normTuple sig wildOnBad ps []
        { pat := .or [], err := true, binds := r.binds }       -- CannotResolveMember → `nothing()`
      | some tys =>
        let r := normTuple sig wildOnBad ps tys
        let pad := wilds (tys.length - ps.length)
        { pat := .struct (some { cls := cls, name := tag }) (r.pats ++ pad),
          err := r.err || decide (ps.length ≠ tys.length), panic := r.panic, binds := r.binds }
    | _ =>
      let r := normTuple sig wildOnBad ps []
      { pat := badDefault wildOnBad, err := true, binds := r.binds }       -- NotAnEnum
  | .or ps, ty =>
    let r := normAll sig wildOnBad ps ty
    -- main_checker.rs:1462-1510: every later alternative must bind the names of the first one at
    -- assignable types; otherwise an error is reported and the node is the bad-pattern default
    let expected := r.each.headD []
    let inconsistent := (r.each.drop 1).any (fun a => !bindsConsistent expected a)
    { pat := if inconsistent then badDefault wildOnBad else mkOr r.pats,
      err := r.err || inconsistent, panic := r.panic, binds := expected }
/-- elements of a tuple pattern against the field types (`any` once the fields run out) -/
def normTuple (sig : Sig) (wildOnBad : Bool) : List SPat → List Nat → NormL
  | [], _ => { pats := [], err := false, panic := false, binds := [] }
  | p :: ps, [] =>
    -- surplus element: checked against `any` for its diagnostics, but (since the fix 6443f12) it is
    -- not pushed as a column of the abstract pattern (main_checker.rs:1226-1234, 1403-1414)
    let a := normalize sig wildOnBad p none
    let r := normTuple sig wildOnBad ps []
    { pats := r.pats, err := true, panic := a.panic || r.panic, binds := bindMerge a.binds r.binds }
  | p :: ps, t :: ts =>
    let a := normalize sig wildOnBad p (some t)
    let r := normTuple sig wildOnBad ps ts
    { pats := a.pat :: r.pats, err := a.err || r.err || bindsOverlap a.binds r.binds,
      panic := a.panic || r.panic, binds := bindMerge a.binds r.binds }
/-- elements of an object pattern, updating the vector of abstract nodes in place -/
def normObject (sig : Sig) (wildOnBad : Bool) (fs : List (Nat × Nat)) :
    List SPat → List Nat → List Pat → NormL
  | [], _, acc => { pats := acc, err := false, panic := false, binds := [] }
  | _ :: _, [], acc => { pats := acc, err := false, panic := false, binds := [] }  -- protocol error
  | p :: es, name :: names, acc =>
    match fieldIndex fs name with
    | some (i, t) =>
      let a := normalize sig wildOnBad p (some t)
      let r := normObject sig wildOnBad fs es names (acc.set i a.pat)
      -- a field destructured twice is an error since fix 76a01ae (`NameAlreadyBound`,
      -- main_checker.rs:1300-1304); the last mention still wins in the abstract node
      { pats := r.pats, err := a.err || r.err || names.contains name || bindsOverlap a.binds r.binds,
        panic := a.panic || r.panic, binds := bindMerge a.binds r.binds }
    | none =>
      -- unknown field: error, checked against `any`, stored at the parser's `field_order` = 0
      let a := normalize sig wildOnBad p none
      let r := normObject sig wildOnBad fs es names (acc.set 0 a.pat)
      { pats := r.pats, err := true, panic := a.panic || r.panic || acc.isEmpty,
        binds := bindMerge a.binds r.binds }
def normAll (sig : Sig) (wildOnBad : Bool) : List SPat → Option Nat → NormL
  | [], _ => { pats := [], err := false, panic := false, binds := [], each := [] }
  | p :: ps, ty =>
    let a := normalize sig wildOnBad p ty
    let r := normAll sig wildOnBad ps ty
    { pats := a.pat :: r.pats, err := a.err || r.err, panic := a.panic || r.panic,
      binds := [], each := a.binds :: r.each }
end

/-! ### Field visibility (main_checker.rs:1216-1218, 1292-1298; typing_context.rs:1072)

A struct field is accessible in a pattern if it is public or the match sits inside the struct's own
class (`is_public || nominal_type.id == current_class`).  A tuple pattern that reaches a
non-accessible field reports `ElementMissing`, an object pattern that names one reports
`CannotResolveMember`; the abstract node is unaffected.  `vis t` lists, per field of struct type
`t`, whether it is accessible from the class containing the match; `visErr` says whether
`check_matching_pattern` reports such an error (the driver ORs it into `err`). -/

abbrev Vis := Nat → List Bool

mutual
def visErr (sig : Sig) (vis : Vis) : SPat → Nat → Bool
  | .id _, _ => false
  | .wild, _ => false
  | .or ps, t => visErrAll sig vis ps t
  | .tuple ps, t =>
    match sig t with
    | .struct fs => visErrTuple sig vis ps (fs.map (·.2)) (vis t)
    | _ => false          -- not a struct: sub-patterns are checked against `any`, no field is reached
  | .object names ps, t =>
    match sig t with
    | .struct fs => visErrObject sig vis fs (vis t) ps names
    | _ => false
  | .variant tag ps, t =>
    match sig t with
    | .enum _ vs =>
      (match findVariant vs tag with
        | some tys => visErrTuple sig vis ps tys []      -- variant fields have no visibility
        | none => false)
    | _ => false
def visErrAll (sig : Sig) (vis : Vis) : List SPat → Nat → Bool
  | [], _ => false
  | p :: ps, t => visErr sig vis p t || visErrAll sig vis ps t
def visErrTuple (sig : Sig) (vis : Vis) : List SPat → List Nat → List Bool → Bool
  | [], _, _ => false
  | _ :: _, [], _ => false    -- surplus elements are checked against `any`
  | p :: ps, t :: ts, flags =>
    !(flags.headD true) || visErr sig vis p t || visErrTuple sig vis ps ts flags.tail
def visErrObject (sig : Sig) (vis : Vis) (fs : List (Nat × Nat)) (flags : List Bool) :
    List SPat → List Nat → Bool
  | [], _ => false
  | _ :: _, [] => false
  | p :: ps, name :: names =>
    (match fieldIndex fs name with
      | some (i, t) => !(flags.getD i true) || visErr sig vis p t
      | none => false) || visErrObject sig vis fs flags ps names
end

/-! ## Source-level matching (the specification the normalisation must preserve)

When does a value of type `t` match a *source* pattern?  Stated directly on source patterns
(language semantics of patterns: a tuple/variant pattern constrains the leading fields it lists,
an object pattern constrains the fields it names, in any order; identifiers and `_` match
everything; `|` is disjunction), without going through abstract patterns. -/

mutual
def smatch (sig : Sig) : SPat → Nat → Val → Bool
  | .id _, _, _ => true
  | .wild, _, _ => true
  | .or ps, t, v => smatchAny sig ps t v
  | .tuple ps, t, v =>
    match sig t, v with
    | .struct fs, .con none ws => smatchTuple sig ps (fs.map (·.2)) ws
    | _, _ => false
  | .object names ps, t, v =>
    match sig t, v with
    | .struct fs, .con none ws => smatchObject sig fs ws ps names
    | _, _ => false
  | .variant tag ps, t, v =>
    match sig t, v with
    | .enum cls vs, .con (some c) ws =>
      decide (c.cls = cls) && decide (c.name = tag) &&
        (match findVariant vs tag with
          | some tys => smatchTuple sig ps tys ws
          | none => false)
    | _, _ => false
def smatchAny (sig : Sig) : List SPat → Nat → Val → Bool
  | [], _, _ => false
  | p :: ps, t, v => smatch sig p t v || smatchAny sig ps t v
def smatchTuple (sig : Sig) : List SPat → List Nat → List Val → Bool
  | [], _, _ => true                                 -- fields that are not listed are unconstrained
  | p :: ps, t :: ts, w :: ws => smatch sig p t w && smatchTuple sig ps ts ws
  | _ :: _, _, _ => false
def smatchObject (sig : Sig) (fs : List (Nat × Nat)) (ws : List Val) : List SPat → List Nat → Bool
  | [], _ => true
  | _ :: _, [] => false
  | p :: ps, name :: names =>
    (match fieldIndex fs name with
      | some (i, t) => (match ws[i]? with | some w => smatch sig p t w | none => false)
      | none => false) && smatchObject sig fs ws ps names
end

/-- Source patterns whose abstract node is built without a bad-pattern default or a dropped element:
tuple / variant patterns list at most as many elements as there are fields (fewer = omitted
fields), object patterns name known fields, each at most once, variant tags exist, the alternatives
of an or-pattern bind consistently.  (Everything else is reported as an error by the checker.) -/
def nodupNat : List Nat → Bool
  | [] => true
  | x :: xs => !xs.contains x && nodupNat xs

mutual
def swf (sig : Sig) (w : Bool) : SPat → Nat → Bool
  | .id _, _ => true
  | .wild, _ => true
  | .or ps, t =>
    let r := normAll sig w ps (some t)
    swfAll sig w ps t && !((r.each.drop 1).any (fun a => !bindsConsistent (r.each.headD []) a))
  | .tuple ps, t =>
    match sig t with
    | .struct fs => decide (ps.length ≤ fs.length) && swfTuple sig w ps (fs.map (·.2))
    | _ => false
  | .object names ps, t =>
    match sig t with
    | .struct fs => nodupNat names && decide (names.length = ps.length) && swfObject sig w fs ps names
    | _ => false
  | .variant tag ps, t =>
    match sig t with
    | .enum _ vs =>
      (match findVariant vs tag with
        | some tys => decide (ps.length ≤ tys.length) && swfTuple sig w ps tys
        | none => false)
    | _ => false
def swfAll (sig : Sig) (w : Bool) : List SPat → Nat → Bool
  | [], _ => true
  | p :: ps, t => swf sig w p t && swfAll sig w ps t
def swfTuple (sig : Sig) (w : Bool) : List SPat → List Nat → Bool
  | [], _ => true
  | p :: ps, t :: ts => swf sig w p t && swfTuple sig w ps ts
  | _ :: _, [] => false
def swfObject (sig : Sig) (w : Bool) (fs : List (Nat × Nat)) : List SPat → List Nat → Bool
  | [], _ => true
  | _ :: _, [] => false
  | p :: ps, name :: names =>
    (match fieldIndex fs name with
      | some (_, t) => swf sig w p t
      | none => false) && swfObject sig w fs ps names
end

/-! the encoding invariant of `SPat.object`: as many field names as sub-patterns (the parser pairs
them; the driver checks it for every replayed case) -/
mutual
def shape : SPat → Bool
  | .id _ => true
  | .wild => true
  | .or ps => shapeL ps
  | .tuple ps => shapeL ps
  | .variant _ ps => shapeL ps
  | .object names ps => decide (names.length = ps.length) && shapeL ps
def shapeL : List SPat → Bool
  | [] => true
  | p :: ps => shape p && shapeL ps
end

end SamVerif.Useful
