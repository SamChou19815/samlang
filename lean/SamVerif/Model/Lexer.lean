import SamVerif.Generated.Keywords
/-
Byte-level model of the scanner of `crates/samlang-parser/src/lexer.rs`, function by function
(core Lean only, executable: the driver `Driver/C05.lean` / `Driver/C14.lean` links it natively).

* `WrappedLogosLexer::next_token` (lexer.rs:170-305)  → `nextRaw`
* `skip_whitespace` (462-474)                          → `run isAsciiWs`, `wsPos` + `bump`
* `lex_str_lit_opt` (317-355)                          → `strEnd`, `lexStrLit`
* `string_has_valid_escape` (685-702)                  → `validEscape`
* `lex_line_comment_opt` (416-433)                     → `lexLineComment`
* `lex_block_comment_opt` + `post_process_block_comment` (357-414) → `blockEnd`, `lexBlockComment`,
  `postProcess`
* error-token resynchronisation (199-217)              → `lexError`
* logos' generated DFA: abstracted as *longest match* over the token tables of
  `Generated/Keywords.lean` (regenerated from the source on every run) and the three identifier /
  integer regexes; literal tokens win ties against regexes (logos priority rule) → `logosNext`
* `TokenProducer::{next_token, process_raw_token}` (715-767) → `processRaw`, `produce`
* positions: `next_n_column`, `next_line_or_column`, `loc_of_advance` (436-460) → `Pos`, `advance`
* `Location::union` (samlang-ast/src/loc.rs:51-56)     → `posMin`, `posMax`

Where Rust would panic the model says so: a `&str` slice or `logos::Lexer::bump` at an index that is
not a char boundary (`isBoundary` is literally `str::is_char_boundary`), and a byte slice whose start
exceeds its end (`slice`) yield `panic`.  `String::from_utf8(prefix).unwrap()` in `lex_str_lit_opt`
is modelled by the boundary check of the cut (for valid UTF-8 input they coincide).
Not modelled: `u32` overflow of line/column counters (inputs ≥ 4 GiB), allocation failure.
-/
namespace SamVerif.Lexer
open SamVerif.Generated.Keywords

abbrev Bytes := List UInt8

/-! ## positions -/

/-- `Position(line, column)`; columns count bytes. -/
structure Pos where
  line : Nat
  col : Nat
  deriving DecidableEq, Repr, Inhabited

/-- `next_line_or_column` (lexer.rs:453) -/
def advance (p : Pos) (b : UInt8) : Pos :=
  if b.toNat = 10 then ⟨p.line + 1, 0⟩ else ⟨p.line, p.col + 1⟩

/-- `next_n_column` (lexer.rs:449) -/
def addCol (p : Pos) (n : Nat) : Pos := ⟨p.line, p.col + n⟩

/-- derived `Ord` of `Position` (lexicographic) -/
def Pos.le (a b : Pos) : Prop := a.line < b.line ∨ (a.line = b.line ∧ a.col ≤ b.col)
instance : LE Pos := ⟨Pos.le⟩
instance (a b : Pos) : Decidable (a ≤ b) := by unfold LE.le instLEPos Pos.le; exact inferInstance
def Pos.lt (a b : Pos) : Prop := a.line < b.line ∨ (a.line = b.line ∧ a.col < b.col)
instance : LT Pos := ⟨Pos.lt⟩
instance (a b : Pos) : Decidable (a < b) := by unfold LT.lt instLTPos Pos.lt; exact inferInstance

/-- `Location::union` start / end components (loc.rs:53-54) -/
def posMin (a b : Pos) : Pos := if a < b then a else b
def posMax (a b : Pos) : Pos := if b < a then a else b

/-! ## byte classes -/

/-- `u8::is_ascii_whitespace`: space, \t, \n, \x0C, \r -/
def isAsciiWs (b : UInt8) : Bool :=
  b.toNat = 32 || b.toNat = 9 || b.toNat = 10 || b.toNat = 12 || b.toNat = 13
/-- UTF-8 continuation byte `10xxxxxx` -/
def isCont (b : UInt8) : Bool := 128 ≤ b.toNat && b.toNat < 192
def isUpper (b : UInt8) : Bool := 65 ≤ b.toNat && b.toNat ≤ 90
def isLower (b : UInt8) : Bool := 97 ≤ b.toNat && b.toNat ≤ 122
def isDigit (b : UInt8) : Bool := 48 ≤ b.toNat && b.toNat ≤ 57
def isAlnum (b : UInt8) : Bool := isUpper b || isLower b || isDigit b

/-- `str::is_char_boundary(n)` on the bytes of a `&str` -/
def isBoundary (bs : Bytes) (n : Nat) : Bool :=
  n = 0 || n = bs.length || (match bs[n]? with | some b => !isCont b | none => false)

/-- `logos::Lexer::bump(n)` / `&s[..n]` / `&s[n..]`: panics (`none`) off a char boundary. -/
def bump (bs : Bytes) (n : Nat) : Option Bytes :=
  if isBoundary bs n then some (bs.drop n) else none

/-- byte-slice `&b[a..e]`: panics when `a > e` or `e > len`. -/
def slice (bs : Bytes) (a e : Nat) : Option Bytes :=
  if a ≤ e ∧ e ≤ bs.length then some ((bs.take e).drop a) else none

/-- length of the longest prefix whose bytes satisfy `p` -/
def run (p : UInt8 → Bool) : Bytes → Nat
  | [] => 0
  | b :: bs => if p b then run p bs + 1 else 0

/-! ## Unicode `White_Space` trimming on UTF-8 bytes (`str::trim*`), used for comment text only -/

/-- byte length of a `White_Space` scalar at the head (0 if none):
U+0009..000D, 0020, 0085, 00A0, 1680, 2000..200A, 2028, 2029, 202F, 205F, 3000 -/
def wsLen : Bytes → Nat
  | [] => 0
  | b :: rest =>
    let n := b.toNat
    if (9 ≤ n ∧ n ≤ 13) ∨ n = 32 then 1
    else match rest with
      | [] => 0
      | c :: rest2 =>
        if n = 0xC2 then (if c.toNat = 0x85 ∨ c.toNat = 0xA0 then 2 else 0)
        else match rest2 with
          | [] => 0
          | d :: _ =>
            let c := c.toNat; let d := d.toNat
            if n = 0xE1 ∧ c = 0x9A ∧ d = 0x80 then 3
            else if n = 0xE2 ∧ c = 0x80 ∧ ((0x80 ≤ d ∧ d ≤ 0x8A) ∨ d = 0xA8 ∨ d = 0xA9 ∨ d = 0xAF) then 3
            else if n = 0xE2 ∧ c = 0x81 ∧ d = 0x9F then 3
            else if n = 0xE3 ∧ c = 0x80 ∧ d = 0x80 then 3
            else 0

/-- the same on the reversed byte string (last byte first) -/
def wsLenRev : Bytes → Nat
  | [] => 0
  | d :: rest =>
    let dn := d.toNat
    if (9 ≤ dn ∧ dn ≤ 13) ∨ dn = 32 then 1
    else match rest with
      | [] => 0
      | c :: rest2 =>
        let cn := c.toNat
        if cn = 0xC2 ∧ (dn = 0x85 ∨ dn = 0xA0) then 2
        else match rest2 with
          | [] => 0
          | b :: _ =>
            let n := b.toNat
            if n = 0xE1 ∧ cn = 0x9A ∧ dn = 0x80 then 3
            else if n = 0xE2 ∧ cn = 0x80 ∧ ((0x80 ≤ dn ∧ dn ≤ 0x8A) ∨ dn = 0xA8 ∨ dn = 0xA9 ∨ dn = 0xAF) then 3
            else if n = 0xE2 ∧ cn = 0x81 ∧ dn = 0x9F then 3
            else if n = 0xE3 ∧ cn = 0x80 ∧ dn = 0x80 then 3
            else 0

def stripWith (len : Bytes → Nat) : Nat → Bytes → Bytes
  | 0, bs => bs
  | fuel + 1, bs => match len bs with
    | 0 => bs
    | k => stripWith len fuel (bs.drop k)

/-- `str::trim_start` -/
def trimStart (bs : Bytes) : Bytes := stripWith wsLen bs.length bs
/-- `str::trim_end` -/
def trimEnd (bs : Bytes) : Bytes := (stripWith wsLenRev bs.length bs.reverse).reverse
/-- `str::trim` -/
def trim (bs : Bytes) : Bytes := trimEnd (trimStart bs)

/-- `str::split('\n')` -/
def splitLines : Bytes → List Bytes
  | [] => [[]]
  | b :: bs =>
    match splitLines bs with
    | [] => [[b]]      -- unreachable
    | l :: ls => if b.toNat = 10 then [] :: l :: ls else (b :: l) :: ls

def joinSp : List Bytes → Bytes
  | [] => []
  | [x] => x
  | x :: xs => x ++ 32 :: joinSp xs

/-- one line of `post_process_block_comment`: `stripStar` = the ` * ` decoration star is removed here -/
def postLine (stripStar : Bool) (line : Bytes) : Bytes :=
  let l := trimStart line
  match l with
  | b :: rest => if stripStar && b.toNat = 42 then trim rest else trimEnd l
  | [] => []

/-- `post_process_block_comment` (lexer.rs:358-371). Two variants, selected by the translator from the
source: the star is stripped on every line (original), or only on continuation lines - index > 0 -
(repair of C09-F9: `/* *kwargs */` keeps its star). -/
def postProcess (body : Bytes) : Bytes :=
  match splitLines body with
  | [] => []
  | first :: rest =>
    joinSp ((postLine (!commentStarOnlyOnContinuationLines) first :: rest.map (postLine true)).filter
      (fun l => !l.isEmpty))

/-! ## tokens -/

inductive Kind where
  | kw | op | upper | lower | str | int | line | block | doc | error
  deriving DecidableEq, Repr, Inhabited

/-- `Token(Location, TokenContent)`; `text` is the interned content (keyword/operator spelling). -/
structure Token where
  kind : Kind
  text : Bytes
  start : Pos
  stop : Pos
  deriving DecidableEq, Repr, Inhabited

inductive ErrCode where
  | esc   -- "Invalid escape in string."
  | tok   -- "Invalid token."
  | int   -- "Not a 32-bit integer."
  deriving DecidableEq, Repr, Inhabited

/-- an `InvalidSyntax` entry of the `ErrorSet` -/
structure Err where
  start : Pos
  stop : Pos
  code : ErrCode
  deriving DecidableEq, Repr, Inhabited

/-- three-valued answer of the hand-written sub-lexers: not applicable / Rust panics / token -/
inductive Try (α : Type) where
  | no
  | panic
  | yes (a : α)
  deriving Repr

/-- one scanner step: token, reported errors, remaining input, position after the token -/
structure Scanned where
  tok : Token
  errs : List Err
  rest : Bytes
  pos : Pos
  deriving Repr

/-! ## `skip_whitespace` -/

/-- position after the whitespace run (the run's length is `run isAsciiWs`) -/
def wsPos : Bytes → Pos → Pos
  | [], p => p
  | b :: bs, p => if isAsciiWs b then wsPos bs (advance p b) else p

/-! ## `lex_str_lit_opt` -/

/-- Scan after the opening quote. `esc` = length of the run of backslashes immediately before the
current byte (what the backwards loop at lexer.rs:332-337 counts), `pos` = index of the current byte
in the remainder. Returns the total length `pos + 1` at the closing quote; `none` at end of input or
at a newline. -/
def strEnd : Bytes → Nat → Nat → Option Nat
  | [], _, _ => none
  | c :: cs, esc, pos =>
    if c.toNat = 34 ∧ esc % 2 = 0 then some (pos + 1)
    else if c.toNat = 10 then none
    else strEnd cs (if c.toNat = 92 then esc + 1 else 0) (pos + 1)

/-- `string_has_valid_escape` (lexer.rs:685), byte-wise (non-ASCII bytes are never in the escape set) -/
def validEscape : Bytes → Bool → Bool
  | [], _ => true
  | c :: cs, pendingEsc =>
    if c.toNat = 92 then validEscape cs (!pendingEsc)
    else if pendingEsc then
      (if c.toNat = 116 ∨ c.toNat = 118 ∨ c.toNat = 48 ∨ c.toNat = 98 ∨ c.toNat = 102 ∨ c.toNat = 110
          ∨ c.toNat = 114 ∨ c.toNat = 34 then validEscape cs false else false)
    else validEscape cs false

def lexStrLit (rest : Bytes) (pos : Pos) : Try Scanned :=
  match rest with
  | q :: body =>
    if q.toNat = 34 then
      match strEnd body 0 1 with
      | none => .no
      | some n =>
        -- `String::from_utf8(remainder_bytes[..n].to_vec()).unwrap()` then `self.lexer.bump(n)`
        match bump rest n with
        | none => .panic
        | some rest' =>
          let s := rest.take n
          let stop := addCol pos n
          let errs := if validEscape s false then [] else [⟨pos, stop, .esc⟩]
          .yes ⟨⟨.str, s, pos, stop⟩, errs, rest', stop⟩
    else .no
  | [] => .no

/-! ## `lex_line_comment_opt` -/

def lexLineComment (rest : Bytes) (pos : Pos) : Try Scanned :=
  match rest with
  | a :: b :: body =>
    if a.toNat = 47 ∧ b.toNat = 47 then
      let n := 2 + run (fun c => c.toNat ≠ 10) body
      let text := trim ((rest.take n).drop 2)
      let stop := addCol pos n          -- `loc_of_advance(bump_counter)`
      match bump rest n with
      | none => .panic
      | some rest' => .yes ⟨⟨.line, text, pos, stop⟩, [], rest', stop⟩
    else .no
  | _ => .no

/-! ## `lex_block_comment_opt` -/

/-- Loop at lexer.rs:382-395 on the bytes after `/*`: `n` = `comment_length`, `p` = tracked position.
`none` when the input ends before `*/`. -/
def blockEnd : Bytes → Pos → Nat → Option (Nat × Pos)
  | c :: d :: cs, p, n =>
    if c.toNat = 42 ∧ d.toNat = 47 then some (n + 2, addCol p 2)
    else blockEnd (d :: cs) (advance p c) (n + 1)
  | _, _, _ => none

def lexBlockComment (rest : Bytes) (pos : Pos) : Try Scanned :=
  match rest with
  | a :: b :: body =>
    if a.toNat = 47 ∧ b.toNat = 42 then
      match blockEnd body (addCol pos 2) 2 with
      | none => .no                       -- position restored, `None`
      | some (n, stop) =>
        match bump rest n with            -- `self.lexer.bump(comment_length)`
        | none => .panic
        | some rest' =>
          let chars := rest.take n
          -- `chars.len() > 4 && chars[2] == b'*'` (since fix c949025: `/**/` is an empty block comment)
          let isDoc := 4 < chars.length ∧ (chars[2]?.map (·.toNat)) = some 42
          -- `&chars[3..(chars.len() - 2)]` resp. `&chars[2..(chars.len() - 2)]`
          match slice chars (if isDoc then 3 else 2) (chars.length - 2) with
          | none => .panic
          | some bodyBytes =>
            .yes ⟨⟨if isDoc then .doc else .block, postProcess bodyBytes, pos, stop⟩, [], rest', stop⟩
    else .no
  | _ => .no

/-! ## logos: longest match over the generated tables and the three regexes -/

/-- longest table literal that is a prefix of `rest`: (length, printed text); length 0 = none -/
def bestLit (table : List (Bytes × Bytes)) (rest : Bytes) : Nat × Bytes :=
  table.foldl (fun best e => if e.1.isPrefixOf rest && best.1 < e.1.length then (e.1.length, e.2) else best) (0, [])

/-- `[A-Z][A-Za-z0-9]*`, `[a-z][A-Za-z0-9]*`, `0|([1-9][0-9]*)`: (kind, length); length 0 = none -/
def regexMatch : Bytes → Kind × Nat
  | [] => (.error, 0)
  | b :: bs =>
    if isUpper b then (.upper, run isAlnum bs + 1)
    else if isLower b then (.lower, run isAlnum bs + 1)
    else if b.toNat = 48 then (.int, 1)
    else if isDigit b then (.int, run isDigit bs + 1)
    else (.error, 0)

inductive Logos where
  | err
  | tok (k : Kind) (n : Nat) (text : Bytes)
  deriving Repr

/-- `self.lexer.next()` on a non-empty remainder -/
def logosNext (rest : Bytes) : Logos :=
  let kw := bestLit keywords rest
  let op := bestLit operators rest
  let re := regexMatch rest
  if kw.1 = 0 ∧ op.1 = 0 ∧ re.2 = 0 then .err
  else if op.1 ≤ kw.1 ∧ re.2 ≤ kw.1 then .tok .kw kw.1 kw.2
  else if re.2 ≤ op.1 then .tok .op op.1 op.2
  else .tok re.1 re.2 (rest.take re.2)

/-- Error arm (lexer.rs:199-217). logos ends the error span at
`find_boundary(max(offset, start + 1))`: one whole scalar. -/
def lexError (rest : Bytes) (pos : Pos) : Try Scanned :=
  let errLen := 1 + run isCont (rest.drop 1)
  let remainder := rest.drop errLen
  let skip := run (fun c => !isAsciiWs c) remainder
  -- `&self.lexer.remainder()[..skip_count]`, then `self.lexer.bump(skip_count)`
  match bump remainder skip with
  | none => .panic
  | some rest' =>
    let stop := addCol (addCol pos errLen) skip
    .yes ⟨⟨.error, rest.take (errLen + skip), pos, stop⟩, [⟨pos, stop, .tok⟩], rest', stop⟩

/-! ## `WrappedLogosLexer::next_token` -/

inductive Step where
  | eof
  | panic
  | tok (s : Scanned)
  deriving Repr

def ofTry (t : Try Scanned) (otherwise : Step) : Step :=
  match t with
  | .no => otherwise
  | .panic => .panic
  | .yes s => .tok s

def nextRaw (input : Bytes) (pos0 : Pos) : Step :=
  let pos := wsPos input pos0
  match bump input (run isAsciiWs input) with   -- `self.lexer.bump(bump_counter)`
  | none => .panic
  | some rest =>
    ofTry (lexStrLit rest pos) <|
    ofTry (lexLineComment rest pos) <|
    ofTry (lexBlockComment rest pos) <|
    if rest.isEmpty then .eof
    else match logosNext rest with
      | .err => ofTry (lexError rest pos) .panic
      | .tok k n text =>
        let stop := addCol pos n      -- `loc_of_lexer_span`
        .tok ⟨⟨k, text, pos, stop⟩, [], rest.drop n, stop⟩

/-! ## the raw token stream -/

inductive End where
  | ok | panic | fuel
  deriving DecidableEq, Repr, Inhabited

structure RawResult where
  toks : List Token
  errs : List Err
  fin : End
  deriving Repr

/-- Repeated `next_token` until it returns `None` or panics. The fuel argument only makes the
recursion structural; `Props/C05.lean` (`scan_progress`) shows `len + 1` is never exhausted. -/
def rawLoop : Nat → Bytes → Pos → RawResult
  | 0, _, _ => ⟨[], [], .fuel⟩
  | fuel + 1, rest, pos =>
    match nextRaw rest pos with
    | .eof => ⟨[], [], .ok⟩
    | .panic => ⟨[], [], .panic⟩
    | .tok s =>
      let r := rawLoop fuel s.rest s.pos
      ⟨s.tok :: r.toks, s.errs ++ r.errs, r.fin⟩

def rawTokens (doc : Bytes) : RawResult := rawLoop (doc.length + 1) doc ⟨0, 0⟩

/-! ## `TokenProducer` -/

def digitsVal : Bytes → Nat → Nat
  | [], acc => acc
  | b :: bs, acc => digitsVal bs (acc * 10 + (b.toNat - 48))

def twoPow31 : Nat := 2147483648

structure PState where
  pending : Option Token
  out : List Token      -- yielded so far, in order
  errs : List Err
  deriving Repr

/-- `process_raw_token` + the `pending.replace` of `next_token` (lexer.rs:715-767).
`s.parse::<i64>()` fails exactly for values above `i64::MAX`, which the first disjunct covers. -/
def processRaw (st : PState) (t : Token) : PState :=
  let yield (st : PState) (t : Token) : PState :=
    { st with pending := some t, out := match st.pending with | some p => st.out ++ [p] | none => st.out }
  if t.kind = .int then
    let v := digitsVal t.text 0
    -- `follows_minus` (since fix d5c9a21: 2147483648 is only accepted directly after `-`)
    let followsMinus : Bool := match st.pending with
      | some p => p.kind = .op ∧ p.text = [45]
      | none => false
    if twoPow31 < v ∨ (v = twoPow31 ∧ followsMinus = false) then
      yield { st with errs := st.errs ++ [⟨t.start, t.stop, .int⟩] } t
    else if v = twoPow31 then
      match st.pending with
      | some p =>
        if p.kind = .op ∧ p.text = [45] then
          -- merge `-` and 2147483648 into one literal; nothing is yielded
          { st with pending := some ⟨.int, 45 :: t.text, posMin p.start t.start, posMax p.stop t.stop⟩ }
        else yield st t
      | none => yield st t
    else yield st t
  else yield st t

structure Result where
  toks : List Token
  errs : List Err
  fin : End
  deriving Repr

/-- Everything `TokenProducer::next_token` yields until it returns `None` (the pending token is
flushed) or a panic unwinds (the pending token is lost). -/
def produce (raw : RawResult) : Result :=
  let st := raw.toks.foldl processRaw ⟨none, [], []⟩
  let out := match raw.fin, st.pending with
    | .ok, some p => st.out ++ [p]
    | _, _ => st.out
  ⟨out, raw.errs ++ st.errs, raw.fin⟩

def tokenize (doc : Bytes) : Result := produce (rawTokens doc)

/-! ## ground truth for positions (C14) -/

/-- position after reading `bs` starting at `p` (count `\n`, byte columns) -/
def advanceAll (p : Pos) (bs : Bytes) : Pos := bs.foldl advance p

/-- position of byte offset `pre.length` in a document that starts with `pre` -/
def posOf (pre : Bytes) : Pos := advanceAll ⟨0, 0⟩ pre

/-! ## input assumptions used as hypotheses of theorems -/

/-- The input is a Rust `&str`. `Valid` is deliberately *weaker* than well-formed UTF-8 (it only
checks lead-byte class and the number of continuation bytes, not overlong forms or surrogates), so
every real `&str` satisfies it and theorems assuming it cover every real input. -/
inductive Valid : Bytes → Prop where
  | nil : Valid []
  | one (b : UInt8) (r : Bytes) : b.toNat < 128 → Valid r → Valid (b :: r)
  | two (b0 b1 : UInt8) (r : Bytes) : 192 ≤ b0.toNat → b0.toNat < 224 → isCont b1 = true →
      Valid r → Valid (b0 :: b1 :: r)
  | three (b0 b1 b2 : UInt8) (r : Bytes) : 224 ≤ b0.toNat → b0.toNat < 240 → isCont b1 = true →
      isCont b2 = true → Valid r → Valid (b0 :: b1 :: b2 :: r)
  | four (b0 b1 b2 b3 : UInt8) (r : Bytes) : 240 ≤ b0.toNat → isCont b1 = true →
      isCont b2 = true → isCont b3 = true → Valid r → Valid (b0 :: b1 :: b2 :: b3 :: r)

/-- the text contains the four bytes `/**/` somewhere (historical: side condition of the former
`scan_total_partial`, finding C05-F1, fixed by c949025) -/
def hasEmptyDoc : Bytes → Bool
  | [] => false
  | a :: rest =>
    (match rest with
      | b :: c :: d :: _ => a.toNat = 47 && b.toNat = 42 && c.toNat = 42 && d.toNat = 47
      | _ => false) || hasEmptyDoc rest

end SamVerif.Lexer
