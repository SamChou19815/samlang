import SamVerif.Model.Fmt
/-!
C08, third model: the expression fragment of `Model/Fmt.lean` with the formerly opaque units opened
up — call arguments, tuple elements, the condition and the two branches of if-else, the matched
expression and the case bodies of match, blocks `{ e }`, lambda bodies are recursive sub-expressions.
Blocks have statements (`let … = e;`, `e;`) and an optional final expression.
Still opaque (one token each): identifiers/literals, member names with their optional explicit type
arguments, match patterns (`pattern ->`), the `let pattern [: type] =` prefix of a declaration statement
(patterns themselves: `Model/FmtPat.lean`), lambda parameter lists.

Printer (`source_printer.rs`): `create_doc_without_preceding_comment` (578-790) with
`create_doc_for_parenthesized_expression_list` (486-508; tuples and call arguments, elements never
parenthesised), `create_chainable_ir_docs` (430-484), `create_doc_for_block` (510-576; blocks with a
final expression and no statements), `create_doc_for_if_else` (236-331; `else` followed by a block),
the `Match` arm (701-723; every case is followed by `,`).
Parser (`source_parser.rs`): `parse_expression`/`parse_match`/`parse_if_else` (678-795),
`parse_disjunction` … `parse_factor`, `parse_unary_expression`, `parse_function_call_or_field_access`
(1001-1068: `.name`, `.name<targs>`, `(args)`), `parse_base_expression` (1083-1450: atoms, lambda,
`( e )` unwrapped, `( e , … )` tuple, `{ e }` block), `parse_parenthesized_expression_list` and
`parse_comma_separated_list_with_end_token` (1553-1592, 172-199; a trailing comma is accepted),
`parse_block` (1628-1730), `parse_pattern_to_expression` (725-745).
`BinOp`, `UOp`, the two tables and the literal models are those of `Model/Fmt.lean`.
-/
namespace SamVerif.FmtFull
open SamVerif.Fmt (BinOp UOp)

mutual
/-- `post e p fld`: member access; `fld = true`: plain `.name`, `false`: `.name<targs>`.
`call0 f` = `f()`, `call f args` = `f(a1, …)`; `tuple e es` = `(e, es…)` (at least two elements);
`block b` = `{ statements… final? }`; `ifElse c t e` = `if c t else e` with blocks `t`, `e`;
`matchE m cs`; `lambda k body`. -/
inductive Expr where
  | atom (a : Nat)
  | tuple (e : Expr) (es : Args)
  | block (b : Blk)
  | post (e : Expr) (p : Nat) (field : Bool)
  | call0 (f : Expr)
  | call (f : Expr) (args : Args)
  | unary (u : UOp) (e : Expr)
  | binary (o : BinOp) (l r : Expr)
  | ifElse (c : Expr) (t e : Blk)
  | matchE (m : Expr) (cs : Cases)
  | lambda (k : Nat) (body : Expr)
  deriving DecidableEq
/-- non-empty list of expressions. -/
inductive Args where
  | one (e : Expr)
  | cons (e : Expr) (rest : Args)
  deriving DecidableEq
/-- non-empty list of match cases (opaque pattern, body). -/
inductive Cases where
  | one (pat : Nat) (body : Expr)
  | cons (pat : Nat) (body : Expr) (rest : Cases)
  deriving DecidableEq
/-- statements of a block: `let pattern [: type] = e;` (`k` numbers the opaque text up to `=`) and
expression statements `e;`. -/
inductive Stmts where
  | nil
  | letS (k : Nat) (e : Expr) (rest : Stmts)
  | exprS (e : Expr) (rest : Stmts)
  deriving DecidableEq
/-- a block: statements and an optional final expression. -/
inductive Blk where
  | fin (ss : Stmts) (e : Expr)
  | noFin (ss : Stmts)
  deriving DecidableEq
end

instance : Inhabited Expr := ⟨.atom 0⟩

/-- `E::precedence` (source.rs:698-708). -/
def Expr.prec : Expr → Nat
  | .atom _ | .tuple _ _ => 0
  | .block _ | .post _ _ _ | .call0 _ | .call _ _ => 1
  | .unary _ _ => 2
  | .binary o _ _ => 4 + o.pprec
  | .ifElse _ _ _ => 10
  | .matchE _ _ => 11
  | .lambda _ _ => 12

inductive Tok where
  | lp | rp | bang | comma | lb | rb | kwIf | kwElse | kwMatch | semi
  | op (o : BinOp)
  | atom (a : Nat)
  | post (p : Nat) (field : Bool)
  | pat (k : Nat)      -- `pattern ->`
  | letK (k : Nat)     -- `let pattern [: type] =`
  | lam (k : Nat)      -- `(params) ->`
  deriving DecidableEq, Repr, Inhabited

def paren (ts : List Tok) : List Tok := Tok.lp :: (ts ++ [Tok.rp])

def needParen (p : Nat) (equalLevelParenthesis : Bool) (e : Expr) : Bool :=
  if equalLevelParenthesis then decide (e.prec ≥ p) else decide (e.prec > p)

def sub (p : Nat) (equalLevelParenthesis : Bool) (e : Expr) (ts : List Tok) : List Tok :=
  if needParen p equalLevelParenthesis e then paren ts else ts

def utok : UOp → Tok
  | .not => .bang
  | .neg => .op .minus

/-- the right-operand shortcut (after fixes 9730edb, 8fbb1c9). -/
def shortcutOk (o : BinOp) (r : Expr) : Bool :=
  match r with
  | .binary o' r1 _ =>
    (o == .plus || o == .mul || o == .and || o == .or) && o' == o && r1.prec != 4 + o.pprec
  | _ => false

/-- `ends_with_member_name` (fix 0291c0a). -/
def endsMember : Expr → Bool
  | .post _ _ fld => fld
  | .unary _ a => decide (a.prec < 2) && endsMember a
  | .binary _ _ r => endsMember r
  | .lambda _ b => endsMember b
  | _ => false

mutual
def printE : Expr → List Tok
  | .atom a => [.atom a]
  | .tuple e es => .lp :: (printE e ++ .comma :: (printArgs es ++ [.rp]))
  | .block b => .lb :: printBody b
  | .post e p fld => sub 1 false e (printE e) ++ [.post p fld]
  | .call0 f => sub 1 false f (printE f) ++ [.lp, .rp]
  | .call f args => sub 1 false f (printE f) ++ .lp :: (printArgs args ++ [.rp])
  | .unary u e => utok u :: sub 2 true e (printE e)
  | .binary o l r =>
    let p := 4 + o.pprec
    if o = .lt ∧ endsMember l = true then
      paren (printE l) ++ [.op o] ++ sub p true r (printE r)
    else if l.prec = p then
      printE l ++ [.op o] ++ sub p true r (printE r)
    else if r.prec = p ∧ shortcutOk o r = true then
      sub p true l (printE l) ++ [.op o] ++ printE r
    else
      sub p true l (printE l) ++ [.op o] ++ sub p true r (printE r)
  | .ifElse c t e =>
    .kwIf :: (printE c ++ .lb :: (printBody t ++ .kwElse :: .lb :: printBody e))
  | .matchE m cs => .kwMatch :: (printE m ++ .lb :: (printCases cs ++ [.rb]))
  | .lambda k body => .lam k :: sub 12 false body (printE body)
def printArgs : Args → List Tok
  | .one e => printE e
  | .cons e rest => printE e ++ .comma :: printArgs rest
def printCases : Cases → List Tok
  | .one k b => .pat k :: (printE b ++ [.comma])
  | .cons k b rest => .pat k :: (printE b ++ .comma :: printCases rest)
/-- `create_doc_for_block` after the opening brace (source_printer.rs:510-576): statements, final
expression, closing brace. -/
def printBody : Blk → List Tok
  | .fin ss e => printStmts ss ++ (printE e ++ [.rb])
  | .noFin ss => printStmts ss ++ [.rb]
/-- `statement_to_document` / `declaration_statement_to_document` (883-929). -/
def printStmts : Stmts → List Tok
  | .nil => []
  | .letS k e rest => .letK k :: (printE e ++ .semi :: printStmts rest)
  | .exprS e rest => printE e ++ .semi :: printStmts rest
end

def startsLt : List Tok → Bool
  | .op .lt :: _ => true
  | _ => false

abbrev PResult := Option (Expr × List Tok)

def Blk.consLet (k : Nat) (e : Expr) : Blk → Blk
  | .fin ss x => .fin (.letS k e ss) x
  | .noFin ss => .noFin (.letS k e ss)
def Blk.consExpr (e : Expr) : Blk → Blk
  | .fin ss x => .fin (.exprS e ss) x
  | .noFin ss => .noFin (.exprS e ss)

mutual
/-- `parse_expression`. -/
def parseTop : Nat → List Tok → PResult
  | 0, _ => none
  | f + 1, .kwMatch :: ts =>
    match parseTop f ts with
    | some (m, .lb :: r) =>
      match parseCases f r with
      | some (cs, r') => some (.matchE m cs, r')
      | none => none
    | _ => none
  | f + 1, .kwIf :: ts =>
    match parseTop f ts with
    | some (c, .lb :: r) =>
      match parseStmts f r with
      | some (t, .kwElse :: .lb :: r2) =>
        match parseStmts f r2 with
        | some (e, r3) => some (.ifElse c t e, r3)
        | none => none
      | _ => none
    | _ => none
  | f + 1, ts => parseLevel f 0 ts
/-- `parse_block` after the opening brace (1628-1730): `let` statements, empty statements, expression
statements, the optional final expression, through the closing brace. -/
def parseStmts : Nat → List Tok → Option (Blk × List Tok)
  | 0, _ => none
  | _ + 1, .rb :: r => some (.noFin .nil, r)
  | f + 1, .semi :: r => parseStmts f r
  | f + 1, .letK k :: ts =>
    match parseTop f ts with
    | some (e, .semi :: r) =>
      match parseStmts f r with
      | some (b, r') => some (b.consLet k e, r')
      | none => none
    | _ => none
  | f + 1, ts =>
    match parseTop f ts with
    | some (e, .semi :: r) =>
      match parseStmts f r with
      | some (b, r') => some (b.consExpr e, r')
      | none => none
    | some (e, .rb :: r) => some (.fin .nil e, r)
    | _ => none
/-- `parse_pattern_to_expression` loop of `parse_match`, through the closing brace. -/
def parseCases : Nat → List Tok → Option (Cases × List Tok)
  | 0, _ => none
  | f + 1, .pat k :: ts =>
    match parseTop f ts with
    | some (b, .rb :: r) => some (.one k b, r)
    | some (b, .comma :: .rb :: r) => some (.one k b, r)
    | some (b, .comma :: r) =>
      match parseCases f r with
      | some (cs, r') => some (.cons k b cs, r')
      | none => none
    | _ => none
  | _ + 1, _ => none
/-- `parse_comma_separated_list_with_end_token(RightParenthesis, …)` + the closing parenthesis. -/
def parseArgs : Nat → List Tok → Option (Args × List Tok)
  | 0, _ => none
  | f + 1, ts =>
    match parseTop f ts with
    | some (e, .rp :: r) => some (.one e, r)
    | some (e, .comma :: .rp :: r) => some (.one e, r)
    | some (e, .comma :: r) =>
      match parseArgs f r with
      | some (es, r') => some (.cons e es, r')
      | none => none
    | _ => none
/-- `parse_base_expression`. -/
def parseBase : Nat → List Tok → PResult
  | 0, _ => none
  | _ + 1, .atom a :: ts => some (.atom a, ts)
  | f + 1, .lam k :: ts =>
    match parseTop f ts with
    | some (body, r) => some (.lambda k body, r)
    | none => none
  | f + 1, .lb :: ts =>
    match parseStmts f ts with
    | some (b, r) => some (.block b, r)
    | none => none
  | f + 1, .lp :: ts =>
    match parseTop f ts with
    | some (e, .rp :: r) => some (e, r)
    | some (e, .comma :: .rp :: r) => some (e, r)     -- `(e,)` is just `e` (build_tuple, 1686-1688)
    | some (e, .comma :: r) =>
      match parseArgs f r with
      | some (es, r') => some (.tuple e es, r')
      | none => none
    | _ => none
  | _ + 1, _ => none
def parseUnary : Nat → List Tok → PResult
  | 0, _ => none
  | f + 1, .bang :: ts =>
    match parseLevel f 6 ts with
    | some (e, r) => some (.unary .not e, r)
    | none => none
  | f + 1, .op .minus :: ts =>
    match parseLevel f 6 ts with
    | some (e, r) => some (.unary .neg e, r)
    | none => none
  | f + 1, ts => parseLevel f 6 ts
def parseLevel : Nat → Nat → List Tok → PResult
  | 0, _, _ => none
  | f + 1, k, ts =>
    if k ≥ 6 then
      match parseBase f ts with
      | none => none
      | some (e, r) => parseLoop f 6 e r
    else if k = 5 then parseUnary f ts
    else
      match parseLevel f (k + 1) ts with
      | none => none
      | some (e, r) => parseLoop f k e r
def parseLoop : Nat → Nat → Expr → List Tok → PResult
  | 0, _, _, _ => none
  | f + 1, k, e, .op o :: ts =>
    if o.plevel = k then
      match parseLevel f (k + 1) ts with
      | none => none
      | some (e2, r) => parseLoop f k (.binary o e e2) r
    else some (e, .op o :: ts)
  | f + 1, k, e, .post p fld :: ts =>
    if k = 6 then
      if fld && startsLt ts then none else parseLoop f k (.post e p fld) ts
    else some (e, .post p fld :: ts)
  | f + 1, k, e, .lp :: ts =>
    if k = 6 then
      match ts with
      | .rp :: r => parseLoop f k (.call0 e) r
      | _ =>
        match parseArgs f ts with
        | some (args, r) => parseLoop f k (.call e args) r
        | none => none
    else some (e, .lp :: ts)
  | _ + 1, _, e, ts => some (e, ts)
end

def parseFuel (f : Nat) (ts : List Tok) : Option Expr :=
  match parseTop f ts with
  | some (e, []) => some e
  | _ => none

def fuelFor (ts : List Tok) : Nat := 256 * ts.length + 256

def parseE (ts : List Tok) : Option Expr := parseFuel (fuelFor ts) ts

def Expr.operandOk : Expr → Bool
  | .ifElse _ _ _ | .matchE _ _ | .lambda _ _ => false
  | _ => true

def Expr.lvl : Expr → Nat
  | .atom _ | .tuple _ _ | .block _ | .post _ _ _ | .call0 _ | .call _ _ => 6
  | .unary _ _ => 5
  | .binary o _ _ => o.plevel
  | .ifElse _ _ _ | .matchE _ _ | .lambda _ _ => 0

def lParen (o : BinOp) (l : Expr) : Bool :=
  if o = .lt ∧ endsMember l = true then true
  else if l.prec = 4 + o.pprec then false else needParen (4 + o.pprec) true l
def rParen (o : BinOp) (l r : Expr) : Bool :=
  if l.prec = 4 + o.pprec then needParen (4 + o.pprec) true r
  else if r.prec = 4 + o.pprec ∧ shortcutOk o r = true then false
  else needParen (4 + o.pprec) true r

/-- the printed form of the expression ends with a plain member name (`.name`). -/
def lastField : Expr → Bool
  | .post _ _ fld => fld
  | .unary _ a => if needParen 2 true a then false else lastField a
  | .binary o l r => if rParen o l r then false else lastField r
  | .lambda _ b => lastField b
  | _ => false

def usesShortcut (o : BinOp) (l r : Expr) : Bool :=
  l.prec != 4 + o.pprec && r.prec == 4 + o.pprec && shortcutOk o r

def wrapCtx (ctx : Option (BinOp × Expr)) (x : Expr) : Expr :=
  match ctx with
  | none => x
  | some (o, acc) => .binary o acc x

mutual
/-- the tree read back from the printed form (`roundtrip_expr_total`); `ctx = some (o, acc)`: read as
right operand inside the loop of `o` with `acc` accumulated (`graftR`). -/
def rg (ctx : Option (BinOp × Expr)) : Expr → Expr
  | .atom a => wrapCtx ctx (.atom a)
  | .tuple e es => wrapCtx ctx (.tuple (rg none e) (rgArgs es))
  | .block b => wrapCtx ctx (.block (rgBlk b))
  | .post e p f => wrapCtx ctx (.post (rg none e) p f)
  | .call0 f => wrapCtx ctx (.call0 (rg none f))
  | .call f args => wrapCtx ctx (.call (rg none f) (rgArgs args))
  | .unary u e => wrapCtx ctx (.unary u (rg none e))
  | .ifElse c t e => wrapCtx ctx (.ifElse (rg none c) (rgBlk t) (rgBlk e))
  | .matchE m cs => wrapCtx ctx (.matchE (rg none m) (rgCases cs))
  | .lambda k b => wrapCtx ctx (.lambda k (rg none b))
  | .binary o' a b =>
    match ctx with
    | none =>
      if usesShortcut o' a b then rg (some (o', rg none a)) b
      else .binary o' (rg none a) (rg none b)
    | some (o, acc) =>
      if usesShortcut o a b then rg (some (o, .binary o acc (rg none a))) b
      else .binary o (.binary o acc (rg none a)) (rg none b)
def rgArgs : Args → Args
  | .one e => .one (rg none e)
  | .cons e rest => .cons (rg none e) (rgArgs rest)
def rgCases : Cases → Cases
  | .one k b => .one k (rg none b)
  | .cons k b rest => .cons k (rg none b) (rgCases rest)
def rgBlk : Blk → Blk
  | .fin ss e => .fin (rgStmts ss) (rg none e)
  | .noFin ss => .noFin (rgStmts ss)
def rgStmts : Stmts → Stmts
  | .nil => .nil
  | .letS k e rest => .letS k (rg none e) (rgStmts rest)
  | .exprS e rest => .exprS (rg none e) (rgStmts rest)
end

/-! ### the tuple size limit (`MAX_STRUCT_SIZE`, source_parser.rs:7; `build_tuple` and
`parse_parenthesized_expression_list_with_start`) -/

def Args.len : Args → Nat
  | .one _ => 1
  | .cons _ rest => rest.len + 1

mutual
/-- every tuple expression has at most 16 elements. The real parser has two code paths that build a
tuple (`( lowerId …` through the lambda/tuple cover grammar, anything else through the expression
list); both report "Maximum allowed tuple size is 16" beyond that, so acceptance depends only on the
number of elements — which is all the model says. -/
def sizeOk : Expr → Bool
  | .atom _ => true
  | .tuple e es => decide (es.len + 1 ≤ 16) && sizeOk e && sizeOkArgs es
  | .block b => sizeOkBlk b
  | .post e _ _ => sizeOk e
  | .call0 f => sizeOk f
  | .call f args => sizeOk f && sizeOkArgs args
  | .unary _ e => sizeOk e
  | .binary _ l r => sizeOk l && sizeOk r
  | .ifElse c t e => sizeOk c && sizeOkBlk t && sizeOkBlk e
  | .matchE m cs => sizeOk m && sizeOkCases cs
  | .lambda _ b => sizeOk b
def sizeOkArgs : Args → Bool
  | .one e => sizeOk e
  | .cons e rest => sizeOk e && sizeOkArgs rest
def sizeOkCases : Cases → Bool
  | .one _ b => sizeOk b
  | .cons _ b rest => sizeOk b && sizeOkCases rest
def sizeOkBlk : Blk → Bool
  | .fin ss e => sizeOkStmts ss && sizeOk e
  | .noFin ss => sizeOkStmts ss
def sizeOkStmts : Stmts → Bool
  | .nil => true
  | .letS _ e rest => sizeOk e && sizeOkStmts rest
  | .exprS e rest => sizeOk e && sizeOkStmts rest
end

/-- the parser with its size check: a parse is accepted iff every tuple is within the limit. -/
def parseExpr (ts : List Tok) : Option Expr :=
  match parseE ts with
  | some e => if sizeOk e then some e else none
  | none => none

def regroup (e : Expr) : Expr := rg none e
def graftR (o : BinOp) (acc : Expr) (r : Expr) : Expr := rg (some (o, acc)) r

end SamVerif.FmtFull
