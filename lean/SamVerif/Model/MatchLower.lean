import SamVerif.Model.Useful
/-
Model of the pattern part of HIR lowering, `crates/samlang-compiler/src/hir_lowering.rs`:

* `lower_matching_pattern` (hir_lowering.rs:657-871) -> `lowerPat` / `lowerElems` / `lowerObj` / `lowerOr`
* `lower_match`            (hir_lowering.rs:873-947) -> `runMatch` (the if/else chain that ends in the
  "unreachable" fallback `Process.panic(0, "")`)

and of what the emitted statements do at run time (`evalCode`, `evalFields`).

Input of the lowering is the *checked* pattern (`MatchingPattern<Arc<Type>>`, written by
`check_matching_pattern`, main_checker.rs:1090-1512) - `CPat`: the checker has already resolved a
variant tag to `tag_order` (its declaration index; a variant is identified here by C07's `Ctor`,
class + tag, and the run-time tag of a variant value is that index) and an object element's field
name to `field_order` (main_checker.rs:1302-1306).  `absOf` is the abstract pattern node the checker
hands to the exhaustiveness analysis for the same (error-free) pattern (main_checker.rs:1237-1345,
1403-1414, 1438-1462): in particular an object pattern starts from one wildcard per field and
*overwrites* slot `field_order` per element (`abstract_pattern_nodes[*field_order] = abstract_node`).

The Rust function returns `LoweringResult { statements, expression }`; the *shape* of the emitted
statements is kept as a tree (`Code` / `Fields`), temporaries are not named: each `IndexedAccess` /
`ConditionalDestructure` binding is used exactly by the nested pattern lowered right after it, which
the tree expresses by nesting.  (The names of these access temporaries and their freshness are outside
the model; the `LateInitAssignment`s of `Id` patterns are `Code.bind` / `execCode` and their temporaries
`allocTemps`, below.  The `match` tie runs the real checker, compiler and engine on generated matches and
compares with `runMatch`.)

Run-time faults are explicit: `evalCode … = none` means the emitted code performs an out-of-bounds /
ill-typed struct access or destructures a non-variant - the engine-level faults C03 excludes.
Core Lean only; values, abstract patterns, signatures are C07's (`Model/Useful.lean`).
-/
namespace SamVerif.MatchLower
open SamVerif.Useful

/-- checked source pattern, as `lower_matching_pattern` reads it -/
inductive CPat where
  | tuple (nfields : Nat) (es : List CPat)
      -- `nfields` = `resolved_struct_mappings.len()` of the scrutinee's id type
  | object (nfields : Nat) (orders : List Nat) (es : List CPat)
      -- elements in the order written; `orders[k]` = `field_order` of element `k`
  | variant (c : Ctor) (args : List CPat)     -- `tag_order` + `data_variables`
  | id (x : Nat)                              -- binds source name `x` (a `LateInitAssignment`)
  | wild
  | or (ps : List CPat)
  deriving Repr, Inhabited

mutual
/-- Statements + condition expression produced for one pattern on one scrutinee expression. -/
inductive Code where
  | one                                   -- `([], hir::ONE)`: `Wildcard`
  | bind (x : Nat)                        -- `([LateInitAssignment { binding_names[x], scrutinee }], hir::ONE)`: `Id`
  | zero                                  -- `([], hir::ZERO)`: `Or([])`
  | struct (fs : Fields)                  -- `Tuple` / `Object`: one `IndexedAccess` per element
  | destructure (c : Ctor) (nbind : Nat) (fs : Fields)
      -- `ConditionalDestructure { tag, bindings (nbind of them), s1 = fs, final = (fs.cond, ZERO) }`
  | orElse (first rest : Code)
      -- `first.stmts; IfElse { first.cond, s1 = [], s2 = rest.stmts, final = (ONE, rest.cond) }`
/-- The accumulator built right-to-left over the elements of a tuple/object/variant pattern. -/
inductive Fields where
  | done                                            -- `([], hir::ONE)`
  | seq (idx : Nat) (nested : Code) (rest : Fields)
      -- nested condition is literally `hir::ONE`: `[access idx] ++ nested.stmts ++ rest.stmts`, cond = rest.cond
  | guard (idx : Nat) (nested : Code) (rest : Fields)
      -- `[access idx] ++ nested.stmts ++ [IfElse { nested.cond, s1 = rest.stmts, s2 = [], final = (rest.cond, ZERO) }]`
end

mutual
/-- `condition == hir::ONE` (syntactic test on the returned expression). -/
def Code.isOne : Code → Bool
  | .one => true
  | .bind _ => true
  | .zero => false
  | .struct fs => fs.isOne
  | .destructure _ _ _ => false      -- a fresh temporary
  | .orElse _ _ => false             -- a fresh temporary
def Fields.isOne : Fields → Bool
  | .done => true
  | .seq _ _ rest => rest.isOne
  | .guard _ _ _ => false
end

/-- `if nested_pattern_condition == hir::ONE { append } else { IfElse }` (…:697-716, 746-765, 806-831). -/
def mkField (idx : Nat) (nested : Code) (rest : Fields) : Fields :=
  if nested.isOne then .seq idx nested rest else .guard idx nested rest

mutual
def lowerPat : CPat → Code
  | .id x => .bind x
  | .wild => .one
  | .tuple _ es => .struct (lowerElems es 0)
  | .object _ orders es => .struct (lowerObj orders es)
  | .variant c args => .destructure c args.length (lowerElems args 0)
  | .or ps => lowerOr ps
/-- elements of a tuple pattern / data variables of a variant pattern, from position `i` on
(`for (index, nested) in elements.iter().enumerate().rev()`: the accumulator of the later elements
is nested under the test of the earlier one) -/
def lowerElems : List CPat → Nat → Fields
  | [], _ => .done
  | p :: ps, i => mkField i (lowerPat p) (lowerElems ps (i + 1))
/-- elements of an object pattern in the order written; slot = `field_order` (since fix 007f40e) -/
def lowerObj : List Nat → List CPat → Fields
  | o :: orders, p :: es => mkField o (lowerPat p) (lowerObj orders es)
  | _, _ => .done
/-- `Or`: `[]` is `ZERO`, one alternative is that alternative, otherwise a right-nested chain -/
def lowerOr : List CPat → Code
  | [] => .zero
  | [p] => lowerPat p
  | p :: q :: ps => .orElse (lowerPat p) (lowerOr (q :: ps))
end

/-! ### The abstract pattern the checker builds for the same checked pattern -/

mutual
def absOf : CPat → Pat
  | .id _ => .wild
  | .wild => .wild
  | .tuple _ es => .struct none (absAll es)
  | .object n orders es => .struct none (absObj orders es (wilds n))
  | .variant c args => .struct (some c) (absAll args)
  | .or ps => mkOr (absAll ps)
def absAll : List CPat → List Pat
  | [] => []
  | p :: ps => absOf p :: absAll ps
/-- `abstract_pattern_nodes[*field_order] = abstract_node`, element by element -/
def absObj : List Nat → List CPat → List Pat → List Pat
  | o :: orders, p :: es, acc => absObj orders es (acc.set o (absOf p))
  | _, _, acc => acc
end

/-! ### Where the lowering itself would abort: `resolved_struct_mappings[index]` out of range -/

mutual
def lowerCrash : CPat → Bool
  | .id _ => false
  | .wild => false
  | .tuple n es => decide (n < es.length) || lowerCrashAll es
  | .object n orders es => orders.any (fun o => decide (n ≤ o)) || lowerCrashAll es
  | .variant _ args => lowerCrashAll args
  | .or ps => lowerCrashAll ps
def lowerCrashAll : List CPat → Bool
  | [] => false
  | p :: ps => lowerCrash p || lowerCrashAll ps
end

/-! ### What the emitted statements do -/

/-- no element at all: no `IndexedAccess` is emitted -/
def Fields.isDone : Fields → Bool
  | .done => true
  | _ => false

mutual
/-- `none` = engine-level fault (ill-typed / out-of-bounds struct access, destructuring a non-variant). -/
def evalCode : Code → Val → Option Bool
  | .one, _ => some true
  | .bind _, _ => some true
  | .zero, _ => some false
  | .struct fs, v =>
    match v with
    | .con none vs => evalFields fs vs
    | _ => if fs.isDone then some true else none      -- `IndexedAccess` on something that is no struct
  | .destructure c n fs, v =>
    match v with
    | .con (some c') args =>
      if c' = c then (if n ≤ args.length then evalFields fs args else none)
      else some false
    | _ => none
  | .orElse first rest, v =>
    match evalCode first v with
    | none => none
    | some true => some true
    | some false => evalCode rest v
def evalFields : Fields → List Val → Option Bool
  | .done, _ => some true
  | .seq i nested rest, vs =>
    match vs[i]? with
    | none => none
    | some x =>
      match evalCode nested x with
      | none => none
      | some _ => evalFields rest vs
  | .guard i nested rest, vs =>
    match vs[i]? with
    | none => none
    | some x =>
      match evalCode nested x with
      | none => none
      | some true => evalFields rest vs
      | some false => some false
end

/-! ### Bindings.
`Id` patterns emit `LateInitAssignment { name: binding_names[x], assigned_expression: scrutinee }`
(hir_lowering.rs:839-845); the temporaries are declared (`LateInitDeclaration`) before the pattern
code by `lower_match` / `lower_if_else` / `lower_block`, one per name of `pattern.bindings()`, and may
be assigned more than once (every alternative of an or-pattern assigns them; the assignments of an
alternative that fails later are *not* undone).  `execCode` returns, next to the condition, the
assignments performed, latest first; the environment after the pattern code is `Δ ++ env`. -/

abbrev Delta := List (Nat × Val)

mutual
def execCode : Code → Val → Option (Bool × Delta)
  | .one, _ => some (true, [])
  | .bind x, v => some (true, [(x, v)])
  | .zero, _ => some (false, [])
  | .struct fs, v =>
    match v with
    | .con none vs => execFields fs vs
    | _ => if fs.isDone then some (true, []) else none
  | .destructure c n fs, v =>
    match v with
    | .con (some c') args =>
      if c' = c then (if n ≤ args.length then execFields fs args else none)
      else some (false, [])
    | _ => none
  | .orElse first rest, v =>
    match execCode first v with
    | none => none
    | some (true, d) => some (true, d)
    | some (false, d) =>
      match execCode rest v with
      | none => none
      | some (b, d') => some (b, d' ++ d)
def execFields : Fields → List Val → Option (Bool × Delta)
  | .done, _ => some (true, [])
  | .seq i nested rest, vs =>
    match vs[i]? with
    | none => none
    | some x =>
      match execCode nested x with
      | none => none
      | some (_, d) =>
        match execFields rest vs with
        | none => none
        | some (b, d') => some (b, d' ++ d)
  | .guard i nested rest, vs =>
    match vs[i]? with
    | none => none
    | some x =>
      match execCode nested x with
      | none => none
      | some (false, d) => some (false, d)
      | some (true, d) =>
        match execFields rest vs with
        | none => none
        | some (b, d') => some (b, d' ++ d)
end

mutual
/-- `MatchingPattern::bindings()` (samlang-ast source.rs:342-371), as a list of names: an
or-pattern contributes the bindings of its *first* alternative. -/
def names : CPat → List Nat
  | .id x => [x]
  | .wild => []
  | .tuple _ es => namesL es
  | .object _ _ es => namesL es
  | .variant _ args => namesL args
  | .or ps => namesFirst ps
def namesL : List CPat → List Nat
  | [] => []
  | p :: ps => names p ++ namesL ps
def namesFirst : List CPat → List Nat
  | [] => []
  | p :: _ => names p
end

/-- same set of names -/
def sameNames (a b : List Nat) : Bool := a.all (fun x => b.contains x) && b.all (fun x => a.contains x)

mutual
/-- What the checker guarantees about bindings when it reports nothing: every alternative of an
or-pattern binds the same names (`report_or_pattern_inconsistent_bindings_error`,
main_checker.rs:1462-1500). -/
def bindsOk : CPat → Bool
  | .id _ => true
  | .wild => true
  | .tuple _ es => bindsOkL es
  | .object _ orders es => decide (orders.length = es.length) && bindsOkL es
  | .variant _ args => bindsOkL args
  | .or ps => bindsOkL ps && altsSame (namesFirst ps) ps
def bindsOkL : List CPat → Bool
  | [] => true
  | p :: ps => bindsOk p && bindsOkL ps
def altsSame (ns : List Nat) : List CPat → Bool
  | [] => true
  | p :: ps => sameNames (names p) ns && altsSame ns ps
end

mutual
/-- Source semantics of the bindings of a pattern that matches `v` (latest first): every `Id`
binds the sub-value at its position; an or-pattern binds what its first *matching* alternative binds. -/
def srcDelta : CPat → Val → Delta
  | .id x, v => [(x, v)]
  | .wild, _ => []
  | .tuple _ es, v =>
    match v with
    | .con none vs => srcDeltaL es vs
    | _ => []
  | .object _ orders es, v =>
    match v with
    | .con none vs => srcDeltaObj orders es vs
    | _ => []
  | .variant _ args, v =>
    match v with
    | .con (some _) ws => srcDeltaL args ws
    | _ => []
  | .or ps, v => srcDeltaOr ps v
def srcDeltaL : List CPat → List Val → Delta
  | p :: ps, v :: vs => srcDeltaL ps vs ++ srcDelta p v
  | _, _ => []
def srcDeltaObj : List Nat → List CPat → List Val → Delta
  | o :: orders, p :: es, vs =>
    match vs[o]? with
    | some x => srcDeltaObj orders es vs ++ srcDelta p x
    | none => srcDeltaObj orders es vs
  | _, _, _ => []
def srcDeltaOr : List CPat → Val → Delta
  | [], _ => []
  | p :: ps, v => if pmatch (absOf p) v then srcDelta p v else srcDeltaOr ps v
end

/-! ### Temporaries of the bindings.
`lower_match` / `lower_if_else` / `lower_block` build `binding_names` before lowering the pattern:
`for (n, t) in pattern.bindings() { let name = allocate_temp_variable(); binding_names.insert(n, name); … }`
(hir_lowering.rs:596-605, 900-908, 1142-1148).  `bindings()` is a `BTreeMap` (each source name once),
`allocate_temp_variable` hands out `_t<counter>` and increments the counter. -/

/-- `binding_names` for the (distinct) source names `ns`, starting at temp counter `c` -/
def allocTemps : List Nat → Nat → List (Nat × Nat)
  | [], _ => []
  | n :: ns, c => (n, c) :: allocTemps ns (c + 1)

/-- the assignments as the emitted code performs them: on the temporaries, not on the source names -/
def renameDelta (bn : Nat → Nat) (d : Delta) : Delta := d.map (fun b => (bn b.1, b.2))

/-! ### `if let p = e { a } else { b }` (hir_lowering.rs:586-645) and `let p = e;` (…:1138-1152) -/

/-- `condition == hir::ZERO` -/
def Code.isZero : Code → Bool
  | .zero => true
  | _ => false

inductive Branch where
  | thenB (d : Delta)    -- the `then` block runs, with these assignments done
  | elseB
  | fault
  deriving Repr

/-- `lower_if_else` with a `Guard(p, e)` condition: a condition that is literally `ONE` / `ZERO`
selects the block at compile time (the pattern statements are still emitted). -/
def runIfLet (c : Code) (v : Val) : Branch :=
  match execCode c v with
  | none => .fault
  | some (b, d) =>
    if c.isOne then .thenB d
    else if c.isZero then .elseB
    else if b then .thenB d else .elseB

/-- `let p = e;`: the pattern statements run, the condition is dropped; the rest of the block then
reads the bound temporaries. `none` = fault. -/
def runLet (c : Code) (v : Val) : Option Delta := (execCode c v).map (·.2)

/-- How a `match` ends (hir_lowering.rs:873-947): the arms are tested in order, the innermost `else`
is the call `Process.panic(0, "")`. -/
inductive MatchEnd where
  | arm (i : Nat)        -- body of arm `i` runs
  | fallback             -- the "unreachable" panic with the empty message
  | fault                -- engine-level fault while testing a pattern
  deriving DecidableEq, Repr

def runMatchFrom : List Code → Nat → Val → MatchEnd
  | [], _, _ => .fallback
  | c :: cs, i, v =>
    match evalCode c v with
    | none => .fault
    | some true => .arm i
    | some false => runMatchFrom cs (i + 1) v

def runMatch (arms : List Code) (v : Val) : MatchEnd := runMatchFrom arms 0 v

/-- `lower_match` on the checked arms -/
def lowerMatch (arms : List CPat) : List Code := arms.map lowerPat

/-- the abstract patterns the checker hands to the exhaustiveness analysis (main_checker.rs:971-999) -/
def abstractArms (arms : List CPat) : List Pat := arms.map absOf

/-! ### Checked patterns are typed (what `check_matching_pattern` guarantees when it reports nothing).
Since fix 76a01ae the checker also rejects an object pattern that names a field twice (before it,
`{ f as A, f as _ }` was accepted, the exhaustiveness analysis kept only the last sub-pattern while
the lowered code tested both: former finding C03-F3), so `orders` has no duplicates. -/

def nodupNat : List Nat → Bool
  | [] => true
  | x :: xs => !xs.contains x && nodupNat xs


mutual
def cpatTy (sig : Sig) : CPat → Nat → Bool
  | .id _, _ => true
  | .wild, _ => true
  | .tuple n es, t =>
    match sig t with
    | .struct fs => decide (n = fs.length) && cpatTys sig es (fs.map (fun f => f.2))
    | _ => false
  | .object n orders es, t =>
    match sig t with
    | .struct fs =>
      decide (n = fs.length) && nodupNat orders && cobjTy sig (fs.map (fun f => f.2)) orders es
    | _ => false
  | .variant c args, t =>
    match ctorFields sig t (some c) with
    | some tys => cpatTys sig args tys
    | none => false
  | .or ps, t => cpatTyAll sig ps t
def cpatTys (sig : Sig) : List CPat → List Nat → Bool
  | [], [] => true
  | p :: ps, t :: ts => cpatTy sig p t && cpatTys sig ps ts
  | [], _ :: _ => false
  | _ :: _, [] => false
def cobjTy (sig : Sig) (tys : List Nat) : List Nat → List CPat → Bool
  | [], [] => true
  | o :: orders, p :: es =>
    (match tys[o]? with
     | some t => cpatTy sig p t
     | none => false) && cobjTy sig tys orders es
  | [], _ :: _ => false
  | _ :: _, [] => false
def cpatTyAll (sig : Sig) : List CPat → Nat → Bool
  | [], _ => true
  | p :: ps, t => cpatTy sig p t && cpatTyAll sig ps t
end

end SamVerif.MatchLower
