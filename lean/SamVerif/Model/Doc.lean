/-!
# Model of the layout engine `crates/samlang-printer/src/prettier.rs`

Function by function (core Lean only, executable; the native driver `drv-c09` runs exactly these
definitions against the real `prettier::pretty_print` through hook H4):

* `Doc`            = `enum Document` (prettier.rs:39-57); `Text`/`NonStaticText` keep their tag.
* `flatten`        = `Document::flatten` (60-82)
* `concatV`        = `Document::concat` (84-95)
* `group`, `bracketFlexible`, `lineComment`, `multilineComment` = the four `Union` builders (97-176)
* `genBest`        = `generate_best_doc` (192-262): work list, `consumed`, `enforce_consumed`,
                     the collector is threaded explicitly and *truncated* after a failed attempt
                     exactly like the Rust code (`collector.truncate(prev_length)`).
* `render`, `post`, `prettyPrint` = `pretty_print` (266-307) including the hard-line undo, the
                     per-line `trim_end` and the final `trim_end` + newline.

Strings are `List Char`; `s.len()` of Rust is the UTF-8 byte length (`utf8Len`).
Assumption: `indentation + i` and `consumed + len` stay below 2^64 (`usize`).
-/
namespace SamVerif.Doc

abbrev Str := List Char

inductive Doc where
  | nil
  | concat (a b : Doc)
  | nest (n : Nat) (d : Doc)
  | text (s : Str)
  | nstext (s : Str)
  | line
  | lineNil
  | lineHard
  | union (a b : Doc)
  deriving Repr, DecidableEq, Inhabited

open Doc

/-- `Document::flatten` (prettier.rs:60-82). -/
def flatten : Doc → Option Doc
  | .nil => some .nil
  | .concat a b =>
    match flatten a, flatten b with
    | some a', some b' => some (.concat a' b')
    | _, _ => none
  | .nest n d => (flatten d).map (.nest n)
  | .text s => some (.text s)
  | .nstext s => some (.nstext s)
  | .line => some (.text [' '])
  | .lineNil => some .nil
  | .lineHard => none
  | .union a _ => flatten a

/-- `Document::concat(vec)` (84-95): right-nested, `Nil` for the empty vector. -/
def concatV : List Doc → Doc
  | [] => .nil
  | [x] => x
  | x :: y :: rest => .concat x (concatV (y :: rest))

/-- `Document::group` (97-103). -/
def group (d : Doc) : Doc :=
  match flatten d with
  | some f => .union f d
  | none => d

/-- `Document::bracket_flexible` (105-117). -/
def bracketFlexible (left : Str) (sep : Doc) (doc : Doc) (right : Str) : Doc :=
  group (concatV [.text left, .nest 2 (.concat sep doc), sep, .text right])

/-- Rust's `str::split(' ')`: always at least one piece, empty pieces kept. -/
def splitSp : Str → List Str
  | [] => [[]]
  | c :: cs =>
    if c = ' ' then [] :: splitSp cs
    else match splitSp cs with
      | [] => [[c]]          -- unreachable: `splitSp` is never empty
      | w :: ws => (c :: w) :: ws

def leaderLine : Str := ['/', '/', ' ']
def leaderStar : Str := [' ', '*', ' ']

/-- One word of a re-flowable comment (prettier.rs:130-142 / 155-167). -/
def commentWord (leader : Str) (w : Str) : Doc :=
  .union (.concat (.nstext w) (.text [' '])) (concatV [.nstext w, .lineHard, .text leader])

/-- `Document::line_comment` (126-149). -/
def lineComment (t : Str) : Doc :=
  .union (.concat (.text leaderLine) (.nstext t))
    (concatV (.text leaderLine :: (splitSp t).map (commentWord leaderLine)))

/-- `Document::multiline_comment` (151-176). -/
def multilineComment (starter : Str) (t : Str) : Doc :=
  .union (concatV [.text starter, .text [' '], .nstext t, .text [' ', '*', '/']])
    (concatV ([.text starter, .lineHard, .text leaderStar] ++ (splitSp t).map (commentWord leaderStar)
      ++ [.lineHard, .text [' ', '*', '/']]))

/-- `IntermediateDocumentTokenForPrinting` (180-184). -/
inductive Tok where
  | text (s : Str)
  | nstext (s : Str)
  | line (indent : Nat) (hard : Bool)
  deriving Repr, DecidableEq, Inhabited

def utf8Len (s : Str) : Nat := (s.map Char.utf8Size).sum

def size : Doc → Nat
  | .concat a b => size a + size b + 1
  | .nest _ d => size d + 1
  | .union a b => size a + size b + 1
  | _ => 1

/-- Termination measure of the work list (`DocumentList`). -/
def lsize : List (Nat × Doc) → Nat
  | [] => 0
  | (_, d) :: rest => size d + lsize rest

theorem size_pos (d : Doc) : 0 < size d := by cases d <;> exact Nat.succ_pos _

/-- `generate_best_doc` (192-262). Returns the flag and the collector (which, after `false`,
may contain the failed attempt — the caller truncates it, as in Rust). -/
def genBest (w : Nat) (col : List Tok) (consumed : Nat) (enforce : Bool) :
    List (Nat × Doc) → Bool × List Tok
  | [] => if enforce && decide (consumed > w) then (false, col) else (true, col)
  | (i, d) :: rest =>
    if enforce && decide (consumed > w) then (false, col) else
    match d with
    | .nil => genBest w col consumed enforce rest
    | .concat a b => genBest w col consumed enforce ((i, a) :: (i, b) :: rest)
    | .nest n d' => genBest w col consumed enforce ((i + n, d') :: rest)
    | .text s => genBest w (col ++ [.text s]) (consumed + utf8Len s) enforce rest
    | .nstext s => genBest w (col ++ [.nstext s]) (consumed + utf8Len s) enforce rest
    | .line => genBest w (col ++ [.line i false]) i false rest
    | .lineNil => genBest w (col ++ [.line i false]) i false rest
    | .lineHard => genBest w (col ++ [.line i true]) i false rest
    | .union a b =>
      let r := genBest w col consumed true ((i, a) :: rest)
      if r.1 then r
      else genBest w (r.2.take col.length) consumed enforce ((i, b) :: rest)
termination_by l => lsize l
decreasing_by
  all_goals simp only [lsize, size]
  all_goals omega

/-- `char::is_whitespace` (Unicode `White_Space`), used by `trim_end`. -/
def isWs (c : Char) : Bool :=
  let n := c.toNat
  (9 ≤ n && n ≤ 13) || n == 32 || n == 0x85 || n == 0xA0 || n == 0x1680 ||
  (0x2000 ≤ n && n ≤ 0x200A) || n == 0x2028 || n == 0x2029 || n == 0x202F || n == 0x205F ||
  n == 0x3000

/-- `str::trim_end`. -/
def trimEnd (s : Str) : Str := (s.reverse.dropWhile isWs).reverse

/-- The token loop of `pretty_print` (276-302): state = (string_builder, prev_hard_line). -/
def renderStep (st : Str × Bool) : Tok → Str × Bool
  | .text s => (st.1 ++ s, false)
  | .nstext s => (st.1 ++ s, false)
  | .line indent hard =>
    let sb := if !hard && st.2 then trimEnd st.1 else st.1
    (sb ++ '\n' :: List.replicate indent ' ', hard)

def render (toks : List Tok) : Str := (toks.foldl renderStep ([], false)).1

/-- `str::split('\n')`. -/
def splitNl : Str → List Str
  | [] => [[]]
  | c :: cs =>
    if c = '\n' then [] :: splitNl cs
    else match splitNl cs with
      | [] => [[c]]
      | w :: ws => (c :: w) :: ws

def joinNl : List Str → Str
  | [] => []
  | [x] => x
  | x :: y :: rest => x ++ '\n' :: joinNl (y :: rest)

/-- Lines 304-306: per-line `trim_end`, final `trim_end`, trailing newline unless empty. -/
def post (sb : Str) : Str :=
  let p := trimEnd (joinNl ((splitNl sb).map trimEnd))
  if p.isEmpty then p else p ++ ['\n']

/-- The collector after the top-level call (268-274). -/
def tokens (w : Nat) (d : Doc) : List Tok := (genBest w [] 0 false [(0, d)]).2

/-- `prettier::pretty_print`. -/
def prettyPrint (w : Nat) (d : Doc) : Str := post (render (tokens w d))

/-! ### Valuations: what a reader keeps of a document -/

/-- A *key* says what is kept of a static text leaf and of a non-static text leaf; line breaks and
indentation are never kept. -/
structure Key (α : Type) where
  text : Str → List α
  ns : Str → List α

def Key.tok {α} (k : Key α) : Tok → List α
  | .text s => k.text s
  | .nstext s => k.ns s
  | .line _ _ => []

/-- The content of a document under `k`, reading the preferred (first) branch of each `Union`. -/
def val {α} (k : Key α) : Doc → List α
  | .nil => []
  | .concat a b => val k a ++ val k b
  | .nest _ d => val k d
  | .text s => k.text s
  | .nstext s => k.ns s
  | .line => []
  | .lineNil => []
  | .lineHard => []
  | .union a _ => val k a

/-- Every `Union` in the document offers two branches with the same content under `k`. -/
def Agree {α} (k : Key α) : Doc → Prop
  | .concat a b => Agree k a ∧ Agree k b
  | .nest _ d => Agree k d
  | .union a b => val k a = val k b ∧ Agree k a ∧ Agree k b
  | _ => True

/-- Executable version of `Agree` (used by the driver on the real documents of the printer). -/
def agreeB {α} [DecidableEq α] (k : Key α) : Doc → Bool
  | .concat a b => agreeB k a && agreeB k b
  | .nest _ d => agreeB k d
  | .union a b => decide (val k a = val k b) && agreeB k a && agreeB k b
  | _ => true

/-- Key 1: every non-whitespace character of every text leaf. -/
def nonWs (s : Str) : Str := s.filter (fun c => !isWs c)
def textKey : Key Char := ⟨nonWs, nonWs⟩

/-- Key 2: like `textKey`, but the comment continuation leaders `"// "` and `" * "` (static
leaves inserted by the comment builders at every re-flow point) are not counted. -/
def commentKey : Key Char :=
  ⟨fun s => if s = leaderLine ∨ s = leaderStar then [] else nonWs s, nonWs⟩

/-- Key 3: only the non-static leaves (identifiers, literals, comment words). -/
def nsKey : Key Char := ⟨fun _ => [], nonWs⟩

end SamVerif.Doc
